import TLVerif.Tool.DeconflictLemmas
/-!
# C14 — Every accepted schema yields Go code that builds; generator never panics

Statement (fixed): for every input schema set and generation option set, the Go generator either reports an error or
writes code that compiles together with the runtime library; it never panics, and a schema it rejects is reported
with a message rather than partially written code.

Only the *naming mechanism* (`internal/puregen/deconflicter.go`) is a theorem here: it terminates and hands out pairwise
distinct names that avoid everything already reserved.  "Compiles" is decided by the Go compiler on the explored
schemas (see `checks/C14.py`); the exploration shows that the set of reserved identifiers is too small (known finding:
a field called `string`, `reset`, `readJSON`, … collides with a generated method), which is a defect of the *callers*
of the deconflicter, not of the mechanism proved below.
-/
namespace TLVerif.Props.C14
open TLVerif.Tool

/-- The Go loop has no termination argument in the source; with `n` reserved names it stops after at most `n+1`
probes (pigeonhole), for every name and every state. -/
theorem deconflict_terminates (d : Deconflicter) (s : String) : ∃ r, (d.deconflictName s).1 = some r := by
  obtain ⟨j, hj, _⟩ := deconflictName_spec d s
  exact ⟨_, by rw [hj]⟩

theorem deconflict_fresh (d d' : Deconflicter) (s r : String) (h : d.deconflictName s = (some r, d')) :
    r ∉ d.usedNames ∧ d'.usedNames = r :: d.usedNames := by
  obtain ⟨j, hj, hn, _⟩ := deconflictName_spec d s
  cases hj.symm.trans h
  exact ⟨hn, rfl⟩

/-- It is the *first* free name of the sequence `s, s0, s1, s2, …`. -/
theorem deconflict_first_free (d d' : Deconflicter) (s r : String) (h : d.deconflictName s = (some r, d')) :
    ∃ j, r = candidate s j ∧ ∀ i, i < j → candidate s i ∈ d.usedNames := by
  obtain ⟨j, hj, _, hall⟩ := deconflictName_spec d s
  cases hj.symm.trans h
  exact ⟨j, rfl, hall⟩

theorem deconflict_keeps_free_name (d : Deconflicter) (s : String) (h : s ∉ d.usedNames) :
    (d.deconflictName s).1 = some s := by
  obtain ⟨j, hj, _, hall⟩ := deconflictName_spec d s
  cases j with
  | zero => rw [hj]; rfl
  | succ j => exact absurd (hall 0 (Nat.succ_pos j)) h

/-- **All names handed out by one deconflicter are pairwise distinct and differ from everything reserved before**
(for any sequence of requests, from any state); every request is answered, and what was reserved stays reserved. -/
theorem deconflict_all_distinct (names : List String) : ∀ (d : Deconflicter),
    (∀ o ∈ (d.deconflictAll names).1, o.isSome = true) ∧
    ((d.deconflictAll names).1.filterMap id).Nodup ∧
    (∀ r ∈ (d.deconflictAll names).1.filterMap id, r ∉ d.usedNames) ∧
    (∀ u ∈ d.usedNames, u ∈ (d.deconflictAll names).2.usedNames) := by
  intro d
  fun_induction Deconflicter.deconflictAll d names with
  | case1 => simp
  | case2 d s rest r d1 h1 rs d2 h2 ih =>
    obtain ⟨j, hj, hfresh, _⟩ := deconflictName_spec d s
    cases hj.symm.trans h1
    rw [h2] at ih
    obtain ⟨i1, i2, i3, i4⟩ := ih
    exact ⟨List.forall_mem_cons.mpr ⟨rfl, i1⟩, List.nodup_cons.mpr ⟨fun hm => i3 _ hm List.mem_cons_self, i2⟩,
      List.forall_mem_cons.mpr ⟨hfresh, fun r hr hu => i3 r hr (List.mem_cons_of_mem _ hu)⟩,
      fun u hu => i4 u (List.mem_cons_of_mem _ hu)⟩

/-- Starting from a fresh deconflicter after `FillGolangIdentifies`, no later name equals `Write`, `Read`, `WriteTL2` or `ReadTL2`. -/
theorem names_avoid_golang_identifiers (names : List String) :
    ∀ r ∈ ((Deconflicter.mk []).fillGolangIdentifies.deconflictAll names).1.filterMap id, r ∉ golangIdentifiers := by
  intro r hr hg
  -- the four identifiers are free in the empty deconflicter, hence reserved verbatim
  exact (deconflict_all_distinct names (Deconflicter.mk []).fillGolangIdentifies).2.2.1 r hr
    ((by decide +kernel : ∀ x ∈ golangIdentifiers, x ∈ (Deconflicter.mk []).fillGolangIdentifies.usedNames) r hg)

/-- the hypotheses are satisfiable by a non-trivial state, and the renaming branch is reachable -/
example : ((Deconflicter.mk ["Foo", "Foo0", "Bar"]).deconflictName "Foo").1 = some (candidate "Foo" 2) := by
  decide +kernel

end TLVerif.Props.C14
