import TLVerif.Codec.RandomTerm
import TLVerif.Codec.TL1Example
/-!
# C18 — random value generation yields valid, reproducible values

Model: `TLVerif/Codec/Random.lean` — `basictl.RandGenerator` over an explicit word stream `src : Nat → Nat` (one
64-bit word per `Rand` call) and the generated `FillRandom` methods, driven by the kernel descriptor plus the two
generator decisions `FillRandom` depends on (`FieldX.recursive`, nat-field usage; exported per run by `go/hginfo`).
Tie: `checks/C18.py` (`codec.rnd`).

* `fill_terminates`, `fill_preserves_depth` — for **every** stream: on a reference-closed instance set satisfying the
  decidable guard `Desc.fillGuard` (rank certificate for the references that pass no `IncreaseDepth` site; what is still
  followed once the depth limit is reached — unconditional fields, first variants, tuple elements — is a finite
  recursion: `satFinite`), the driver's recursion budget `fillFuel d` is never exhausted and the generator returns with
  `curDepth`/`maxDepth` exactly as it found them.  Measure: `(maxDepth − curDepth, rank)`, then the `satFinite` depth.
  The `IncreaseDepth` sites assumed by the model are counted in the templates on every run (`increase_sites`, T1).
  `IncreaseDepth` is unconditional in the repository (known finding C18-leak, repaired there: a saturating increase
  followed by the unconditional decrease lowered the depth), so the guard does not exclude nested increase sites at the
  limit: `leak_shape_terminates` is the positive statement for the shape of that finding, `increase_decrease_neutral`
  the one-line reason.
* The full-strength statement `FillAlwaysTerminates` is **false** for the generated code, two ways (reproduced on
  the real code by the check, known findings): `fill_diverges_nonproductive` (L8), `fill_diverges_union`
  (`FillRandom` of a union never calls `IncreaseDepth`).
* `fill_valid` — whatever `FillRandom` returns is accepted by the TL1 writer, bare and boxed (never `.error .shape`,
  never `.error .desc`), under the decidable side conditions `Inst.fillOk`.
* `fill_functional` — the value is a function of the stream (and of nothing else: the model takes no previous object;
  the check compares a fresh and a previously filled object on the implementation).
-/
namespace TLVerif.Props.C18
open TLVerif.Prim TLVerif.Codec TLVerif.Facts

/-! ### T1: side conditions on the constants and template sites extracted from the working tree -/

/-- the weight table of `RandomUint` is cumulative and ends at `1 << probabilityBits` -/
theorem weights_cumulative :
    Rand.w0 ≤ Rand.w1to2 ∧ Rand.w1to2 ≤ Rand.w3to4 ∧ Rand.w3to4 ≤ Rand.w5to8 ∧ Rand.w5to8 ≤ Rand.w9to16 ∧
    Rand.w9to16 ≤ Rand.w17to24 ∧ Rand.w17to24 ≤ Rand.w25to32 ∧ Rand.w25to32 = 2 ^ Rand.probabilityBits := by decide

theorem depth_range : 1 ≤ Rand.minDepth ∧ Rand.minDepth ≤ Rand.maxDepth := by decide

/-- `LimitValue` masks with `limit − 1`: `limit` is a power of two -/
theorem limit_pow2 : Rand.limitValue = 2 ^ 10 := by decide

theorem letters_count : lettersB.length = 64 := by
  rw [lettersB, List.length_map, String.length_toList]
  -- a literal unifies with `String.ofList` of its characters: they are counted, the string is never decoded
  exact String.length_ofList

/-- where the FillRandom templates emit `rg.IncreaseDepth()` / `rg.DecreaseDepth()`: struct (TL2-origin loop + TL1 loop, around
recursive fields), the three bracket shapes, the two dictionary shapes; none in union and maybe — as the model assumes -/
theorem increase_sites :
    Rand.structIncSites = 2 ∧ Rand.structDecSites = 2 ∧ Rand.bracketsIncSites = 3 ∧ Rand.bracketsDecSites = 3 ∧
    Rand.dictIncSites = 2 ∧ Rand.dictDecSites = 2 ∧ Rand.unionIncSites = 0 ∧ Rand.maybeIncSites = 0 := by decide

def FillAlwaysTerminates : Prop :=
  ∀ (d : Desc) (gi : GenInfo) (ty : Nat) (src : Nat → Nat), ∃ fuel, fillRandom d gi fuel ty src ≠ .error .fuel

theorem newRG_depth (src : Nat → Nat) : (newRG src).cur = 0 ∧ 2 ≤ (newRG src).maxDepth ∧ (newRG src).maxDepth ≤ 5 := by
  have h := Nat.mod_lt (src 0 % 18446744073709551616 % 4294967296) (show 0 < Rand.maxDepth - Rand.minDepth + 1 by decide)
  exact ⟨rfl, Nat.le_add_left .., Nat.add_le_of_le_sub (by decide) (Nat.le_of_lt_succ h)⟩

/-- the driver's budget `fillFuel d = (Rand.maxDepth + 3) · (|d| + 1)`, with `Rand.maxDepth = 5` as extracted, covers
`maxDepth ≤ 5` levels of `|d| + 1` and a rank `≤ |d|` -/
theorem fuel_enough {k n r fuel : Nat} (hk : k + 1 ≤ 5) (hr : r ≤ n) (hf : 8 * (n + 1) ≤ fuel) :
    (k + 1) * (n + 1) + r + 1 ≤ fuel := by
  have : (k + 1) * (n + 1) ≤ 5 * (n + 1) := Nat.mul_le_mul_right _ hk
  omega

theorem fillRandom_returns (d : Desc) (gi : GenInfo) (rk : List Nat) (S : Nat → Bool) (hcl : d.closed S = true)
    (hg : d.fillGuard gi rk S = true) (ty : Nat) (hS : S ty = true) (hty : (d.get? ty).isSome = true)
    (fuel : Nat) (hf : fillFuel d ≤ fuel) (src : Nat → Nat) : Returns (fillRandom d gi fuel ty src) (newRG src) := by
  simp only [Desc.fillGuard, Bool.and_eq_true] at hg
  obtain ⟨h0, h1, h2⟩ := newRG_depth src
  obtain ⟨inst, hi⟩ := Option.isSome_iff_exists.mp hty
  obtain ⟨k, hk⟩ : ∃ k, (newRG src).maxDepth = k + 1 := ⟨(newRG src).maxDepth - 1, by omega⟩
  exact fillTL1_term d gi rk S hcl hg.1.1 hg.1.2 hg.2 fuel k ty [] (newRG src) hS (by rw [h0, hk, Nat.zero_add])
    (fuel_enough (hk ▸ h2) (of_decide_eq_true (Desc.allOnI_get hg.1.1 hi hS)) hf)

/-- **C18, termination (partial)**: under the guard, for every stream, any fuel `≥ fillFuel d` is enough, and the
generator returns with `curDepth = 0` -/
theorem fill_terminates (d : Desc) (gi : GenInfo) (rk : List Nat) (S : Nat → Bool) (hcl : d.closed S = true)
    (hg : d.fillGuard gi rk S = true) (ty : Nat) (hS : S ty = true) (hty : (d.get? ty).isSome = true)
    (fuel : Nat) (hf : fillFuel d ≤ fuel) (src : Nat → Nat) :
    fillRandom d gi fuel ty src ≠ .error .fuel ∧
      ∀ v rg', fillRandom d gi fuel ty src = .ok (v, rg') → rg'.cur = 0 :=
  have h := fillRandom_returns d gi rk S hcl hg ty hS hty fuel hf src
  ⟨h.ne_fuel, fun _ _ e => (h.same e).1⟩

/-- **depth discipline**: under the guard, `FillRandom` leaves the generator's depth counters exactly as it found them
(for every stream; nothing to show when the run reports a descriptor fault) -/
theorem fill_preserves_depth (d : Desc) (gi : GenInfo) (rk : List Nat) (S : Nat → Bool) (hcl : d.closed S = true)
    (hg : d.fillGuard gi rk S = true) (ty : Nat) (hS : S ty = true) (hty : (d.get? ty).isSome = true)
    (fuel : Nat) (hf : fillFuel d ≤ fuel) (src : Nat → Nat) (v : Val) (rg' : RG)
    (h : fillRandom d gi fuel ty src = .ok (v, rg')) :
    rg'.cur = (newRG src).cur ∧ rg'.maxDepth = (newRG src).maxDepth :=
  (fillRandom_returns d gi rk S hcl hg ty hS hty fuel hf src).same h

namespace Ex
open TLVerif.Codec.Ex

/-- gengo marks `x` of `loopA x:loopA = LoopA` recursive (a pointer), so `IncreaseDepth` *is* called on every level -/
def loopGi : GenInfo := fun _ _ => { recursive := true }

/-- `zero = Peano; succ a:Peano = Peano;`  0: the union, 1: zero, 2: succ -/
def peanoD : Desc := { insts := #[
  .union { variants := [(1, "zero"), (2, "succ")], elemNatArgs := [], nparams := 0, isEnum := false, isMaybe := false, hasTL2 := false },
  .struct { tag := 0x1, nparams := 0, fields := [], isUnionElement := true, unionIndex := 0 },
  .struct { tag := 0x2, nparams := 0, fields := [ fld "a" 0 (bare := false) ], isUnionElement := true, unionIndex := 1 } ] }

/-- no field of it is recursive for gengo's struct pass: the cycle is broken by a pointer in the *union* -/
def noGi : GenInfo := fun _ _ => {}

/-- the stream that always answers with all bits set -/
def ones : Nat → Nat := fun _ => 18446744073709551615

/-- `leak m:(tuple (tuple int 2) 2) c:(vector leak) = Leak;`  0 int, 1 inner tuple, 2 outer tuple, 3 vector, 4 the struct -/
def leakD : Desc := { insts := #[
  .prim .i32,
  .array { isTuple := true, dynamic := false, count := 2, nparams := 0, elem := fld "" 0, hasTL2 := false },
  .array { isTuple := true, dynamic := false, count := 2, nparams := 0, elem := fld "" 1, hasTL2 := false },
  .array { isTuple := false, dynamic := false, count := 0, nparams := 0, elem := fld "" 4, hasTL2 := false },
  .struct { tag := 0x3, nparams := 0, fields := [ fld "m" 2, fld "c" 3 ] } ] }

/-- generator state with the all-ones stream, `maxDepth = 5` -/
def rgAt (cur pos : Nat) : RG := { maxDepth := 5, cur := cur, src := ones, pos := pos }

end Ex

theorem loop_get : Codec.Ex.loopD.get? 0 = some (.struct { tag := 0x5, nparams := 0, fields := [ Codec.Ex.fld "x" 0 ] }) := rfl

/-- (L8) `loopA x:loopA`: no fuel suffices, for any stream — the recursion draws nothing, raising the depth does not stop it -/
theorem loop_never_fills : ∀ (fuel : Nat) (rg : RG), fillTL1 Codec.Ex.loopD Ex.loopGi fuel 0 [] rg = .error .fuel := by
  intro fuel
  induction fuel with
  | zero => intro rg; rfl
  | succ fuel ih =>
    intro rg
    simp only [fillTL1, loop_get]
    simp [Codec.Ex.fld, fillFieldsWith, fieldPresent, natArgVals, structGx, fillValue, Ex.loopGi, ih]

theorem fill_diverges_nonproductive : ¬ FillAlwaysTerminates := by
  intro h
  obtain ⟨fuel, hf⟩ := h Codec.Ex.loopD Ex.loopGi 0 (fun _ => 0)
  exact hf (loop_never_fills fuel _)

/-- `RandomUint` on the all-ones stream below the depth limit: 32 bits kept, the value is odd -/
theorem randomUint_ones (cur pos : Nat) (h : cur < 5) :
    randomUint (Ex.rgAt cur pos) = (4294967295, Ex.rgAt cur (pos + 2)) := by
  unfold randomUint
  rw [if_neg (by simp only [Ex.rgAt]; omega)]
  have hv : 18446744073709551615 % 18446744073709551616 % 4294967296 %
      2 ^ bitCount (18446744073709551615 % 18446744073709551616 % 4294967296) = 4294967295 := by decide
  simp only [RG.uint32, RG.raw, Ex.rgAt, Ex.ones, hv]

def Ex.peanoU : UnionD :=
  { variants := [(1, "zero"), (2, "succ")], elemNatArgs := [], nparams := 0, isEnum := false, isMaybe := false, hasTL2 := false }

def Ex.peanoSucc : StructD :=
  { tag := 0x2, nparams := 0, fields := [ Codec.Ex.fld "a" 0 (bare := false) ], isUnionElement := true, unionIndex := 1 }

theorem peano_get0 : Ex.peanoD.get? 0 = some (.union Ex.peanoU) := rfl

theorem peano_get2 : Ex.peanoD.get? 2 = some (.struct Ex.peanoSucc) := rfl

/-- recursion through a union never raises the depth: on the all-ones stream `succ` is chosen forever -/
theorem peano_never_fills : ∀ (fuel : Nat),
    (∀ pos, fillTL1 Ex.peanoD Ex.noGi fuel 0 [] (Ex.rgAt 0 pos) = .error .fuel) ∧
    (∀ pos, fillTL1 Ex.peanoD Ex.noGi fuel 2 [] (Ex.rgAt 0 pos) = .error .fuel) := by
  intro fuel
  induction fuel with
  | zero => exact ⟨fun _ => rfl, fun _ => rfl⟩
  | succ fuel ih =>
    refine ⟨?_, ?_⟩
    · intro pos
      simp only [fillTL1, peano_get0, randomUint_ones 0 pos (by decide)]
      simp [Ex.peanoU, natArgVals, ih.2]
    · intro pos
      simp only [fillTL1, peano_get2]
      simp [Ex.peanoSucc, Codec.Ex.fld, fillFieldsWith, fieldPresent, natArgVals, structGx, fillValue, Ex.noGi, ih.1]

theorem newRG_ones : newRG Ex.ones = Ex.rgAt 0 1 := rfl

theorem fill_diverges_union : ¬ FillAlwaysTerminates := by
  intro h
  obtain ⟨fuel, hf⟩ := h Ex.peanoD Ex.noGi 0 Ex.ones
  apply hf
  unfold fillRandom
  rw [newRG_ones]
  exact (peano_never_fills fuel).1 1

/-- an increase followed by a decrease is the identity at every depth, the limit included -/
theorem increase_decrease_neutral (rg : RG) : rg.inc.dec.cur = rg.cur ∧ rg.inc.dec.maxDepth = rg.maxDepth :=
  dec_inc (RG.same_refl rg.inc)

/-- `leak m:(tuple (tuple int 2) 2) c:(vector leak)` — the shape of finding C18-leak — satisfies the guard … -/
theorem leak_shape_guard : Ex.leakD.closed allInsts = true ∧
    Ex.leakD.fillGuard Ex.noGi (Ex.leakD.computeFillRanks Ex.noGi) allInsts = true := by decide +kernel

/-- … hence terminates for every stream, leaving the depth as it was -/
theorem leak_shape_terminates (src : Nat → Nat) (fuel : Nat) (hf : fillFuel Ex.leakD ≤ fuel) :
    fillRandom Ex.leakD Ex.noGi fuel 4 src ≠ .error .fuel ∧
      ∀ v rg', fillRandom Ex.leakD Ex.noGi fuel 4 src = .ok (v, rg') → rg'.cur = 0 :=
  fill_terminates Ex.leakD Ex.noGi _ allInsts leak_shape_guard.1 leak_shape_guard.2 4 rfl rfl fuel hf src

/-- the control, one tuple level less -/
def Ex.okD : Desc := { insts := #[
  .prim .i32,
  .array { isTuple := true, dynamic := false, count := 2, nparams := 0, elem := Codec.Ex.fld "" 0, hasTL2 := false },
  .array { isTuple := false, dynamic := false, count := 0, nparams := 0, elem := Codec.Ex.fld "" 3, hasTL2 := false },
  .struct { tag := 0x4, nparams := 0, fields := [ Codec.Ex.fld "m" 1, Codec.Ex.fld "c" 2 ] } ] }

example : Ex.okD.fillGuard Ex.noGi (Ex.okD.computeFillRanks Ex.noGi) allInsts = true := by decide +kernel
example : Ex.peanoD.allOnI allInsts (Inst.fillRanked Ex.noGi (Ex.peanoD.computeFillRanks Ex.noGi)) = false := by decide +kernel

/-- **C18, validity**: the TL1 writer accepts (bare and boxed) whatever `FillRandom` produced -/
theorem fill_valid (d : Desc) (gi : GenInfo) (S : Nat → Bool) (hcl : d.closed S = true)
    (hok : d.allOnI S (Inst.fillOk d gi) = true) (fuel ty : Nat) (hS : S ty = true) (src : Nat → Nat) (v : Val) (rg' : RG)
    (h : fillRandom d gi fuel ty src = .ok (v, rg')) (bare : Bool) :
    ∃ bs, writeTL1 d (fuel + 1) ty bare [] v = .ok bs :=
  fillTL1_writable d gi S hcl hok fuel ty [] (newRG src) v rg' hS h bare

/-- **C18, reproducibility**: streams that agree at every index give the same result.  This holds of any function of `src`;
what it stands for is in the model: `fillRandom` takes the stream and nothing else (see the header). -/
theorem fill_functional (d : Desc) (gi : GenInfo) (fuel ty : Nat) (src src' : Nat → Nat) (h : ∀ i, src i = src' i) :
    fillRandom d gi fuel ty src = fillRandom d gi fuel ty src' := by
  have : src = src' := funext h
  rw [this]

/-- the guards are satisfiable by a recursive type: `list flag:# head:flag.0?int tail:flag.0?list` with `tail` marked
recursive (instances: 0 `#`, 1 `int`, 2 the struct) -/
def listD : Desc := { insts := #[ .prim .u32, .prim .i32,
  .struct { tag := 0x7, nparams := 0, fields := [ Codec.Ex.fld "flag" 0, Codec.Ex.fld "head" 1 (mask := some (.field 0, 0)),
    Codec.Ex.fld "tail" 2 (mask := some (.field 0, 0)) ] } ] }

def listGi : GenInfo := fun ty i =>
  if ty = 2 ∧ i = 0 then { usedAsMask := true, usedBits := 1 } else if ty = 2 ∧ i = 2 then { recursive := true } else {}

example : listD.closed allInsts = true ∧ listD.fillGuard listGi (listD.computeFillRanks listGi) allInsts = true ∧
    listD.allOnI allInsts (Inst.fillOk listD listGi) = true := by decide +kernel

end TLVerif.Props.C18
