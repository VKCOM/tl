import TLVerif.Prim.TL1StringLemmas
import TLVerif.Prim.TL2SizeLemmas
/-!
# C33 — TL primitive codecs are exact

All statements are about the model of `pkg/basictl` in `TLVerif/Prim/TL1String.lean` and `TL2Size.lean`, instantiated
with the constants extracted from the repository on this run (`Generated/PrimFacts.lean`).
-/
namespace TLVerif.Props.C33
open TLVerif.Prim TLVerif.Facts.Prim

/-- Every string shorter than 2^56 is written (no panic). -/
theorem string_write_total (s : Bytes) (h : s.length ≤ maxHugeStringLen) :
    ∃ bs, stringWrite s = some bs := Prim.string_write_total s h

/-- Written strings read back exactly, consuming exactly the written bytes (any suffix is left). -/
theorem string_roundtrip (s rest bs : Bytes) (h : stringWrite s = some bs) :
    stringRead (bs ++ rest) = .ok (s, rest) := Prim.string_roundtrip s rest bs h

/-- The reader accepts *only* canonical encodings: whatever it accepts is byte-for-byte the writer's
output for the decoded value, followed by the unread rest. This contains "non-minimal length forms
are rejected" and "non-zero padding is rejected". -/
theorem string_read_canonical (r s rest : Bytes) (h : stringRead r = .ok (s, rest)) :
    ∃ bs, stringWrite s = some bs ∧ r = bs ++ rest := Prim.string_read_canonical r s rest h

theorem string_truncation_eof (s bs : Bytes) (n : Nat) (h : stringWrite s = some bs) (hn : n < bs.length) :
    stringRead (bs.take n) = .error .eof := Prim.string_truncation_eof s bs n h hn

/-- Documented layout: total length is a multiple of four. -/
theorem string_write_aligned (s bs : Bytes) (h : stringWrite s = some bs) : bs.length % 4 = 0 :=
  Prim.string_write_aligned s bs h

/-- Documented layout of the three header forms (lengths and markers), over the extracted constants. -/
theorem string_header_layout (l : Nat) :
    (l ≤ 253 → stringWriteLen l = some ([byteOf l], (l + 1) % 4)) ∧
    (253 < l → l < 2^24 → stringWriteLen l = some ([254, byteOf l, byteOf (l >>> 8), byteOf (l >>> 16)], l % 4)) ∧
    (2^24 ≤ l → l < 2^56 → stringWriteLen l = some ([255, byteOf l, byteOf (l >>> 8), byteOf (l >>> 16),
        byteOf (l >>> 24), byteOf (l >>> 32), byteOf (l >>> 40), byteOf (l >>> 48)], l % 4)) :=
  ⟨stringWriteLen_tiny, fun h1 h2 => stringWriteLen_medium h1 h2,
    fun h1 h2 => (stringWriteLen_huge h1 h2).trans (by simp only [LE.ofNat, ← Nat.shiftRight_add])⟩

theorem tl2_size_roundtrip (l : Nat) (rest : Bytes) (h : l < 2^63) :
    tl2ParseSize (tl2WriteSize l ++ rest) = .ok (l, rest) := Prim.tl2_size_roundtrip l rest h

/-- The non-minimal (huge) form is accepted for every length. -/
theorem tl2_huge_form_accepted (l : Nat) (rest : Bytes) (h : l < 2^63) :
    tl2ParseSize (byteOf hugeStringMarker :: le64 l ++ rest) = .ok (l, rest) :=
  Prim.tl2_huge_form_accepted l rest h

/-- `TL2PutSize`, `TL2CalculateSize` and `TL2WriteSize` agree. -/
theorem tl2_put_calc_write_agree (l : Nat) :
    (tl2PutSize l).1 = tl2WriteSize l ∧ (tl2PutSize l).2 = (tl2WriteSize l).length ∧
    tl2CalculateSize l = (tl2WriteSize l).length :=
  ⟨by rw [tl2PutSize_eq], by rw [tl2PutSize_eq, tl2_calc_eq_len], tl2_calc_eq_len l⟩

/-- Documented layout of the three size forms. -/
theorem tl2_size_layout (l : Nat) :
    (l < 254 → tl2WriteSize l = [byteOf l]) ∧
    (254 ≤ l → l < 254 + 65536 → tl2WriteSize l = [254, byteOf (l - 254), byteOf ((l - 254) >>> 8)]) ∧
    (254 + 65536 ≤ l → tl2WriteSize l = 255 :: le64 l) :=
  ⟨tl2WriteSize_tiny, fun h1 h2 => tl2WriteSize_medium h1 h2,
    fun h => (tl2WriteSize_huge h).trans (by rw [le64_eq])⟩

theorem tl2_size_truncation_eof (l n : Nat) (hn : n < (tl2WriteSize l).length) :
    tl2ParseSize ((tl2WriteSize l).take n) = .error .eof := Prim.tl2_size_truncation_eof l n hn

theorem string_tl2_roundtrip (s rest : Bytes) (h : s.length < 2^63) :
    stringReadTL2 (stringWriteTL2 s ++ rest) = .ok (s, rest) := Prim.string_tl2_roundtrip s rest h

/-- Bit vectors unpack to the same values, consuming exactly the written bytes. The reader's
definition (`unpackBlock`: element `j` of a block is bit `j` of its byte) *is* the documented
LSB-first layout, so this also states that the writer follows it. -/
theorem bits_roundtrip (v : List Bool) (rest : Bytes) :
    bitsRead v.length (bitsWrite v ++ rest) = .ok (v, rest) := Prim.bits_roundtrip v rest

/-- 8 values per byte. -/
theorem bits_write_length (v : List Bool) : (bitsWrite v).length = (v.length + 7) / 8 :=
  Prim.bits_write_length v

/-- Bit `j` of a packed block is element `j` (least significant bit first). -/
theorem bits_lsb_first (v : List Bool) (j : Nat) (hj : j < v.length) :
    ((packBlock v >>> j) % 2 == 1) = v[j] := (Prim.packBlock_spec v).2 j hj

example : stringWrite [1, 2, 3, 4, 5] = some [5, 1, 2, 3, 4, 5, 0, 0] := by decide
example : stringRead [5, 1, 2, 3, 4, 5, 0, 0, 9] = .ok ([1, 2, 3, 4, 5], [9]) := by rfl
example : stringRead [5, 1, 2, 3, 4, 5, 0, 1, 9] = .error .padding := by rfl
example : stringRead [254, 5, 0, 0, 1, 2, 3, 4, 5, 0, 0, 0] = .error .noncanon := by rfl

end TLVerif.Props.C33
