import TLVerif.Packet.ConnLemmas
import TLVerif.Packet.ToyEnv
import TLVerif.Packet.CrcLemmas
/-!
# C35 — Packet stream framing round-trips and detects corruption

The property theorems (the lemmas they are assembled from live in `TLVerif/Packet/*Lemmas.lean`).  All statements are about the model
of `pkg/rpc/packetconn.go` + `crypto.go` in `TLVerif/Packet/{Basic,Reader,Script}.lean`, over the constants
extracted from the repository on this run (`Generated/PacketFacts.lean`), for an arbitrary environment `e : Env`
(two CRC functions, a keyed block map); what is needed from the environment is an explicit hypothesis.

Vocabulary: a *history* is a list of `Step`s (mode changes made by both ends just before a packet, the packet,
how it is flushed); `flat` turns it into the flat script the driver and the harness execute; `finalW` runs the
writer model on it and flushes; `WState.wire` are the bytes on the connection; `readLoop (chunkSrc e)` is the
reading loop over the model of `cryptoReader` fed with an arbitrary list of chunks; `schedOfOps` tells the reading
end when to make the mode changes (after as many packets as the writer had written).
-/
namespace TLVerif.Props.C35
open TLVerif.Packet TLVerif.Facts.Packet

/-- **frames_roundtrip (unencrypted).** For every history without encryption switch that the reading side can
accept (`StepsOK`: sizes, handshake packet types for the first two packets, no pong), from every injected start
state, the writer model succeeds, and for EVERY segmentation `cs` of the wire bytes the reading loop returns exactly
the written packets (types and bodies, in order; valid pings as pings) followed by a clean EOF. -/
theorem frames_roundtrip_plain (e : Env) (n0 : Nat) (m0 : Mode) (hm0 : m0.enc = false) (ss : List Step)
    (hok : StepsOK e (freshW n0 m0) ss) (hne : NoEncSteps ss) (f : Nat) :
    ∃ wf, finalW e (flat ss) (freshW n0 m0) = some wf ∧
      ∀ cs : List Bytes, cs.flatten = wf.wire e →
        readLoop (chunkSrc e) e (schedOfOps e (flat ss) (freshW n0 m0)) (ss.length + (f + 1)) ⟨n0, m0⟩ { chunks := cs } =
          (ss.map stepEv, some .eof) :=
  ⟨_, roundtrip e n0 m0 hm0 ss hok (.inl hne) _ (by omega)⟩

/-- **frames_roundtrip (with the encrypted handshake).** `pre` is exchanged in the clear; just before the packet
of `es` both ends turn AES-CBC on (key, IV); `post` follows. Under the block-cipher law (`dec k (enc k b) = b` on
blocks) the wire is the clear prefix followed by the CBC encryption of the padded rest, and for EVERY segmentation
of it the reading loop (which decrypts whole blocks as they arrive) returns exactly the written packets. -/
theorem frames_roundtrip_encrypted (e : Env) (he : e.CipherOK) (n0 : Nat) (m0 : Mode) (hm0 : m0.enc = false)
    (pre : List Step) (es : EncStep) (post : List Step)
    (hok : StepsOK e (freshW n0 m0) (pre ++ es.step :: post))
    (hpre : NoEncSteps pre) (h1 : NoEnc es.ms1) (h2 : NoEnc es.ms2) (hpost : NoEncSteps post) (f : Nat) :
    ∃ wf, finalW e (flat (pre ++ es.step :: post)) (freshW n0 m0) = some wf ∧
      wf.wire e = stepsBytes e (freshW n0 m0) pre ++ cbcEnc e es.key es.iv (encTail e (freshW n0 m0) pre es post) ∧
      ∀ cs : List Bytes, cs.flatten = wf.wire e →
        readLoop (chunkSrc e) e (schedOfOps e (flat (pre ++ es.step :: post)) (freshW n0 m0))
            (pre.length + ((post.length + (f + 1)) + 1)) ⟨n0, m0⟩ { chunks := cs } =
          ((pre ++ es.step :: post).map stepEv, some .eof) := by
  -- `hpre` and `h1` are not used: `hok` already admits no second switch (`StepsOK.split`), and the description of
  -- the wire needs `h2` and `hpost` only
  obtain ⟨hf, hr⟩ := roundtrip e n0 m0 hm0 _ hok (.inr he) (pre.length + ((post.length + (f + 1)) + 1))
    (by rw [List.length_append, List.length_cons]; omega)
  exact ⟨_, hf, (wire_enc e n0 m0 hm0 pre es post hok h2 hpost).1, hr⟩

/-- **chunk_invariant.** For ANY byte stream (well-formed or not), any schedule of mode changes and any reader
state, the result of the reading loop is a function of the concatenation of the chunks. The side condition
concerns only a reader that has read nothing yet: the stream it is about to parse must not start with one of the
four memcached commands (which `readFullOrMagic` recognises per `Read`; see `chunk_dependence_magic`). -/
theorem chunk_invariant (e : Env) (sched : Nat → List ModeOp) (fuel : Nat) (st : RState) (cs₁ cs₂ : List Bytes)
    (hcs : cs₁.flatten = cs₂.flatten)
    (hQ : st.n = 0 → ∀ r, applyModeOps (pureSrc e) st cs₁.flatten (sched st.n) = some r → NoMagic r.2) :
    readLoop (chunkSrc e) e sched fuel st { chunks := cs₁ } = readLoop (chunkSrc e) e sched fuel st { chunks := cs₂ } :=
  Packet.chunk_invariant e sched fuel st cs₁ cs₂ hcs hQ

/-- The chunked, decrypt-as-it-arrives reader refines the reader over the whole remaining decrypted stream. -/
theorem reader_refines_stream (e : Env) (sched : Nat → List ModeOp) (fuel : Nat) (st : RState) (cs : List Bytes)
    (hQ : st.n = 0 → ∀ r, applyModeOps (pureSrc e) st cs.flatten (sched st.n) = some r → NoMagic r.2) :
    readLoop (chunkSrc e) e sched fuel st { chunks := cs } = readLoop (pureSrc e) e sched fuel st cs.flatten :=
  readLoop_chunk_eq_pure e sched fuel st (CRelB_init e cs _) hQ

/-- The memcached special case really is chunk dependent (outside the property: a packet writer never
produces such a stream: its first packet is at most `maxNonceHandshakeLen` bytes long, so the third byte of the stream is 0). -/
theorem chunk_dependence_magic (e : Env) :
    readLoop (chunkSrc e) e (fun _ => []) 1 {} { chunks := [[115, 116, 97, 116, 115, 10], [0, 0, 0, 0, 0, 0]] } ≠
    readLoop (chunkSrc e) e (fun _ => []) 1 {} { chunks := [[115, 116, 97, 116, 115, 10, 0, 0, 0, 0, 0, 0]] } := by
  -- the first evaluates to `([], some .eof)` ("stats\n" answered as a memcached command), the second to `([], some .size)`
  intro h
  cases h

theorem word_roundtrip (n : Nat) (rest : Bytes) : word (le32 n ++ rest) = n % 4294967296 :=
  Packet.word_le32 n rest

theorem cbc_roundtrip (e : Env) (he : e.CipherOK) (k iv p : Bytes) (hiv : iv.length = blockSize)
    (hp : p.length % blockSize = 0) : cbcDec e k iv (cbcEnc e k iv p) = p :=
  cbcDec_cbcEnc e k he iv p hiv hp

/-- The writer never leaves the model on an admissible history (in particular `FlushUnlocked` never needs more
than the 12 constant padding bytes), and the logical plaintext stream grows by exactly the frames and paddings. -/
theorem writer_total (e : Env) (w : WState) (ss : List Step) (hok : StepsOK e w ss) (hi : EInv w) :
    runW e (flat ss) w = some (wSteps e w ss) ∧ (wSteps e w ss).L = w.L ++ stepsBytes e w ss :=
  (runW_steps e w ss hok hi).imp_right And.left

/-- **accepted_packet_has_valid_crc_and_seq.** Whatever the reader accepts from a (decrypted) stream is, after at
most three crypto padding words (none before the first packet), byte for byte the writer's frame for the delivered
type and body in the reader's current state: length word = body length + overhead, sequence word = the expected
sequence number, CRC (current table) of header and body, zero alignment; followed by the unread rest. Conversely
(`frame_accepted`) every such frame is accepted. -/
theorem accepted_packet_has_valid_crc_and_seq (e : Env) (st : RState) (t : Bytes) (ev : Ev) (st1 : RState) (rest : Bytes)
    (hr : readPacket (pureSrc e) e st t = .ok (ev, st1, rest)) :
    ∃ j tip body, j ≤ 3 ∧ (st.n = 0 → j = 0) ∧
      t = padWords j ++ (le32 (body.length + packetOverhead) ++ le32 (seqWord st.n) ++ le32 tip ++ body ++
            le32 (e.crc st.mode (le32 (body.length + packetOverhead) ++ le32 (seqWord st.n) ++ le32 tip ++ body)) ++
            zeros (alignOf st.mode body.length) ++ rest) ∧
      ev = evOf tip body ∧ st1 = { st with n := st.n + 1 } ∧ PktOK st tip body := by
  obtain ⟨j, tip, body, h1, h2, rfl, h⟩ := readPacket_accepts e st t ev st1 rest hr
  exact ⟨j, tip, body, h1, h2, by simp [frame, header, List.append_assoc], h⟩

theorem frame_accepted (e : Env) (st : RState) (j tip : Nat) (body rest : Bytes) (h : PktOK st tip body)
    (hj : j ≤ 3) (hj0 : st.n = 0 → j = 0) :
    readPacket (pureSrc e) e st (padWords j ++ (frame e st.mode st.n tip body ++ rest)) =
      .ok (evOf tip body, { st with n := st.n + 1 }, rest) :=
  readPacket_frame e st j tip body rest h hj hj0

/-- A frame with any single byte after the length word changed is never accepted (at the level of the decrypted
stream, both modes), provided the checksum detects single-byte changes. -/
theorem flipped_frame_rejected (e : Env) (hc : e.CrcDetects) (st : RState) (tip : Nat) (body rest : Bytes) (i : Nat)
    (y : UInt8) (hlen : body.length ≤ maxPacketLen - packetOverhead) (hi4 : 4 ≤ i)
    (hi : i < (frame e st.mode st.n tip body).length) (hy : y ≠ (frame e st.mode st.n tip body)[i]) :
    ∃ er, readPacket (pureSrc e) e st ((frame e st.mode st.n tip body).set i y ++ rest) = .error er := by
  have ho := overhead_eq; have hp := padVal_eq
  cases hr : readPacket (pureSrc e) e st ((frame e st.mode st.n tip body).set i y ++ rest) with
  | error er => exact ⟨er, rfl⟩
  | ok r =>
    exfalso
    obtain ⟨ev, st1, rest'⟩ := r
    obtain ⟨j, tip', body', hj, _, ht, _, _, hok'⟩ := readPacket_accepts e st _ ev st1 rest' hr
    -- the length word is untouched
    have ht4 : ((frame e st.mode st.n tip body).set i y ++ rest).take 4 = le32 (body.length + packetOverhead) := by
      rw [List.take_append_of_le_length (by rw [List.length_set]; omega), List.take_set_of_le hi4]
      rfl
    cases j with
    | succ j' =>
      rw [ht, padWords_succ] at ht4
      have : (le32 padVal ++ padWords j' ++ (frame e st.mode st.n tip' body' ++ rest')).take 4 = le32 padVal := rfl
      rw [this] at ht4
      have := le32_inj (by decide) (len_lt _ hlen) ht4
      omega
    | zero =>
      simp only [padWords, List.replicate_zero, List.flatten_nil, List.nil_append] at ht
      have hleq : body'.length = body.length := by
        rw [ht, frame_take4] at ht4
        have := le32_inj (len_lt _ hok'.1) (len_lt _ hlen) ht4
        omega
      exact frame_set_ne e hc st.mode st.n tip tip' body body' i y hleq hi hy
        (List.append_inj ht (by rw [List.length_set, frame_length, frame_length, hleq])).1

/-- **corrupt_detected_partial.** Unencrypted history `A ++ s :: B` (not starting at the very first packet of the
connection unless `A` is non-empty); on the wire, one byte of the frame of `s` outside its length word is changed.
Then for EVERY segmentation of the corrupted bytes the reader delivers exactly the packets of `A`, intact and in
order, and stops with an error at the corrupted packet. Hypothesis: the checksum detects single-byte changes.

Full-strength statement (NOT a theorem, see `corrupt_detected_full`): the same for a change in the length word,
and for any changed ciphertext byte of an AES-CBC stream. There the reader compares a CRC over a different span /
over a garbled block, and acceptance is not excluded by any property of CRC-32: it is detected with probability
1 - 2^-32 only. Explored by the correspondence run, not proved. -/
theorem corrupt_detected_partial (e : Env) (hc : e.CrcDetects) (n0 : Nat) (m0 : Mode) (hm0 : m0.enc = false)
    (A : List Step) (s : Step) (B : List Step)
    (hok : StepsOK e (freshW n0 m0) (A ++ s :: B)) (hne : NoEncSteps (A ++ s :: B)) (hpos : n0 + A.length ≠ 0)
    (i : Nat) (y : UInt8) (hi4 : 4 ≤ i)
    (hi : i < (frame e (wModes (wSteps e (freshW n0 m0) A) s.modes).mode (wSteps e (freshW n0 m0) A).n s.tip s.body).length)
    (hy : y ≠ (frame e (wModes (wSteps e (freshW n0 m0) A) s.modes).mode (wSteps e (freshW n0 m0) A).n s.tip s.body)[i]) :
    ∃ wf, finalW e (flat (A ++ s :: B)) (freshW n0 m0) = some wf ∧
      ∃ er, ∀ (cs : List Bytes) (f : Nat),
        cs.flatten = (wf.wire e).set ((stepsBytes e (freshW n0 m0) A).length + i) y →
        readLoop (chunkSrc e) e (schedOfOps e (flat (A ++ s :: B)) (freshW n0 m0)) (A.length + (f + 1)) ⟨n0, m0⟩
            { chunks := cs } = (A.map stepEv, some er) := by
  have hi0 := EInv_fresh n0 m0 hm0
  obtain ⟨hs1, -⟩ := sched_steps e _ _ hok hi0
  obtain ⟨hokA, hms, hps, hokB⟩ := (StepsOK_append e (freshW n0 m0) A (s :: B)).1 hok
  have hneA : NoEncSteps A := fun x hx => hne x (by simp [hx])
  have hnes : NoEnc s.modes := hne s (by simp)
  let wA := wSteps e (freshW n0 m0) A
  have hencA : wA.mode.enc = false := (wSteps_enc e _ A hneA).trans hm0
  let F := frame e (wModes wA s.modes).mode wA.n s.tip s.body
  let R := stepsBytes e (wStep e wA s) B
  have hwire : (wFlush (wSteps e (freshW n0 m0) (A ++ s :: B))).wire e = stepsBytes e (freshW n0 m0) A ++ (F ++ R) := by
    rw [wire_plain e n0 m0 hm0 _ hok hne, stepsBytes_append]
    show _ ++ (stepBytes e wA s ++ R) = _
    rw [stepBytes, jStep_noenc e wA s hnes hencA]
    simp [padWords, F]
  obtain ⟨er, her⟩ := flipped_frame_rejected e hc ⟨wA.n, (wModes wA s.modes).mode⟩ s.tip s.body R i y hps.1 hi4 hi hy
  refine ⟨_, (final_flush e _ _ hok hi0).1, er, fun cs f hcs => ?_⟩
  rw [hwire, List.set_append, if_neg (by omega), Nat.add_sub_cancel_left, List.set_append, if_pos hi] at hcs
  have hss : schedOfOps e (flat (A ++ s :: B)) (freshW n0 m0) wA.n = s.modes := by
    rw [show wA.n = (freshW n0 m0).n + A.length from wSteps_n e _ A]
    exact hs1.right.head
  refine readLoop_chunk_of_pure e ?_ fun h0 => ?_
  · -- the whole-stream reader: the packets of `A`, then the corrupted frame
    have hX : readLoop (pureSrc e) e (schedOfOps e (flat (A ++ s :: B)) (freshW n0 m0)) (f + 1) ⟨wA.n, wA.mode⟩
        (F.set i y ++ R) = ([], some er) := by
      simp only [readLoop, hss, applyModeOps_noenc hnes]
      rw [show readPacket (pureSrc e) e _ (F.set i y ++ R) = .error er from her]
    rw [hcs, ← List.append_nil (A.map stepEv)]
    exact read_steps e _ A (freshW n0 m0) 0 _ _ _ _ hi0 hokA hneA (PadOK_zero hm0) hs1.left
      fun j' hj' => by rw [hj'.clear hencA]; exact hX
  · cases A with
    | nil => exact absurd (by simpa using h0) hpos
    | cons a A' => exact List.cons_ne_nil _ _

/-- The checksum hypothesis holds for the executable bitwise CRC-32 (IEEE and Castagnoli polynomials) that the model
driver runs and that the correspondence run compares with `hash/crc32` byte for byte. -/
theorem real_crc_detects : realEnv.CrcDetects := Packet.real_crc_detects

/-- `corrupt_detected_partial` for the driver's environment, with no hypothesis left about the checksum. -/
theorem corrupt_detected_real (n0 : Nat) (m0 : Mode) (hm0 : m0.enc = false)
    (A : List Step) (s : Step) (B : List Step)
    (hok : StepsOK realEnv (freshW n0 m0) (A ++ s :: B)) (hne : NoEncSteps (A ++ s :: B)) (hpos : n0 + A.length ≠ 0)
    (i : Nat) (y : UInt8) (hi4 : 4 ≤ i)
    (hi : i < (frame realEnv (wModes (wSteps realEnv (freshW n0 m0) A) s.modes).mode (wSteps realEnv (freshW n0 m0) A).n s.tip s.body).length)
    (hy : y ≠ (frame realEnv (wModes (wSteps realEnv (freshW n0 m0) A) s.modes).mode (wSteps realEnv (freshW n0 m0) A).n s.tip s.body)[i]) :
    ∃ wf, finalW realEnv (flat (A ++ s :: B)) (freshW n0 m0) = some wf ∧
      ∃ er, ∀ (cs : List Bytes) (f : Nat),
        cs.flatten = (wf.wire realEnv).set ((stepsBytes realEnv (freshW n0 m0) A).length + i) y →
        readLoop (chunkSrc realEnv) realEnv (schedOfOps realEnv (flat (A ++ s :: B)) (freshW n0 m0)) (A.length + (f + 1))
            ⟨n0, m0⟩ { chunks := cs } = (A.map stepEv, some er) :=
  corrupt_detected_partial realEnv Packet.real_crc_detects n0 m0 hm0 A s B hok hne hpos i y hi4 hi hy

/-- The full-strength corruption statement, kept visible: every single-byte change of the wire after the handshake,
in any mode, is reported as an error. It is *not* provable from `CrcDetects` (length word, CBC ciphertext). -/
def corrupt_detected_full (e : Env) : Prop :=
  ∀ (ops : List Op) (n0 : Nat) (m0 : Mode) (wf : WState) (k : Nat) (y : UInt8) (cs : List Bytes) (fuel : Nat),
    2 ≤ n0 → finalW e ops (freshW n0 m0) = some wf → (hk : k < (wf.wire e).length) → y ≠ (wf.wire e)[k] →
    cs.flatten = (wf.wire e).set k y →
    (readLoop (chunkSrc e) e (schedOfOps e ops (freshW n0 m0)) fuel ⟨n0, m0⟩ { chunks := cs }).2 ≠ some .eof

example : toyEnv.CipherOK ∧ toyEnv.CrcDetects := ⟨toy_cipher, toy_crc⟩

def exampleKey : Bytes := List.replicate 32 7
def exampleIv : Bytes := List.replicate 16 9
def examplePre : List Step := [{ tip := packetTypeRPCNonce, body := [1, 2, 3, 4] }]
def exampleEnc : EncStep :=
  { ms1 := [.setProto 1], key := exampleKey, iv := exampleIv, ms2 := [], tip := packetTypeRPCHandshake, body := [5, 6, 7, 8, 9] }
def examplePost : List Step :=
  [{ modes := [.setCrcC], flush := false, tip := 77, body := [1, 2, 3] }, { tip := 78, body := [], extra := 2 }]

/-- a handshake-shaped history: nonce in the clear, then protocol 1 + AES on + handshake packet + CRC32-C,
then two data packets (one not flushed, one odd-sized) -/
example : StepsOK toyEnv (freshW 0 {}) (examplePre ++ exampleEnc.step :: examplePost) ∧
    NoEncSteps examplePre ∧ NoEnc exampleEnc.ms1 ∧ NoEnc exampleEnc.ms2 ∧ NoEncSteps examplePost := by
  refine ⟨?_, ?_, ?_, ?_, ?_⟩
  · simp only [examplePre, examplePost, exampleEnc, EncStep.step, List.cons_append, List.nil_append, StepsOK, ModesOK,
      ModeOK, and_true, true_and]
    decide
  · simp [NoEncSteps, NoEnc, examplePre]
  · simp [NoEnc, exampleEnc, ModeOp.isEnc]
  · simp [NoEnc, exampleEnc]
  · simp [NoEncSteps, NoEnc, examplePost, ModeOp.isEnc]

end TLVerif.Props.C35
