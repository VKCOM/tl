import TLVerif.Udp.SysLemmas
import TLVerif.Udp.ReleaseLemmas
import TLVerif.Udp.ResendLemmas
/-!
# C36 (modelled part) — exactly-once, in-order, intact delivery of the sliding-window protocol

Theorems about the executable model `TLVerif/Udp/Window.lean` of the message-level logic of
pkg/rpc/udp/incoming.go (`receiveMessageChunk`, `moveWindowPrefix`, stream-like hand-over) and
outgoing.go (`AckChunk`, `AckPrefix`, `ackFrontChunk`, `unrefMessage` reference counting), composed with a network that
loses, duplicates and reorders datagrams.  The model is tied to the Go code differentially
(`udp.rcv` / `udp.snd` case lines drive one real `IncomingConnection` / `OutgoingConnection`).

Not modelled: timers; in the composed system `Sys` the sender may send *any* unacknowledged chunk of
its window at any time (which covers every policy of `GetChunksToSend`); `GetChunksToSend` itself, with
the send cursors, `OnResendTimeout` and the peer's resend request, is modelled separately in
`Udp/Resend.lean` (`SendX`) and tied through `udp.snd` lines; memory limits (a chunk refused for lack of memory
behaves like a lost datagram), datagram packing, encryption, handshake, restarts, 32-bit wrap-around of sequence numbers.
-/
namespace TLVerif.Props.C36Window
open TLVerif.Udp

/-- **Receiver characterisation.** After *any* sequence of arrivals (any order, duplicates, gaps,
numbers beyond the stream) the receive prefix is exactly the first sequence number that has not
arrived, and what has been handed over is exactly what an in-order reader of the chunk stream hands
over up to that prefix. -/
theorem recv_characterisation (chunks : List Chunk) (arrivals : List Nat) :
    let r := recvRun chunks arrivals
    (∀ i, i < r.ackPrefix → i ∈ arrivals) ∧
    (r.ackPrefix < chunks.length → r.ackPrefix ∉ arrivals) ∧
    r.ackPrefix ≤ chunks.length ∧
    (r.cur, r.delivered) = scan (chunks.take r.ackPrefix) := by
  intro r
  obtain ⟨arr, hm, hinv⟩ := recvRun_inv chunks arrivals
  exact ⟨fun i hi => ((hm i).mp (hinv.below hi)).1,
    fun hlt hmem => hinv.prefix_not_arrived ((hm _).mpr ⟨hmem, hlt⟩), hinv.le, hinv.scn⟩

/-- **Exactly once, in order, intact (receiver).** Whatever arrives in whatever order, the messages
handed over are a prefix of the submitted message stream: no message twice, none out of order, none
altered, none invented. -/
theorem recv_delivers_prefix (msgs : List (List Payload)) (hne : ∀ m ∈ msgs, m ≠ []) (arrivals : List Nat) :
    ∃ k, (recvRun (chunksOf msgs) arrivals).delivered = (msgs.map List.flatten).take k :=
  let ⟨_, _, hinv⟩ := recvRun_inv (chunksOf msgs) arrivals
  hinv.delivered_prefix hne

/-- **Completeness (receiver).** Once every chunk has arrived at least once, every message has been
handed over. -/
theorem recv_complete (msgs : List (List Payload)) (hne : ∀ m ∈ msgs, m ≠ []) (arrivals : List Nat)
    (hall : ∀ s, s < (chunksOf msgs).length → s ∈ arrivals) :
    (recvRun (chunksOf msgs) arrivals).delivered = msgs.map List.flatten ∧
    (recvRun (chunksOf msgs) arrivals).cur = [] := by
  obtain ⟨arr, hm, hinv⟩ := recvRun_inv (chunksOf msgs) arrivals
  exact hinv.complete hne fun s hs => (hm s).mpr ⟨hall s hs, hs⟩

theorem recv_prefix_monotone (chunks : List Chunk) (arrivals : List Nat) (s : Nat) :
    (recvRun chunks arrivals).ackPrefix ≤ (recvRun chunks (arrivals ++ [s])).ackPrefix := by
  obtain ⟨arr, _, hinv⟩ := recvRun_inv chunks arrivals
  show _ ≤ ((arrivals ++ [s]).foldl (arrive chunks) {}).ackPrefix
  rw [List.foldl_append]
  exact arrive_mono s hinv

/-- `AckChunk` and `AckPrefix` never move the acknowledged prefix backwards, never change the end of
the window, and mark as acknowledged only what the acknowledgement names. -/
theorem send_ack_sound (s : Send) (seq p : Nat) :
    (s.ackPrefix ≤ (s.ackChunk seq).ackPrefix ∧ (s.ackChunk seq).nextSeq = s.nextSeq ∧
      ∀ q, (s.ackChunk seq).acked q → s.acked q ∨ q = seq) ∧
    (s.ackPrefix ≤ (s.ackPrefixTo p).ackPrefix ∧ (s.ackPrefixTo p).nextSeq = s.nextSeq ∧
      ∀ q, (s.ackPrefixTo p).acked q → s.acked q ∨ q < p) := by
  have a := (ackChunk_moves (P := (· = seq)) s rfl).ackStep
  have b := (ackPrefixTo_moves s p).ackStep
  exact ⟨⟨a.pfx, a.next, a.acked⟩, ⟨b.pfx, b.next, b.acked⟩⟩

/-- **Outgoing message buffers are released exactly once, exactly when fully acknowledged.** After any
sequence of slicing / `AckChunk` / `AckPrefix` operations, the list of messages handed to the
deallocator has no duplicates, and a message is in it iff it was sliced and none of its chunks is left
in the window. -/
theorem send_release_exactly_once (ops : List SOp) :
    (sendRun ops).released.Nodup ∧
    ∀ m, m ∈ (sendRun ops).released ↔ (m < (sendRun ops).nextMsg ∧ cnt (sendRun ops).window m = 0) :=
  ⟨(sendRun_relInv ops).nodup, (sendRun_relInv ops).rel⟩

/-- **A datagram carries consecutive sequence numbers.** A datagram only transmits its first sequence
number and a count, so the chunks `GetChunksToSend` (model: `SendX.getChunks`, Udp/Resend.lean — resend
ranges requested by the peer first, then timed-out / fresh chunks) collects must be numbered
`f, f+1, …`.  This holds for every sender state: any window, any acknowledged holes, any send cursors,
any (stale, overlapping, partly acknowledged, out-of-window) resend request. -/
theorem getChunks_contiguous (cfg : SendCfg) (x : SendX) :
    ∃ f, (x.getChunks cfg).2.seqs = List.range' f (x.getChunks cfg).2.seqs.length := by
  unfold SendX.getChunks
  simp only
  split
  · exact resendOuter_contig cfg _ x
  · exact freshLoop_contig cfg _ _ {} (good_init _)

/-- **Exactly once, in order, intact — at every moment of every schedule.** -/
theorem sys_delivered_prefix (acts : List Act) :
    ∃ k, (Sys.run acts).rcv.delivered = ((Sys.run acts).msgs.map List.flatten).take k :=
  (sinv_run acts).rcv.delivered_prefix (sinv_run acts).parts

/-- **Acknowledgement safety.** Whatever the sender regards as acknowledged has really arrived at the
receiver; in particular the acknowledged prefix never overtakes the received prefix. -/
theorem sys_ack_safe (acts : List Act) :
    (∀ q, (Sys.run acts).snd.acked q → q ∈ (Sys.run acts).arrived) ∧
    (Sys.run acts).snd.ackPrefix ≤ (Sys.run acts).rcv.ackPrefix := by
  have h := sinv_run acts
  exact ⟨h.acked, h.rcv.le_prefix fun q hq => h.acked q (Or.inl hq)⟩

/-- **Settled ⇒ delivered.** In every reachable state in which the sender's window is empty
(everything submitted has been acknowledged — the condition under which the simulator stops), every
submitted message has been handed over exactly once, in order, intact, whatever was lost, duplicated
or reordered on the way. -/
theorem sys_all_acked_all_delivered (acts : List Act) (hw : (Sys.run acts).snd.window = []) :
    (Sys.run acts).rcv.delivered = (Sys.run acts).msgs.map List.flatten ∧ (Sys.run acts).rcv.cur = [] := by
  have h := sinv_run acts
  -- with an empty window the sender's prefix is the end of the chunk stream, and everything below it has arrived
  have hnext : (Sys.run acts).snd.ackPrefix + (Sys.run acts).snd.window.length = _ := h.next
  rw [hw] at hnext
  exact h.rcv.complete h.parts fun s hs => h.acked s (Or.inl (Nat.lt_of_lt_of_eq hs hnext.symm))

/-! ## Satisfiability: concrete schedules with loss, duplication and reordering -/

def exActs : List Act :=
  [.submit [[1, 2], [3]], .submit [[4]], .send 0, .send 1, .send 2, .lose 0, .dup 1, .deliver 2, .deliver 0,
   .sendAck 9 [1, 2], .deliver 1, .send 0, .deliver 1, .deliver 0, .sendAck 9 [], .deliver 0]

example : (Sys.run exActs).rcv.delivered = [[1, 2, 3], [4]] := by decide
example : (Sys.run exActs).snd.window = [] := by decide
example : (Sys.run exActs).snd.released = [0, 1] := by decide
example : (Sys.run (exActs.take 12)).rcv.delivered = [] ∧ (Sys.run (exActs.take 12)).snd.window.length = 3 := by decide
example : (recvRun (chunksOf [[[1], [2]], [[3]]]) [2, 1, 1, 0, 7]).delivered = [[1, 2], [3]] := by decide

/-- the stale resend request of the seeded scenario: five one-chunk messages sent, 1 and 4 acknowledged,
then the peer's old request for 0..3 is answered by two datagrams, [0] and [2,3] — never [0,2,3] -/
def exResend : SendX :=
  (((((({} : SendX).push [4]).push [4]).push [4]).push [4]).push [4])

def exResend2 : SendX :=
  ((((exResend.getChunks {}).1.getChunks {}).1.ackChunk 1).ackChunk 4).setResend [(0, 3)]

example : (exResend2.getChunks {}).2.seqs = [0] := by decide
example : ((exResend2.getChunks {}).1.getChunks {}).2.seqs = [2, 3] := by decide

end TLVerif.Props.C36Window
