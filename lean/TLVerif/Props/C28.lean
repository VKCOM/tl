import TLVerif.Lint.WireLemmas
import TLVerif.Lint.Examples
/-! C28 — the backward-compatibility linter is sound for TL1 wire compatibility.

* `wireCompat old new` is a decidable relation on schema pairs defined without any reference to the linter
  (`TLVerif/Lint/Wire.lean`); `encTy s strict t v` is a TL1 encoder for the schema fragment. "A value of an old
  constructor whose field-mask values set only bits the old schema gives meaning to" is a value the STRICT old
  encoder accepts (`encTy old true t v = some bs`: a `#` field that is used only as a field mask may set only bits
  that some old field is guarded by).
* THEOREM (`wire_sound`, `wire_sound_function`): `wireCompat old new` ⇒ every such value is encoded by the new
  schema to exactly the same bytes — for all values, all nesting depths, all closed type expressions.
* PER PAIR (translation validation, `checks/C28.py`): for every pair the Go linter accepts, `wireCompat` is evaluated
  by the compiled model; for accepted pairs the bytes of pseudo-random old values are decoded and re-encoded under
  the new schema by the real dynamic interpreter (`internal/pure/onthefly`).
* The full-strength statement "lintCore accepts ⇒ wire compatible" FAILS on the real code: the witnesses below are
  accepted by the linter (model = Go, tied) and an old value encodes differently. -/
namespace TLVerif.Props.C28
open TLVerif.Lint

/-- decidable form of the side condition on the top-level reference: it does not use, bare, a type that has one
constructor in the old schema and several in the new one (such a reference has no meaning in the new schema;
references inside the old schema satisfy this by `wireCompat`). -/
def cleanRef (old new : Schema) (t : TypeRef) : Bool :=
  (typeOrder old).all (fun T => match typeCombs old T with
    | [c] => decide ((typeCombs new T).length ≤ 1) || !bareUse T c.name t
    | _ => true)

theorem clean_of_cleanRef {old new : Schema} {t : TypeRef} (h : cleanRef old new t = true) : Clean old new t := by
  intro T cn hb
  obtain ⟨c, hone, rfl, hlen⟩ := hb
  have := List.all_eq_true.mp h T (mem_typeOrder_of_mem_typeCombs (c := c) (by simp [hone]))
  simp only [hone, Bool.or_eq_true, decide_eq_true_eq, Bool.not_eq_true'] at this
  exact this.resolve_left (Nat.not_le_of_gt hlen)

/-- C28, semantic side, types: under `wireCompat`, the new schema encodes every old value (strictly valid under the
old schema) of every closed type expression exactly as the old schema does. -/
theorem wire_sound {old new : Schema} (h : wireCompat old new = true) (t : TypeRef) (hc : cleanRef old new t = true)
    (v : Val) (bs : Bytes) (hold : encTy old true t v = some bs) : encTy new false t v = some bs :=
  encTy_sim (wc_of_wireCompat h) v t bs (clean_of_cleanRef hc) hold

/-- C28, semantic side, functions: the call of an old function with old arguments is encoded identically by the
new version of the function. -/
theorem wire_sound_function {old new : Schema} (h : wireCompat old new = true) {f : Comb} (hf : f ∈ funcCombs old)
    (args : VList) (bs : Bytes) (hold : encFunc old true f args = some bs) :
    ∃ f', findFunc new f.name = some f' ∧ encFunc new false f' args = some bs := by
  have hw := wc_of_wireCompat h
  obtain ⟨f', ex, hfind, hcorr⟩ := hw.funcs f hf
  have ⟨_, htag, _, hfields, _⟩ := hcorr
  obtain ⟨body, hb, rfl⟩ := Option.map_eq_some_iff.mp hold
  refine ⟨f', hfind, ?_⟩
  rw [encFunc, hfields, encFields_sim hw args f f' ex hcorr (List.mem_filter.mp hf).1 Env.empty 0 f.fields body
    (by simp) (Inv_zero f ex Env.empty) (fun T cn _ => envClean_empty T cn) hb, htag]
  rfl

/-- arrays: same statement for `cnt` elements of a closed type. -/
theorem wire_sound_elems {old new : Schema} (h : wireCompat old new = true) (t : TypeRef) (hc : cleanRef old new t = true)
    (cnt : Nat) (vs : VList) (bs : Bytes)
    (hold : encElems old true t cnt vs = some bs) : encElems new false t cnt vs = some bs :=
  encElems_sim (wc_of_wireCompat h) vs t cnt bs (clean_of_cleanRef hc) hold

open TLVerif.Lint.Ex in
/-- `obj m:# a:m.0?int b:long` → `… c:m.3?string`: wire compatible, and a value with the mask bit set is covered. -/
example : wireCompat base (prelude ++ [foo, { obj with fields := obj.fields ++ [mfld "c" "m" 3 (ref "string")] }, getF]) = true ∧
    encTy base true (ref "Obj") (.ctor "obj" (.cons (.nat 1) (.cons (.prim [1, 2, 3, 4]) (.cons (.prim [0, 0, 0, 0, 0, 0, 0, 9]) .nil)))) =
      some [7, 0, 0, 0, 1, 0, 0, 0, 1, 2, 3, 4, 0, 0, 0, 0, 0, 0, 0, 9] := by decide +kernel

open TLVerif.Lint.Ex in
/-- `Foo` (used only boxed) gets a second constructor: wire compatible; the boxed reference `Foo` is clean. -/
example : wireCompat base (prelude ++ [foo, foo2, obj, getF]) = true ∧
    cleanRef base (prelude ++ [foo, foo2, obj, getF]) (ref "Foo") = true := by decide +kernel

open TLVerif.Lint.Ex in
/-- every witness of the known defects is accepted by `lintCore` and is not `wireCompat`. -/
theorem witnesses_accepted_not_compat :
    (lintCore l7Old l7New = .ok ∧ wireCompat l7Old l7New = false) ∧
    (lintCore l5Old l5New = .ok ∧ wireCompat l5Old l5New = false) ∧
    (lintCore l5rOld l5rNew = .ok ∧ wireCompat l5rOld l5rNew = false) ∧
    (lintCore repOld repElNew = .ok ∧ wireCompat repOld repElNew = false) ∧
    (lintCore repOld repScNew = .ok ∧ wireCompat repOld repScNew = false) ∧
    (lintCore tagOld tagNew = .ok ∧ wireCompat tagOld tagNew = false) ∧
    (lintCore sizeOld sizeNew = .ok ∧ wireCompat sizeOld sizeNew = false) ∧
    (lintCore constOld constNew = .ok ∧ wireCompat constOld constNew = false) := by decide +kernel

/-- "if the linter accepts, every old value is encoded identically" (model level). -/
def LinterSound : Prop :=
  ∀ (old new : Schema), lintCore old new = .ok → ∀ t v bs, encTy old true t v = some bs → encTy new false t v = some bs

open TLVerif.Lint.Ex in
/-- L7: `bar p:%Foo` → `bar p:Foo` is accepted; the value `bar (foo 5)` gains the 4-byte tag of `foo`. -/
theorem linter_sound_fails : ¬ LinterSound := by
  intro h
  have := h l7Old l7New witnesses_accepted_not_compat.1.1 (ref "Bar")
    (.ctor "bar" (.cons (.ctor "foo" (.cons (.prim [5, 0, 0, 0]) .nil)) .nil)) [3, 0, 0, 0, 5, 0, 0, 0] (by decide +kernel)
  revert this
  decide +kernel

open TLVerif.Lint.Ex in
/-- tag change: the boxed value `bar (foo 5)` starts with a different constructor tag. -/
theorem tag_change_breaks_wire :
    encTy tagOld true (ref "Bar") (.ctor "bar" (.cons (.ctor "foo" (.cons (.prim [5, 0, 0, 0]) .nil)) .nil)) ≠
    encTy tagNew false (ref "Bar") (.ctor "bar" (.cons (.ctor "foo" (.cons (.prim [5, 0, 0, 0]) .nil)) .nil)) := by decide +kernel

open TLVerif.Lint.Ex in
/-- size field reused as a mask: the old value `foo n=1 xs=[7]` has no encoding under the new schema without the new field. -/
theorem size_bit_breaks_wire :
    encTy sizeOld true (ref "Foo") (.ctor "foo" (.cons (.nat 1) (.cons (.arr (.cons (.prim [7, 0, 0, 0]) .nil)) .nil))) =
      some [1, 0, 0, 0, 1, 0, 0, 0, 7, 0, 0, 0] ∧
    encTy sizeNew false (ref "Foo") (.ctor "foo" (.cons (.nat 1) (.cons (.arr (.cons (.prim [7, 0, 0, 0]) .nil)) .nil))) = none := by
  decide +kernel

end TLVerif.Props.C28
