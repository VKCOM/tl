import TLVerif.Lint.CoreLemmas
import TLVerif.Lint.Examples
/-! C29 — the linter accepts documented safe schema evolutions.
All statements are about `lintCore`, the model of `tlcodegen.CheckBackwardCompatibility` (tied to the Go code by the
differential run of `checks/C29.py`). `lintCore old new = .ok` means "CheckBackwardCompatibility returns nil".
Hypotheses are decidable: pairwise different names, and "no index panic inside checkNatUsages"
(`(layout s).panicked = false`, which holds for every schema whose references have at most as many arguments as the
referenced type has template arguments). -/
namespace TLVerif.Props.C29
open TLVerif.Lint

theorem lint_refl (s : Schema) (hd : consDistinct s) (hp : (layout s).panicked = false) : lintCore s s = .ok := by
  refine lintCore_eq_ok.mpr ⟨⟨hp, hp⟩,
    fun T _ => typeCheck_eq_ok.mpr ⟨fun c hc => ?_, fun h => absurd h (Nat.lt_irrefl _),
      fun c hc hl => absurd (Nat.lt_of_lt_of_eq hl (congrArg List.length hc)) (Nat.lt_irrefl 1)⟩,
    fun n _ => funcCheck_eq_ok.mpr fun o ho => ⟨o, ho, checkComb_refl _ o⟩,
    fun n hn => newFuncCheck_eq_ok.mpr fun hnone => ?_⟩
  · exact ⟨c, findLast_typeCombs hd hc, checkComb_refl _ c⟩
  · obtain ⟨c, hc, rfl⟩ := List.mem_map.mp hn
    cases (findFunc_isSome hc).symm.trans hnone

/-- any number of combinators inserted anywhere (new types, new constructors, new functions): accepted as soon as
(1) a type that was a single constructor and becomes a union is used only boxed — at every position of every
reference of the old schema, `[ ]` repeats included (`usedBareSomewhere`, defined independently of the linter) —
and (2) every new function has no arguments or a first argument of type `#`. -/
theorem accepts_insertions {old new : Schema} (hsub : old.Sublist new) (hd : allDistinct new)
    (hp : (layout old).panicked = false ∧ (layout new).panicked = false)
    (hbox : ∀ T c, typeCombs old T = [c] → (typeCombs new T).length > 1 → usedBareSomewhere old c = false)
    (hnew : ∀ f ∈ funcCombs new, (findFunc old f.name).isSome = false → firstArgOk f = true) :
    lintCore old new = .ok :=
  lintCore_accepts_insertions hsub hd.cons hd.func hp
    (fun T c h1 h2 => boxCheckAll_ok_of_onlyBoxed (hbox T c h1 h2)) hnew

/-- append a constructor to a type that is already a union (no condition on its uses). -/
theorem accepts_append_constructor_to_union (pre post : Schema) (k : Comb) (hk : isTypeComb k = true)
    (hunion : (typeCombs (pre ++ post) k.tyName).length ≠ 1)
    (hd : allDistinct (pre ++ k :: post))
    (hp : (layout (pre ++ post)).panicked = false ∧ (layout (pre ++ k :: post)).panicked = false) :
    lintCore (pre ++ post) (pre ++ k :: post) = .ok := by
  apply lintCore_accepts_insert_one pre post k hd.cons hd.func hp
  · intro _ c heq
    rw [heq] at hunion
    simp at hunion
  · intro hf
    simp [isTypeComb, hf] at hk

/-- append a constructor to a single-constructor type that is used only boxed. -/
theorem accepts_append_constructor_boxed (pre post : Schema) (k c : Comb) (hk : isTypeComb k = true)
    (hone : typeCombs (pre ++ post) k.tyName = [c]) (hboxed : usedBareSomewhere (pre ++ post) c = false)
    (hd : allDistinct (pre ++ k :: post))
    (hp : (layout (pre ++ post)).panicked = false ∧ (layout (pre ++ k :: post)).panicked = false) :
    lintCore (pre ++ post) (pre ++ k :: post) = .ok := by
  apply lintCore_accepts_insert_one pre post k hd.cons hd.func hp
  · intro _ c' heq
    cases hone.symm.trans heq
    exact hboxed
  · intro hf
    simp [isTypeComb, hf] at hk

/-- add a new type (a constructor of a type name that did not exist). -/
theorem accepts_new_type (pre post : Schema) (k : Comb) (hk : isTypeComb k = true)
    (hnew : typeCombs (pre ++ post) k.tyName = [])
    (hd : allDistinct (pre ++ k :: post))
    (hp : (layout (pre ++ post)).panicked = false ∧ (layout (pre ++ k :: post)).panicked = false) :
    lintCore (pre ++ post) (pre ++ k :: post) = .ok := by
  apply accepts_append_constructor_to_union pre post k hk _ hd hp
  rw [hnew]; simp

/-- add a new function without arguments or whose first argument is a field mask (`#`). -/
theorem accepts_new_function (pre post : Schema) (k : Comb) (hk : k.isFunc = true) (hfirst : firstArgOk k = true)
    (hd : allDistinct (pre ++ k :: post))
    (hp : (layout (pre ++ post)).panicked = false ∧ (layout (pre ++ k :: post)).panicked = false) :
    lintCore (pre ++ post) (pre ++ k :: post) = .ok := by
  apply lintCore_accepts_insert_one pre post k hd.cons hd.func hp
  · intro h; simp [isTypeComb, hk] at h
  · intro _; exact hfirst

/-- append a field guarded by an unused bit of an existing field mask: `oc` (a constructor or a function, at any
position) gets one more field `f` with mask `m.name.(m.bit)`, where `m.name` is a local field of type `#` (the
first field with that name, index `k`), the bit is used by no existing field of `oc` (`directBits`), the mask field
is not passed to any type in later fields / the result (`passedAsArg`), and the new field's name is not a name the
combinator refers to. -/
theorem accepts_append_masked_field (pre post : Schema) (oc : Comb) (f : Field) (m : Mask)
    (hnb : isTypeComb oc = true ∨ oc.isFunc = true)
    (hd : allDistinct (pre ++ oc :: post))
    (hp : (layout (pre ++ oc :: post)).panicked = false ∧
          (layout (pre ++ { oc with fields := oc.fields ++ [f] } :: post)).panicked = false)
    (hm : f.mask = some m) (hfresh : f.name ∉ usedNames oc)
    (hnt : firstIdx (fun a : TArg => a.name == m.name) oc.targs = none)
    {k : Nat} (hk : firstIdx (fun g : Field => g.name == m.name) oc.fields = some k)
    {fm : Field} (hfm : oc.fields[k]? = some fm) (hty : fm.ty.name = "#")
    (hfree : m.bit ∉ directBits oc k fm.name)
    (hnopass : ∀ t ∈ laterRefs oc k, passedAsArg fm.name t = false) :
    lintCore (pre ++ oc :: post) (pre ++ { oc with fields := oc.fields ++ [f] } :: post) = .ok := by
  apply lintCore_accepts_replace pre post oc { oc with fields := oc.fields ++ [f] } ⟨rfl, rfl, rfl, rfl⟩
    ((allDistinct_replace (by rfl)).mpr hd) hp
  exact checkComb_ok_of_appended_masked hd ((mem_natCombs hd.func).mpr ⟨by simp, hnb⟩) hm hfresh hnt hk hfm hty hfree hnopass

open TLVerif.Lint.Ex in
example : lintCore base base = .ok := lint_refl base (by decide +kernel) (by decide +kernel)

open TLVerif.Lint.Ex in
/-- `obj m:# a:m.0?int b:long` gets `c:m.3?string`. -/
example : lintCore base (prelude ++ [foo, { obj with fields := obj.fields ++ [mfld "c" "m" 3 (ref "string")] }, getF]) = .ok :=
  accepts_append_masked_field (prelude ++ [foo]) [getF] obj (mfld "c" "m" 3 (ref "string")) ⟨"m", 3⟩
    (Or.inl (by decide)) (by decide +kernel) (by decide +kernel) rfl (by decide) (by decide) (k := 0) (by decide) (fm := fld "m" (ref "#"))
    rfl (by decide) (by decide) (by decide)

open TLVerif.Lint.Ex in
/-- `Foo` (used only boxed) gets a second constructor. -/
example : lintCore base (prelude ++ [foo, foo2, obj, getF]) = .ok :=
  accepts_append_constructor_boxed (prelude ++ [foo]) [obj, getF] foo2 foo (by decide) rfl (by decide +kernel) (by decide +kernel) (by decide +kernel)

end TLVerif.Props.C29
