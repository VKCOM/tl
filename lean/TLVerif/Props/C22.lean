import TLVerif.Syntaxtl2.Parser
import TLVerif.Syntaxtl2.Format
import TLVerif.Syntaxtl2.FormatLemmas
import TLVerif.Syntaxtl2.StructLemmas
import TLVerif.Syntaxtl2.FileLemmas
/-! # C22 — TL2 formatter round-trips and is idempotent

Statement (fixed): formatting any parsed TL2 file (with the default and the canonical options) yields text that parses
to the same declarations, and formatting that text again yields the same text.

`RoundTrip o f` / `Idempotent o f` below are the two halves for one options value; `Statement` is the property at
full strength over the model (`parseTL2File`, `printFile`). It is FALSE for the current code: a counter-example
is proved (`statement_fails`, known_findings.json; a second one was repaired in /repo 11a4a9c8, see
`one_variant_union_roundtrips_now`). What is proved for ALL files:
* idempotence follows from the round trip (canonical options: from the declarations alone; default options: from
  everything the formatter can print), i.e. the formatter reads nothing else;
* the TL2 parser is complete on printed token sequences (`parse_of_printed_token_sequence`), hence the round trip holds
  for every well-formed file whose printed text passes the decidable lexing certificate
  (`roundtrip_of_lex_certificate`); checks/C22.py evaluates the certificate on every explored instance (T3).
NOT a theorem: that the certificate holds for all well-formed files (lexing of the printed text), and the round trip
outside `File.wf`; these are explored through the tie (see manifest.d/C22.json). -/
namespace TLVerif.Props.C22
open TLVerif.Syntaxtl2

def Parsed (f : File) : Prop := ∃ tx, parseTL2File tx = .ok (.ok f)

/-- the formatted text parses, to the same declarations (comments and positions are not declarations). -/
def RoundTrip (o : FormatOptions) (f : File) : Prop :=
  ∃ f', parseTL2File (printFile o f) = .ok (.ok f') ∧ File.core f' = File.core f

def Idempotent (o : FormatOptions) (f : File) : Prop :=
  ∀ f', parseTL2File (printFile o f) = .ok (.ok f') → printFile o f' = printFile o f

def Statement : Prop :=
  ∀ o, (o = defaultOptions ∨ o = canonicalOptions) → ∀ f, Parsed f → RoundTrip o f ∧ Idempotent o f

/-- The decidable guard outside of which the unchanged code is known to violate the statement. -/
def Guard (f : File) : Bool := !(f.any Comb.hasDep)

/-- The statement restricted to the guard: what checks/C22.py evaluates on every explored input
(not proved; see the module comment). -/
def StatementUnderGuard : Prop :=
  ∀ o, (o = defaultOptions ∨ o = canonicalOptions) → ∀ f, Parsed f → Guard f = true → RoundTrip o f ∧ Idempotent o f

/-- With the canonical options the text is a function of the declarations alone. -/
theorem canonical_print_core_only (f g : File) (h : File.core f = File.core g) :
    printFile canonicalOptions f = printFile canonicalOptions g := by
  rw [← printFile_core canonicalOptions rfl f, ← printFile_core canonicalOptions rfl g, h]

/-- With any options the text does not depend on right-hand comments nor on comments of function arguments. -/
theorem print_visible_only (o : FormatOptions) (f g : File) (h : File.vis f = File.vis g) :
    printFile o f = printFile o g := by
  rw [← printFile_vis o f, ← printFile_vis o g, h]

/-- **Idempotence follows from the round trip** (canonical options), for every file. -/
theorem canonical_idempotent_of_roundtrip (f : File) (h : RoundTrip canonicalOptions f) :
    Idempotent canonicalOptions f := by
  obtain ⟨f', h1, h2⟩ := h
  intro f'' h3
  obtain rfl := Except.ok.inj (Res.ok.inj (h1.symm.trans h3))
  exact canonical_print_core_only _ _ h2

/-- Default options: idempotence follows when the reparsed file agrees on everything the formatter can print. -/
theorem default_idempotent_of_visible_roundtrip (f f' : File)
    (h1 : parseTL2File (printFile defaultOptions f) = .ok (.ok f')) (h2 : File.vis f' = File.vis f) :
    Idempotent defaultOptions f := by
  intro f'' h3
  obtain rfl := Except.ok.inj (Res.ok.inj (h1.symm.trans h3))
  exact print_visible_only _ _ _ h2

/-! ### Token-level round trip of the recursive part of the grammar (all depths, all lengths)

`strip its` is the token sequence (type, text) of an iterator without white-space/comment tokens; `typeToks`,
`fieldsToks`, `StructDef.toks` are the token sequences of the text `TL2TypeRef.Print`, the field printers and
`printWithNewLineOption` write (for any options: white space, line breaks and comments are exactly what `strip`
removes). `Ctx N tx it` is the lexer invariant of `C20.lexer_tokens_good`. The theorems say: from such tokens
the parser returns the same type / the same fields and variants up to comments, consuming exactly them.
The declaration wrappers (name, magic, template arguments, `=`, `<=>`, `=>`, `;`) are added in
`parse_of_printed_token_sequence`; the lexing of the printed text into these tokens is not proved in general, it is the
certificate of `roundtrip_of_lex_certificate`. -/

/-- every well-formed type expression (any nesting depth) is recovered from its printed tokens. -/
theorem type_roundtrip_tokens (t : TypeRef) (hwf : t.wf = true) (its : Iter) (ks : List TK) (pos : Pos) (fuel : Nat)
    (hm : strip its = typeToks t ++ ks) (hfol : FollowK ks) (hf : needT t ≤ fuel) :
    ∃ rest, parseType fuel its pos = .ok ({ start := true }, rest, t) ∧ strip rest = ks ∧ rest <:+ its :=
  typeS t hwf its ks pos fuel hm hfol hf

/-- every list of well-formed named fields is recovered (up to comments) from its printed tokens. -/
theorem fields_roundtrip_tokens {N : Nat} {tx : Bytes} {it : Iter} (hc : Ctx N tx it) (pos : Pos) (fuel : Nat)
    (fs : List Field) (hwf : ∀ f ∈ fs, f.wf = true) (hfuel : ∀ f ∈ fs, needT f.ty ≤ fuel) (its : Iter) (hs : its <:+ it)
    (k : TK) (ks : List TK) (fz : Nat) (hm : strip its = fieldsToks fs ++ k :: ks)
    (hk : fieldStart.contains k.1 = false) (hla : k.1 ≠ T.lAngle) (hfz : fs.length < fz) :
    ∃ rest fs', zeroOrMore (parseField tx fuel) fz its pos [] false = .ok ({ start := false || !fs.isEmpty }, rest, [] ++ fs') ∧
      fs'.map Field.core = fs.map Field.core ∧ strip rest = k :: ks ∧ rest <:+ its :=
  have ⟨hc', h⟩ := Rd.root hc hs hm
  have ⟨⟨_, rest, fs'⟩, e, hst, hcore, h2⟩ := fieldsR hc' pos fuel fs hwf hfuel fz [] false h hk hla hfz
  ⟨rest, fs', hst ▸ e, hcore, h2.toks, h2.suf⟩

/-- every well-formed struct body — a list of named fields, or a union of two or more variants (alias, fields or
empty) — is recovered (up to comments) from its printed tokens followed by `;`. -/
theorem struct_roundtrip_tokens {N : Nat} {tx : Bytes} {it : Iter} (hc : Ctx N tx it) (sd : StructDef) (hwf : sd.wf = true)
    (its : Iter) (hs : its <:+ it) (ks : List TK) (pos : Pos) (fuel : Nat) (hm : strip its = sd.toks ++ semiTK :: ks)
    (hf : sd.need ≤ fuel) :
    ∃ st rest sd', parseStructDef tx fuel its pos = .ok (st, rest, sd') ∧ st.err = none ∧ sd'.core = sd.core ∧
      strip rest = semiTK :: ks ∧ rest <:+ its :=
  have ⟨hc', h⟩ := Rd.root hc hs hm
  have ⟨⟨st, rest, sd'⟩, e, hst, hcore, h2⟩ := structR hc' sd hwf pos h hf
  ⟨st, rest, sd', e, hst, hcore, h2.toks, h2.suf⟩

/-- **Parser completeness on printed token sequences** (all well-formed files): whenever the lexer turns a text into
the token sequence of `f` (white space/comments aside, none right after a `:`), `ParseTL2File` returns `f` up to
comments. Covers annotations, names, magic, template arguments, aliases, field lists, unions of two or more variants, function arguments and
alias/struct function results; not the bare-type-reference function result (`=> T`). -/
theorem parse_of_printed_token_sequence (tx : Bytes) (f : File) (lx : Lexed) (hlx : lexTL2 tx = .ok lx) (herr : lx.err = none)
    (hadj : NoWSAfterColon lx.toks) (hwf : File.wf f = true) (hm : strip lx.toks = fileToks f ++ [eofTK]) :
    ∃ f', parseTL2File tx = .ok (.ok f') ∧ f'.map Comb.core = f.map Comb.core :=
  parse_of_printed_tokens tx f lx hlx herr hadj hwf hm

/-- **Round trip from the lexing certificate** (T3): for every well-formed file and ANY options, if the decidable
certificate `lexCert (printFile o f) f` holds — the printed text lexes to the token sequence of `f` — then the text
parses to the same declarations. -/
theorem roundtrip_of_lex_certificate (o : FormatOptions) (f : File) (hwf : File.wf f = true)
    (hc : lexCert (printFile o f) f = true) : RoundTrip o f :=
  parse_of_lexCert (printFile o f) f hwf hc

theorem canonical_idempotent_of_lex_certificate (f : File) (hwf : File.wf f = true)
    (hc : lexCert (printFile canonicalOptions f) f = true) : Idempotent canonicalOptions f :=
  canonical_idempotent_of_roundtrip f (roundtrip_of_lex_certificate canonicalOptions f hwf hc)

/-- the hypotheses are satisfiable by non-trivial values: the lexer's tokens of a printed struct body. -/
def sampleBody : StructDef := .union
  [⟨bs "A", .fields [⟨bs "x", true, false, .bracket (some (.num 3)) (.app ⟨bs "ns", bs "m"⟩ [.ty (.app ⟨[], bs "int"⟩ []), .num 7]), [], []⟩,
      ⟨bs "_", false, true, .app ⟨[], bs "t"⟩ [], [], []⟩], []⟩,
   ⟨bs "b", .alias (.bracket none (.app ⟨[], bs "string"⟩ [])), []⟩, ⟨bs "Type", .fields [], []⟩]

def lexToks (tx : Bytes) : Iter := match lexTL2 tx with | .ok lx => lx.toks | _ => []

example : sampleBody.wf = true ∧
    strip (lexToks (bs "A x?:[3]ns.m<int,7> _:t\n\t| b []string // c\n | Type;")) =
      sampleBody.toks ++ semiTK :: [(T.eof, [])] := by
  rw [bs_ofList]
  decide +kernel

def isFile (r : Res (Except PErr File)) : Bool := match r with | .ok (.ok _) => true | _ => false
def isError (r : Res (Except PErr File)) : Bool := match r with | .ok (.error _) => true | _ => false
def getFile (r : Res (Except PErr File)) : File := match r with | .ok (.ok f) => f | _ => []

theorem eq_of_isFile {r : Res (Except PErr File)} (h : isFile r = true) : r = .ok (.ok (getFile r)) := by
  cases r with
  | ok x => cases x with
    | ok f => rfl
    | error e => cases h
  | panic => cases h
  | nofuel => cases h

/-- `a = | B;` : a union with one variant. -/
def wOne : File := getFile (parseTL2File (bs "a = | B;\n"))
/-- `a = _x:int;` : a field with a deprecated name. -/
def wDep : File := getFile (parseTL2File (bs "a = _x:int;\n"))

theorem wOne_parsed : Parsed wOne := ⟨bs "a = | B;\n", eq_of_isFile (by decide +kernel)⟩
theorem wDep_parsed : Parsed wDep := ⟨bs "a = _x:int;\n", eq_of_isFile (by decide +kernel)⟩

/-- Historical note: until /repo commit 11a4a9c8 a one-variant union printed on one line lost its leading `|`
(`a = | B;` was formatted as `a = B;`, which the parser rejects), so `RoundTrip canonicalOptions wOne` failed.
With the repaired printer (`i != 0 || forceNewline || len(Variants) == 1`, modelled in `printVariants`) the witness
round-trips: -/
theorem one_variant_union_roundtrips_now :
    isFile (parseTL2File (printFile canonicalOptions wOne)) = true ∧
    (getFile (parseTL2File (printFile canonicalOptions wOne))).any Comb.hasSingletonUnion = true ∧
    printFile canonicalOptions (getFile (parseTL2File (printFile canonicalOptions wOne))) = printFile canonicalOptions wOne ∧
    printFile defaultOptions (getFile (parseTL2File (printFile defaultOptions wOne))) = printFile defaultOptions wOne := by
  decide +kernel

/-- the formatted deprecated-name field (`a = _:int;`) parses back to a different declaration. -/
theorem roundtrip_fails_at_dep_name : ¬ RoundTrip canonicalOptions wDep := by
  intro ⟨f', h, hc⟩
  have h3 : (File.core (getFile (parseTL2File (printFile canonicalOptions wDep)))).any Comb.hasDep = false := by
    decide +kernel
  have h4 : (File.core wDep).any Comb.hasDep = true := by decide +kernel
  rw [h] at h3
  simp only [getFile] at h3
  rw [hc, h4] at h3
  cases h3

theorem statement_fails : ¬ Statement := by
  intro h
  exact roundtrip_fails_at_dep_name (h canonicalOptions (Or.inr rfl) wDep wDep_parsed).1

/-- the remaining witness is outside the guard; the repaired one-variant union is inside it -/
theorem witnesses_outside_guard : Guard wDep = false ∧ Guard wOne = true := by decide +kernel

/-! ### Instances: non-trivial files inside the guard on which the certificate holds, and whose formatted text parses to
as many declarations and formats to the same text -/

def sample : Bytes :=
  bs "// c\n@x p.q#0000000a<t:Type,n:#> = | A // r\n | b [n]t | C x?:[]m<t,3> _:int;\nf#00000001 a:int => <=> [string]p.q<int,4>;\n"

def roundTripB (o : FormatOptions) (f : File) : Bool :=
  match parseTL2File (printFile o f) with
  | .ok (.ok f') => (File.core f').length == (File.core f).length && printFile o f' == printFile o f
  | _ => false

def sample2 : Bytes :=
  bs "// c\n@x p.q#0000000a<t:Type,n:#> = A | b [n]t | C x?:[]m<t,3> _:int;\nf#00000001 a:int => <=> [string]p.q<int,4>;\n"

example : File.wf (getFile (parseTL2File sample)) = true ∧
    lexCert (printFile canonicalOptions (getFile (parseTL2File sample))) (getFile (parseTL2File sample)) = true ∧
    File.wf (getFile (parseTL2File sample2)) = true ∧
    lexCert (printFile defaultOptions (getFile (parseTL2File sample2))) (getFile (parseTL2File sample2)) = true := by
  rw [show sample = _ from bs_ofList _, show sample2 = _ from bs_ofList _]
  decide +kernel

example : isFile (parseTL2File sample) = true ∧ Guard (getFile (parseTL2File sample)) = true ∧
    roundTripB canonicalOptions (getFile (parseTL2File sample)) = true ∧
    roundTripB defaultOptions (getFile (parseTL2File sample)) = true := by
  rw [show sample = _ from bs_ofList _]
  decide +kernel

end TLVerif.Props.C22
