import TLVerif.Syntax.PrinterLemmas
/-!
# C21 — TL1 schema printer round-trips through the parser

Statement (fixed): *Printing any parsed TL1 schema and parsing the printed text yields the same combinators: names,
tags (explicit and implicit), annotations, template arguments, fields with masks, repetitions and types, and
result types.*

Model: `TL.str` / `Combinator.str` / … (`String()` templates of `qt_tlparser.qtpl(.go)`), `parseTLFile`.

**What is a theorem here and what is not.**  The full statement is `RoundTrip` below; it is *not* proved in Lean
(it needs the completeness of lexer+parser on the printer's output) and, as stated, it is false for the
implementation: an explicit tag `#00000000` is not printed (`if c.IDExplicit && c.ID != 0`), so the printed text
is the one of the same combinator with an *implicit* tag (`zero_tag_print_collision`, known finding).  Proved:
the lexeme-level round trips the statement rests on (tags: `tag_print_parse`; numbers in arithmetic, masks and
scales: `number_print_parse`), the collision, and that a non-zero explicit tag is printed.  Everything else is
established by the differential tie (model printer = Go printer; model parser = Go parser) and the round-trip
oracle evaluated on the implementation.
-/
namespace TLVerif.Props.C21
open TLVerif.Syntax

/-- `%08x` of a tag is read back by `strconv.ParseUint(…, 16, 32)` as the same tag: explicit non-zero tags
survive print → parse. -/
theorem tag_print_parse (id : UInt32) : parseHex32 (hex8 id) = some id.toNat := parseHex32_hex8 id

/-- decimal numbers printed by the templates (`DUL`) are read back by `strconv.ParseUint(…, 10, 32)` as the same
number: arithmetic operands, mask bits and scale factors survive print → parse. -/
theorem number_print_parse (n : Nat) (h : n < 4294967296) : parseU32 (decBytes n) = some n := by
  obtain ⟨hd, hne, hv⟩ := decBytesAux_spec (n + 1) n [] (by omega) rfl
  unfold parseU32 decBytes
  rw [hne, hd, hv]
  exact if_pos h

/-- A non-zero explicit tag is printed as `name#xxxxxxxx`. -/
theorem explicit_tag_printed (c : Constructor) (he : c.explicit = true) (h0 : c.id ≠ 0) :
    c.str = c.name.str ++ [cHash] ++ hex8 c.id := by
  unfold Constructor.str
  simp [he, h0]

/-- erase what the property does not talk about: the combinator's own comments (`cb` before it, `cr` to its right) -/
def eraseComb (c : Combinator) : Combinator := { c with cb := [], cr := [] }

/-- The property at full strength for the model (fields compared through their printed form and tag, which
determine them for parsed trees).  NOT proved; false at explicit zero tags, see below. -/
def RoundTrip : Prop :=
  ∀ (text : Bytes) (tl : TL), parseTLFile {} text = .ok tl →
    ∃ tl', parseTLFile {} tl.str = .ok tl' ∧
      tl'.combinators.map (fun c => (c.str, c.construct.id, c.construct.explicit)) =
      tl.combinators.map (fun c => (c.str, c.construct.id, c.construct.explicit))

/-- **Finding.**  A combinator with the explicit tag `#00000000` prints exactly like the same combinator with no
explicit tag: whatever the parser does with the printed text, it cannot return both, so the explicit zero tag
(and the fact that it was explicit) is lost; the re-parsed combinator gets the CRC32 of the canonical form. -/
theorem zero_tag_print_collision (c : Combinator) (he : c.construct.explicit = true) (h0 : c.construct.id = 0) :
    c.str = ({ c with construct := { c.construct with explicit := false } } : Combinator).str ∧
    ({ c with construct := { c.construct with explicit := false } } : Combinator).construct.explicit ≠ c.construct.explicit := by
  constructor
  · unfold Combinator.str Constructor.str
    simp [he, h0]
  · simp [he]

/-- the guard of the finding is not vacuous, and outside it the tag is printed -/
example : (⟨⟨[], strBytes "foo"⟩, 0, true⟩ : Constructor).str = strBytes "foo" := by decide +kernel
example : (⟨⟨[], strBytes "foo"⟩, 1, true⟩ : Constructor).str = strBytes "foo#00000001" := by decide +kernel

end TLVerif.Props.C21
