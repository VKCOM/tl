import TLVerif.Syntax.ParserLemmas
/-!
# C19 — TL1 parser is total with in-range error positions

Statement (fixed): *For any input text, parsing it as TL1 returns either a schema or an error whose
reported position lies inside the text; parsing never panics and printing the error never panics.*

All theorems are about the model of `internal/tlast` (`TLVerif/Syntax/{Token,Lexer,Parser,PError}.lean`):
the lexer (`generateTokens`), the recursive-descent parser (`parseTLFile` = `ParseTLFile`) with every
Go panic site / failing index or slice expression as the explicit outcome `panic` and every possible
non-termination as the explicit outcome `diverge`, and `ParseError.ConsolePrint` (`consolePrint`).
They hold for **all** byte strings and all lexer options (`AllowBuiltin`, `AllowDirty`, lexer language).
-/
namespace TLVerif.Props.C19
open TLVerif.Syntax TLVerif.Facts.Syntax

/-- The Go token class constants are pairwise distinct and negative, so they cannot collide with each
other or with the byte value of a one-character token: the abstraction `TT` is faithful. -/
theorem token_classes_distinct :
    [typesSection, functionsSection, crc32hash, annotation, numberSign, number, comment, undefined, lcIdent, ucIdent,
     lcIdentNS, ucIdentNS, eof, functionSign, newLine, tl2alias, tl2depName, tl2typeSign].Nodup ∧
    ∀ x ∈ [typesSection, functionsSection, crc32hash, annotation, numberSign, number, comment, undefined, lcIdent, ucIdent,
     lcIdentNS, ucIdentNS, eof, functionSign, newLine, tl2alias, tl2depName, tl2typeSign], x < 0 := by decide +kernel

/-- The character constants of `tllexer.go` and the section strings are the ones the model uses. -/
theorem char_constants_agree :
    lRoundBracket = cLRound.toNat ∧ rRoundBracket = cRRound.toNat ∧ lSquareBracket = cLSquare.toNat ∧
    rSquareBracket = cRSquare.toNat ∧ lCurlyBracket = cLCurly.toNat ∧ rCurlyBracket = cRCurly.toNat ∧
    lAngleBracket = cLAngle.toNat ∧ rAngleBracket = cRAngle.toNat ∧ colon = cColon.toNat ∧ semiColon = cSemi.toNat ∧
    dotSign = cDot.toNat ∧ commaSign = cComma.toNat ∧ percentSign = cPercent.toNat ∧ whiteSpace = cSpace.toNat ∧
    tab = cTab.toNat ∧ equalSign = cEqual.toNat ∧ questionMark = cQuestion.toNat ∧ asterisk = cAsterisk.toNat ∧
    plus = cPlus.toNat ∧ exclamation = cExcl.toNat ∧ verticalBar = cVBar.toNat ∧ underscore = cUnderscore.toNat ∧
    typesSectionBytes = [45, 45, 45, 116, 121, 112, 101, 115, 45, 45, 45] ∧
    functionsSectionBytes = [45, 45, 45, 102, 117, 110, 99, 116, 105, 111, 110, 115, 45, 45, 45] ∧
    tabSpacesBytes = [32, 32, 32, 32] := by decide +kernel

/-- Census of the explicit `panic` / `log.Panicf` calls in the lexer/parser files: five sites, each a `panic`
outcome of the model (`ParseTLFile` recombination check, `splitIdenNSFromToken`, `expectOrPanic`, `skipWS`,
`parseCommentBefore`; its other `panic` outcomes are failing index, slice and nil expressions, not in this list).
A new site changes this list and breaks the obligation. -/
theorem panic_sites_census :
    parserPanicSites = ["tlparser_code.go:ParseTLFile:1", "tlparser_code.go:splitIdenNSFromToken:1",
      "tlparser_code.go:tokenIterator.expectOrPanic:1", "tlparser_code.go:tokenIterator.skipWS:1",
      "tlparser_comments.go:parseCommentBefore:1"] := rfl

/-- The invariant `ParseTLFile` panics on: the token texts concatenated, followed by the unread rest,
are the input (and the rest is empty when lexing succeeds). -/
theorem lexer_recombines (o : LexOpts) (text : Bytes) (toks : List Token) (rest : Bytes)
    (h : generateTokens o text = .ok toks rest) : recombine toks rest = text ∧ rest = [] :=
  ⟨(generateTokens_ok h).1, (generateTokens_ok h).2.1⟩

/-- The lexer never hits a failing slice/index expression. -/
theorem lexer_no_panic (o : LexOpts) (text : Bytes) : generateTokens o text ≠ .panic :=
  fun h => generateTokens_ok h

/-- Every `nextToken` step consumes at least one byte: `generateTokens` terminates. -/
theorem lexer_terminates (o : LexOpts) (text : Bytes) : generateTokens o text ≠ .diverge :=
  fun h => generateTokens_ok h

theorem token_pos_in_range (o : LexOpts) (text : Bytes) (toks : List Token) (rest : Bytes)
    (h : generateTokens o text = .ok toks rest) :
    (∀ t ∈ toks, t.pos.off + t.val.length ≤ text.length ∧ t.pos.slo ≤ t.pos.off) ∧
    toks.Pairwise (fun a b => a.pos.off + a.val.length ≤ b.pos.off ∧ a.pos.slo ≤ b.pos.slo) :=
  ⟨(generateTokens_ok h).2.2.1.inRange, (generateTokens_ok h).2.2.1.sorted⟩

/-- The token array ends with the (empty) eof token ("so we always have next token in array"). -/
theorem eof_token_last (o : LexOpts) (text : Bytes) (toks : List Token) (rest : Bytes)
    (h : generateTokens o text = .ok toks rest) :
    ∃ pre e, toks = pre ++ [e] ∧ e.ty = .eof ∧ e.val = [] :=
  (generateTokens_ok h).2.2.2

theorem lex_error_pos_in_text (o : LexOpts) (text : Bytes) (toks : List Token) (e : PErr)
    (h : generateTokens o text = .err toks e) :
    e.begin.off ≤ e.end.off ∧ e.end.off ≤ text.length :=
  ⟨Nat.le_add_right _ _, (generateTokens_ok h).1⟩

/-- `ParseTLFile` never panics: none of `front()`/`popFront()` on an exhausted iterator, `val[1:]` on
an empty string, a nil dereference, a slice out of range, `expectOrPanic`, `splitIdenNSFromToken`,
`skipWS` without eof, `parseCommentBefore` on a non-whitespace token, or the recombination check. -/
theorem parse_no_panic (o : LexOpts) (text : Bytes) : parseTLFile o text ≠ .panic :=
  fun h => parseTLFile_ok h

/-- Every recursive call and every loop iteration of the parser consumes a token (all the length guards of
the model hold): `ParseTLFile` terminates. -/
theorem parse_terminates (o : LexOpts) (text : Bytes) : parseTLFile o text ≠ .diverge :=
  fun h => parseTLFile_ok h

theorem parse_total (o : LexOpts) (text : Bytes) :
    (∃ tl, parseTLFile o text = .ok tl) ∨ (∃ e, parseTLFile o text = .err e) ∨ (∃ e, parseTLFile o text = .lexErr e) := by
  cases h : parseTLFile o text with
  | ok tl => exact Or.inl ⟨tl, rfl⟩
  | err e => exact Or.inr (Or.inl ⟨e, rfl⟩)
  | lexErr e => exact Or.inr (Or.inr ⟨e, rfl⟩)
  | panic => exact absurd h (parse_no_panic o text)
  | diverge => exact absurd h (parse_terminates o text)

/-- The reported position of any error lies inside the text: `0 ≤ Begin ≤ End ≤ len(text)`. -/
theorem error_pos_in_text (o : LexOpts) (text : Bytes) (e : PErr)
    (h : parseTLFile o text = .err e ∨ parseTLFile o text = .lexErr e) :
    e.begin.off ≤ e.end.off ∧ e.end.off ≤ text.length := by
  rcases h with h | h <;> exact ⟨Nat.le_add_right _ _, (parseTLFile_ok h).1⟩

/-- Printing an error never panics — for *any* position range, not only those the parser produces
(this is what `safeRange` is for). -/
theorem console_print_no_panic (fc : Bytes) (outer begin end_ : Pos) (errText file : Bytes) (isWarning : Bool) :
    consolePrint fc outer begin end_ errText file isWarning ≠ none :=
  consolePrint_ne_none fc outer begin end_ errText file isWarning

/-- For the errors the parser and lexer produce, none of the `safeRange` checks fails: the outer
position (start of the combinator) is not after the error token, line starts are ordered. -/
theorem error_context_not_corrupted (o : LexOpts) (text : Bytes) (e : PErr)
    (h : parseTLFile o text = .err e ∨ parseTLFile o text = .lexErr e) :
    contextCorrupted text e.outer e.begin e.end = false := by
  rcases h with h | h <;> exact (parseTLFile_ok h).2

/-- … hence for every error of the lexer or parser `ConsolePrint` renders the normal two-line form (source lines from
the start of the combinator, the offending token coloured, the arrow line with message, file, line and column) and
never the "beautiful error context corrupted" fallback. -/
theorem console_print_renders_error (o : LexOpts) (text : Bytes) (e : PErr) (errText file : Bytes) (w : Bool)
    (h : parseTLFile o text = .err e ∨ parseTLFile o text = .lexErr e) :
    e.consolePrint text errText file w =
      some (sl text e.outer.slo e.begin.slo ++ replaceTabs (sl text e.begin.slo e.begin.off) ++
        colorize (if w then colYellow else colRed) (replaceTabs (sl text e.begin.off e.end.off)) ++
        replaceTabs (upToLineEnd (sl text e.end.off text.length)) ++ [cLF] ++
        List.replicate (replaceTabs (sl text e.begin.slo e.begin.off)).length cSpace ++
        colorize colWhite ((if (List.replicate (replaceTabs (sl text e.begin.off e.end.off)).length (94 : UInt8)).isEmpty then [94]
          else List.replicate (replaceTabs (sl text e.begin.off e.end.off)).length (94 : UInt8)) ++ [cMinus, cMinus]) ++ [cSpace] ++
        (if w then colorize colYellow (strBytes "warning: ") else []) ++
        (errText ++ [cSpace] ++ file ++ strBytes " (line " ++ decBytes e.begin.line ++ strBytes " col " ++ decBytes e.begin.col ++ [cRRound]) ++
        [cLF]) :=
  -- `rfl`: `PErr.end` keeps the line start of `begin` (so does `parseErrToken`), hence only the `sameLine` branch occurs
  consolePrint_pretty text e.outer e.begin e.end errText file w rfl (error_context_not_corrupted o text e h)

/-- The statements are not vacuous: the empty text parses to the empty schema, and a text consisting of a
NUL byte is rejected by the lexer with an error at offsets 0..1. -/
example : parseTLFile {} [] = .ok ⟨[], []⟩ := by
  simp [parseTLFile, generateTokens, lexLoop, advance, initState, validateTokens, illegalTok, recombine, parseFileLoop,
    checkToken, skipWS, TT.isWS, sliceBetween, sliceText]

example : parseTLFile {} [0] = .lexErr ⟨⟨.undefined, [0], ⟨1, 1, 0, 0⟩⟩, ⟨1, 1, 0, 0⟩⟩ := by
  rw [parseTLFile, generateTokens, lexLoop]
  rfl

end TLVerif.Props.C19
