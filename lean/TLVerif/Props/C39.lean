import TLVerif.Rpccalls.ServerLimitsLemmas
import TLVerif.Generated.RpccallsFacts
/-!
# C39 — RPC server enforces worker and memory limits

Property theorems about the model of `pkg/rpc/server_workerpool.go` (`TLVerif/Rpccalls/WorkerPool.lean`) and
of the request-memory accounting of `pkg/rpc/server.go` over a minimal semaphore model
(`TLVerif/Rpccalls/ReqMem.lean`).

A history is a list of critical sections in mutex order, so "for all histories" covers every interleaving of
the receive loops (`Get`), the workers (`Put`), the GC ticker and `Close`.  `busy` is the set of workers handed
out by `Get` and not yet given back: a handler executes only inside such a worker (`worker.run` calls the
handler between receiving work and `Put`), so `busy.length` bounds the number of concurrently executing
handlers.  What is *not* here: `MaxWorkers = 0` (documented switch that runs handlers on the receive
goroutines, no pool), response memory, the fairness of the semaphore (C42).
-/
namespace TLVerif.Props.C39
open TLVerif.Rpccalls TLVerif.Facts.Rpccalls

/-- `workerPoolNew` never makes a pool that cannot work, and otherwise takes the configured limit -/
theorem pool_limit_configured (c : Int) : (Pool.new c).create = if c < 1 then 1 else c.toNat := rfl

/-- **worker limit.**  After every history: every created worker is either handed out or idle on the free list,
`created ≤ create`, hence at most `create` workers (handlers) are busy; the limit itself never changes. -/
theorem busy_le_create {c ops p evs} (h : PReach c ops p evs) :
    p.created = p.busy.length + p.free.length ∧ p.created ≤ p.create ∧ p.busy.length ≤ p.create ∧
    p.create = (Pool.new c).create := by
  obtain ⟨hi, hc⟩ := preach_inv h
  have h1 := hi.acct
  have h2 := hi.limit
  exact ⟨h1, h2, by omega, hc⟩

/-- **excess load waits instead of being admitted.**  With `create` handlers busy, a further `Get` on an open
pool does not return: it goes to `cond.Wait()` and nothing about the pool changes but the waiter count. -/
theorem get_blocks_when_full {c ops p evs} (h : PReach c ops p evs) (ho : p.closed = false)
    (hf : p.busy.length = p.create) :
    p.step .getEnter = ({ p with waiting := p.waiting + 1 }, [.blocked]) :=
  if_neg (ne_true_of_eq_false ((preach_inv h).1.not_ready_of_full ho hf))

/-- … and a waiting `Get` that re-checks (signalled or spuriously woken) while the pool is still full keeps waiting -/
theorem recheck_keeps_waiting_when_full {c ops p evs} (h : PReach c ops p evs) (ho : p.closed = false)
    (hf : p.busy.length = p.create) : p.step .recheck = (p, []) := by
  simp only [Pool.step, (preach_inv h).1.not_ready_of_full ho hf, Bool.false_eq_true, if_false, ite_self]

/-- a worker is handed out only while fewer than `create` are busy -/
theorem admitted_only_below_limit {c ops p evs op w n} (h : PReach c ops p evs) (_hg : op.guard p = true)
    (hm : PEv.got w n ∈ (p.step op).2) : p.busy.length < p.create ∧ (p.step op).1.busy.length = p.busy.length + 1 := by
  exact (pinv_step (preach_inv h).1 _hg).2.2 w n hm

/-- `Put` on an open pool makes the wait condition false: the waiter it signals is admitted (no handler slot is
lost while somebody waits) -/
theorem put_then_recheck_admits {c ops p evs w e} (h : PReach c ops p evs) (ho : p.closed = false)
    (hg : (POp.put w e).guard p = true) (hw : 0 < p.waiting) :
    ∃ w' n, PEv.got w' n ∈ ((p.step (.put w e)).1.step .recheck).2 := by
  -- holds of every open pool with a waiter: neither reachability nor the guard is needed
  have _ := h
  have _ := hg
  have g := p.gcLocked_spec e
  simp only [Pool.step, ho, Bool.false_eq_true, if_false]
  rw [if_neg (by rw [g.waiting]; exact Nat.ne_of_gt hw), if_pos (by simp [Pool.ready])]
  unfold Pool.take
  rw [if_neg (ne_true_of_eq_false (g.closed.trans ho))]
  split <;> exact ⟨_, _, List.mem_singleton_self _⟩

/-- `Close` wakes everybody: every waiting `Get` returns `(nil, false)`; nothing is admitted afterwards -/
theorem closed_pool_admits_nothing {p : Pool} (hc : p.closed = true) :
    p.step .getEnter = (p, [.closedRet]) := by
  simp [Pool.step, Pool.ready, Pool.take, hc]

/-- **request memory limit.**  After every history of `acquireRequestSema` / `releaseRequestBuf` steps (any
interleaving of the receive loops and of the releases, any context cancellations), the semaphore counter is
exactly the sum of the memory of the admitted, unreleased requests, it is between 0 and the configured
limit, the limit never changes, and `Release` never panics ("released more than held"). -/
theorem reqmem_within_limit {size ops s evs} (hsz : 0 ≤ size) (h : SReach size ops s evs) :
    s.cur = sumHeld s.held ∧ 0 ≤ s.cur ∧ s.cur ≤ size ∧ s.size = size ∧ SEv.panic ∉ evs := by
  obtain ⟨hi, hs, hp⟩ := sreach_inv hsz h
  exact ⟨hi.acct, hi.cur_nonneg, hs ▸ hi.limit, hs, hp⟩

/-- the request-memory limit also bounds the *number* of admitted requests: if every admitted request accounts at
least `b` bytes (`requestBufTake ≥ RequestBufSize`), at most `size / b` requests are admitted at any time -/
theorem admitted_requests_bounded {size ops s evs} {b : Int} (hsz : 0 ≤ size) (h : SReach size ops s evs)
    (hb : ∀ x ∈ s.held, b ≤ x.2) : (s.held.length : Int) * b ≤ size := by
  obtain ⟨h1, -, h3, -⟩ := reqmem_within_limit hsz h
  have := sumHeld_ge_length_mul hb
  omega

/-- **a failed acquire releases nothing.**  `hctx.reqTaken` is assigned only after `acquireRequestSema` succeeded, so
the handler context of a request whose `Acquire` failed (its connection was closed while it waited for memory, or it
could never fit) holds 0 bytes: releasing it (`releaseRequestBuf(hctx.reqTaken)`) is not a semaphore operation at
all.  In the model the memory a request holds is its entry in `held`; a request without one releases nothing.
Together with `reqmem_within_limit` — which ranges over *all* histories, including acquisitions that are
cancelled while queued and the release of their contexts — this is `Σ reqTaken over live hctx = cur ≤ limit`. -/
theorem failed_acquire_releases_nothing {s : Sem} {id : Nat} (h : heldAmount id s.held = none) :
    s.step (.release id) = (s, []) := by
  simp [Sem.step, h]

/-- cancellation does not disturb the accounting: after `cancel id` from a reachable state the counter is still the
sum of what `held` records and within the size (`reqmem_within_limit` one step on, whatever `notifyWaiters` admitted
from the queue behind the request that left) -/
theorem cancelled_waiter_never_accounted {size ops s evs} (hsz : 0 ≤ size) (h : SReach size ops s evs) (id : Nat) :
    (s.step (.cancel id)).1.cur = sumHeld (s.step (.cancel id)).1.held ∧ (s.step (.cancel id)).1.cur ≤ size := by
  have h' : SReach size (ops ++ [.cancel id]) (s.step (.cancel id)).1 (evs ++ (s.step (.cancel id)).2) := .snoc h rfl
  obtain ⟨a, -, c, -⟩ := reqmem_within_limit hsz h'
  exact ⟨a, c⟩

/-- excess load waits: a request that does not fit is queued (or, if it can never fit, left waiting for its
connection to close) and the accounted memory is unchanged -/
theorem not_fitting_waits {s : Sem} {id : Nat} {n : Int} (hf : s.fits n = false) :
    (s.step (.tryAcq id n)) = (s, [.tryFail id]) ∧
    (s.step (.acquire id n)).1.cur = s.cur ∧ (s.step (.acquire id n)).1.held = s.held ∧
    ((s.step (.acquire id n)).2 = [.doomed id] ∨ (s.step (.acquire id n)).2 = [.queued id]) := by
  refine ⟨if_neg (ne_true_of_eq_false hf), ?_⟩
  rw [show s.step (.acquire id n) = _ from if_neg (ne_true_of_eq_false hf)]
  split
  · exact ⟨rfl, rfl, .inl rfl⟩
  · exact ⟨rfl, rfl, .inr rfl⟩

/-- a request is admitted (fast path) only if it fits under the limit together with everything accounted,
and only if nobody is queued before it -/
theorem admitted_only_if_fits {s : Sem} {id : Nat} {n : Int} :
    (SEv.admitted id ∈ (s.step (.tryAcq id n)).2 → s.cur + n ≤ s.size ∧ s.waiters = []) ∧
    (SEv.admitted id ∈ (s.step (.acquire id n)).2 → s.cur + n ≤ s.size ∧ s.waiters = []) := by
  cases hf : s.fits n with
  | true => exact ⟨fun _ => Sem.fits_iff.mp hf, fun _ => Sem.fits_iff.mp hf⟩
  | false =>
    obtain ⟨ht, -, -, ha⟩ := not_fitting_waits (id := id) hf
    rw [ht]
    exact ⟨fun hm => by simp at hm, fun hm => by rcases ha with ha | ha <;> rw [ha] at hm <;> simp at hm⟩

/-- `requestBufTake`: a request accounts at least for its body and at least for one pooled buffer -/
theorem requestBufTake_ge (buf body : Int) : body ≤ requestBufTake buf body ∧ buf ≤ requestBufTake buf body := by
  simp only [requestBufTake]; omega

/-- T1: the server's option floor — `ServerWithRequestMemoryLimit` never configures less than one maximal packet,
so a request of any legal size can be admitted (`Acquire` with `n > size` would wait for ever) -/
theorem max_packet_fits_limit : requestBufTake defaultServerRequestBufSize maxPacketLen ≤ max maxPacketLen defaultRequestMemoryLimit := by
  decide

/-- T1: structure of the code the model follows: `acquireRequestSema` is `TryAcquire` then `Acquire` on the same
semaphore, `requestBufTake` is a `max`, and the worker pool has no panic of its own (the one in `worker.run`
is the long-poll misuse check). -/
theorem code_shape :
    acquireRequestSemaCalls.filter (fun c => c == "TryAcquire" || c == "Acquire" || c == "ForceAcquire") = ["TryAcquire", "Acquire"] ∧
    requestBufTakeCalls = ["max"] ∧ workerPoolPanicSites = ["server_workerpool.go:worker.run:1"] ∧ defaultMaxWorkers = 1024 :=
  ⟨by decide, rfl, rfl, rfl⟩

/-! ### the hypotheses are satisfiable by non-trivial histories -/

theorem guards_true_of_foldl : ∀ (ops : List POp) (b : Bool) (q : Pool),
    (ops.foldl (fun (acc : Bool × Pool) op => (acc.1 && op.guard acc.2, (acc.2.step op).1)) (b, q)).1 = true → b = true
  | [], _, _, h => h
  | _ :: t, _, _, h => (Bool.and_eq_true_iff.mp (guards_true_of_foldl t _ _ h)).1

theorem preach_of_run (c : Int) : ∀ (ops : List POp) (ops0 : List POp) (p0 : Pool) (e0 : List PEv), PReach c ops0 p0 e0 →
    (ops.foldl (fun (acc : Bool × Pool) op => (acc.1 && op.guard acc.2, (acc.2.step op).1)) (true, p0)).1 = true →
    ∃ p e, PReach c (ops0 ++ ops) p e := by
  intro ops
  induction ops with
  | nil => intro ops0 p0 e0 h _; exact ⟨p0, e0, by rwa [List.append_nil]⟩
  | cons op t ih =>
    intro ops0 p0 e0 h hg
    simp only [List.foldl_cons, Bool.true_and] at hg
    have hgo := guards_true_of_foldl t _ _ hg
    rw [hgo] at hg
    obtain ⟨p, e, hr⟩ := ih _ _ _ (.snoc h hgo) hg
    exact ⟨p, e, by rwa [List.append_assoc] at hr⟩

/-- three requests against two workers: the third waits, is admitted by the first `Put` -/
example : ∃ p e, PReach 2 [.getEnter, .getEnter, .getEnter, .put 0 false, .recheck, .gc true, .close] p e :=
  by simpa using preach_of_run 2 [.getEnter, .getEnter, .getEnter, .put 0 false, .recheck, .gc true, .close] [] _ _ .init (by decide)

example : ((Sem.new 100).run [.tryAcq 1 50, .tryAcq 2 60, .acquire 2 60, .acquire 3 200, .release 1]).2 =
    [.admitted 1, .tryFail 2, .queued 2, .doomed 3, .released 1, .woken 2] := by decide

end TLVerif.Props.C39
