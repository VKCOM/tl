import TLVerif.Syntaxtl2.ParserLemmas
import TLVerif.Syntaxtl2.ErrorPrintLemmas
/-! # C20 — TL2 parser is total with in-range error positions

Statement (fixed): for any input text, parsing it as TL2 returns either a file or an error whose reported position
lies inside the text; parsing never panics and printing the error never panics.

All theorems are about the executable model `TLVerif.Syntaxtl2` (lexer `lexTL2`, parser `parseTL2File`, printer
`consolePrint`) and quantify over ALL byte strings. In the model a Go run-time panic (index/slice out of range on the
token iterator, on `fileContent[a:b]`, on `val[1:]`, `log.Panicf`) is the outcome `.panic`, exhausting the recursion
bound is `.nofuel`; `Res.ok` means the Go function returned. The model is tied to the Go code by checks/C20.py. -/
namespace TLVerif.Props.C20
open TLVerif.Syntaxtl2

/-- The lexer returns for every input (no `advance` slices past the end, the loop ends within `len+1` iterations)
and its tokens followed by the unread rest recombine to the input — the invariant `ParseTL2File` would
`log.Panicf` on. -/
theorem lexer_total_recombines (tx : Bytes) : ∃ lx, lexTL2 tx = .ok lx ∧ recombine lx.all lx.rest = tx := by
  obtain ⟨lx, h1, h2, _⟩ := lexTL2_spec tx
  exact ⟨lx, h1, h2⟩

/-- When the lexer reports no error, the token list is non-empty, ends with the only `eof` token, tokens do not
overlap, offsets and line starts are monotone and every token lies inside the text (`Good`), non-`eof` tokens are
non-empty and namespaced identifiers contain their dot (`TokWF`). -/
theorem lexer_tokens_good (tx : Bytes) (lx : Lexed) (h : lexTL2 tx = .ok lx) (he : lx.err = none) :
    lx.toks ≠ [] ∧ Good tx.length lx.toks ∧ ∀ t ∈ lx.toks, TokWF t := by
  have hc := lexTL2_ctx h he
  exact ⟨hc.ne, hc.good, hc.wf⟩

/-- **Totality**: for every input `ParseTL2File` returns — a file or an error; it never panics
(iterator bounds, slices, `log.Panicf` sites) and its recursion is bounded (the termination proof:
`fuelFor toks = 3·|toks|+20` is never exhausted). -/
theorem parse_total (tx : Bytes) : ∃ r, parseTL2File tx = .ok r := by
  obtain ⟨r, h, _⟩ := parseTL2File_total tx
  exact ⟨r, h⟩

theorem parse_never_panics (tx : Bytes) : parseTL2File tx ≠ .panic ∧ parseTL2File tx ≠ .nofuel := by
  obtain ⟨r, h⟩ := parse_total tx
  rw [h]
  exact ⟨nofun, nofun⟩

/-- **Error positions**: every error returned by `ParseTL2File` has `0 ≤ outer ≤ begin ≤ end ≤ |text|`, begins and
ends on the same line whose start is not after `begin`, and the line start of `outer` is not after that line. -/
theorem parse_error_pos_in_text (tx : Bytes) (e : PErr) (h : parseTL2File tx = .ok (.error e)) :
    e.outer.off ≤ e.b.off ∧ e.b.off ≤ e.e.off ∧ e.e.off ≤ tx.length ∧
    e.outer.slo ≤ e.outer.off ∧ e.outer.slo ≤ e.b.slo ∧ e.b.slo ≤ e.b.off ∧ e.e.slo = e.b.slo :=
  (parseTL2File_errFrom h).inText

/-- **Line/column consistency**: the three positions of every error returned by `ParseTL2File` satisfy
`column = offset - startLineOffset + 1`, `startLineOffset ≤ offset`, `line ≥ 1`, and begin and end are on one line
(every error is `parseErrToken(tok, outer)` of lexer tokens, whose positions the lexer keeps consistent). -/
theorem parse_error_columns (tx : Bytes) (e : PErr) (h : parseTL2File tx = .ok (.error e)) :
    (e.outer.col = e.outer.off - e.outer.slo + 1 ∧ 1 ≤ e.outer.line) ∧
    (e.b.col = e.b.off - e.b.slo + 1 ∧ 1 ≤ e.b.line) ∧
    (e.e.col = e.e.off - e.e.slo + 1 ∧ e.e.slo ≤ e.e.off ∧ e.e.line = e.b.line) := by
  obtain ⟨ho, hb, he, hl⟩ := (parseTL2File_errFrom h).columns
  exact ⟨ho.2, hb.2, he.2.1, he.1, hl⟩

/-- **Printing** never panics, for ANY position range (also ones outside the text: `safeRange` and the `if` before
`fc[End.offset:]` guard every slice), any colour and both the error and the warning form. -/
theorem error_print_total (fc : Bytes) (e : PErr) (c : Bytes) (isWarning : Bool) :
    ∃ out, consolePrint fc e c isWarning = .ok out :=
  consolePrint_total fc e c isWarning

/-- For the errors `ParseTL2File` returns, printing additionally never takes the
"beautiful error context corrupted" branch. -/
theorem parse_error_print_not_corrupted (tx : Bytes) (e : PErr) (h : parseTL2File tx = .ok (.error e)) :
    ∃ p, consoleParts tx e = .ok p ∧ p.anyCorrupted = false := by
  obtain ⟨p, hp, hc⟩ := consoleParts_spec tx e
  exact ⟨p, hp, hc (parseTL2File_errFrom h).inText⟩

/-- T1: the census of `panic` / `log.Panicf` sites in the TL2 parser, comments, lexer, error printer and formatter
files is the one the model has a `.panic` branch for (`parseCommentBefore`: unexpected token in whitespace;
`ParseTL2File`: tokenizer invariant). A new site changes the regenerated fact and breaks this theorem. -/
theorem panic_sites_modelled :
    Facts.Syntaxtl2.panicSites = ["tlparser_comments.go:parseCommentBefore:1", "tlparser_tl2_code.go:ParseTL2File:1"] := rfl

/-- T1: the panic sites of `tlparser_code.go`, whose `tokenIterator` the TL2 parser shares: of the iterator's methods only
`skipWS` (modelled) and `expectOrPanic` (not used by the TL2 parser) panic; the other two sites are TL1 functions. -/
theorem iterator_panic_sites_modelled :
    Facts.Syntaxtl2.iteratorPanicSites = ["tlparser_code.go:ParseTLFile:1", "tlparser_code.go:splitIdenNSFromToken:1",
      "tlparser_code.go:tokenIterator.expectOrPanic:1", "tlparser_code.go:tokenIterator.skipWS:1"] := rfl

/-! Both outcomes occur (the statements are not vacuous). -/
def isFile (r : Res (Except PErr File)) : Bool := match r with | .ok (.ok _) => true | _ => false
def isError (r : Res (Except PErr File)) : Bool := match r with | .ok (.error _) => true | _ => false
example : isFile (parseTL2File (bs "a = x:[]m<int,3> // c\n;")) = true := by rw [bs_ofList]; decide +kernel
example : isError (parseTL2File (bs "f#00000000 => int;")) = true := by rw [bs_ofList]; decide +kernel
example : isError (parseTL2File (bs "a = (")) = true := by rw [bs_ofList]; decide +kernel

end TLVerif.Props.C20
