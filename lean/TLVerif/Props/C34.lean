import TLVerif.Jsonp.TokenLemmas
import TLVerif.Jsonp.FloatLemmas
/-!
# C34 — JSON primitive writers emit valid, exactly-decodable JSON

Statement (fixed): *For every string the string writer emits valid JSON that decodes to the same text when the
string is valid UTF-8 and to a base64 object holding the same bytes otherwise, and every number writer emits text
that the JSON readers decode to the same number (floats bit-exactly; NaN and infinities as their documented
strings).*  Quantifier: all byte strings, all uint32/int32/int64/uint64 values, all float32/float64 bit patterns.

Model: `TLVerif.Jsonp.Writer` (`JSONWriteString[Bytes]` twice: `writeStringGo` with the `start`/`i` run bookkeeping
of the Go loop, which the driver executes, and the per-byte `writeString`, proved equal; integer writers, `jsonWriteFloatSpecial` of
`pkg/basictl/basictl.go`), `TLVerif.Jsonp.Reader` (the generated `Json2Read*` helpers over `jlexer`),
`TLVerif.Jsonp.Utf8`, `TLVerif.Jsonp.Base64` (the standard-library routines both sides call).
`safeSet`, `hex`, `binaryJSONStringStart/End` are regenerated from the source (T1).

What is a theorem here: strings, base64, the four integer types and the float specials in full.  For *finite*
floats `strconv.AppendFloat(…,'f',-1,…)` / `ParseFloat` are modelled by an exact-arithmetic specification
(`TLVerif.Jsonp.Float`: correct rounding; the shortest digits, nearest with ties to even, that read back); the
bit-exact round trip is a theorem under the decidable guard that the 20-digit search succeeds
(`float_finite_roundtrip_partial`; the guard is evaluated on every sampled pattern by the differential run, it has
never failed, 9 resp. 17 digits are known to suffice — that fact is not proved here).
-/
namespace TLVerif.Props.C34
open TLVerif.Jsonp

/-- the base64 object `{"base64":"<body>"}` of the JSON grammar -/
def IsJsonB64Object (bs body : Bytes) : Prop :=
  bs = [0x7B] ++ (0x22 :: ([0x62, 0x61, 0x73, 0x65, 0x36, 0x34] ++ [0x22])) ++ [0x3A] ++ (0x22 :: (body ++ [0x22])) ++ [0x7D]
    ∧ JChars body

/-- Go's `utf8.Valid` (table driven; overlongs, surrogates, > U+10FFFF, truncation) is exactly Unicode
well-formedness: a concatenation of encodings of scalar values. -/
theorem utf8_valid_iff_wellformed (s : Bytes) : utf8Valid s = true ↔ WellFormedUtf8 s := by
  constructor
  · exact wellFormed_of_valid s
  · intro h
    induction h with
    | nil => rfl
    | cons c t hs _ ih => rw [(encode_spec c hs t).1]; exact ih

/-- Valid UTF-8 in: the output is an RFC 8259 string (grammar), and by the RFC's meaning of escapes it denotes
exactly the input text. -/
theorem string_valid_and_denotes (s : Bytes) (hv : utf8Valid s = true) :
    IsJsonString (writeString s) ∧ ∃ body, writeString s = 0x22 :: (body ++ [0x22]) ∧ JDec body s := by
  have hd := escape_denotes s hv
  rw [writeString_valid s hv]
  exact ⟨⟨_, rfl, hd.sound.1⟩, _, rfl, hd⟩

/-- Anything else in: the output is the JSON object `{"base64":"…"}` whose value is the standard padded base64 of
the input, and base64-decoding it (Go's decoder) gives the input bytes back. -/
theorem string_invalid_is_base64_object (s : Bytes) (hv : utf8Valid s = false) :
    IsJsonB64Object (writeString s) (b64encode s) ∧ b64decode (b64encode s) = some s := by
  refine ⟨⟨?_, (JDec.ofPlain _ (b64encode_spec s).2).sound.1⟩, (b64encode_spec s).1⟩
  rw [writeString_invalid s hv]; simp

theorem base64_roundtrip (b : Bytes) : b64decode (b64encode b) = some b := (b64encode_spec b).1

/-- `jlexer`'s unescaping computes the RFC denotation (so the round trip below is not an artefact of the reader) -/
theorem jlexer_unescape_sound (raw u : Bytes) (h : JDec raw u) : unescape raw = some u := h.sound.2

/-- The generated reader (`Json2ReadString` / `Json2ReadStringBytes` over `jlexer`), run on what `JSONWriteString`
wrote followed by arbitrary bytes, returns exactly the written bytes and stops right behind them — for **every**
byte string (valid UTF-8 through the string form, everything else through the base64 object). -/
theorem string_roundtrip (s rest : Bytes) : readString (writeString s ++ rest) = .ok s (writeString s).length := by
  cases hv : utf8Valid s
  · exact readString_invalid s rest hv
  · exact readString_valid s rest hv

/-- the reader accepts the base64 object form for any content, also for valid UTF-8 (DESIGN Appendix B: "both forms
accepted for any content") -/
theorem base64_form_accepted_for_any_content (s rest : Bytes) :
    readString ([0x7B, 0x22, 0x62, 0x61, 0x73, 0x65, 0x36, 0x34, 0x22, 0x3A, 0x22] ++ b64encode s ++ [0x22, 0x7D] ++ rest)
      = .ok s ((b64encode s).length + 13) :=
  readString_b64_form s rest

/-- The loop as the Go code runs it — pending run `s[start:i]` copied before every escape and at the end, `start`
reset after — emits exactly what the per-byte loop emits; the driver runs `writeStringGo`, the theorems above are
stated about `writeString`, this equation carries them over. -/
theorem writer_loop_refines (s : Bytes) : writeStringGo s = writeString s := by
  unfold writeStringGo writeString
  rw [escapeGo_eq]

theorem string_roundtrip_go (s rest : Bytes) : readString (writeStringGo s ++ rest) = .ok s (writeStringGo s).length := by
  rw [writer_loop_refines]; exact string_roundtrip s rest

theorem string_writer_injective (s₁ s₂ : Bytes) (h : writeString s₁ = writeString s₂) : s₁ = s₂ := by
  have h1 := string_roundtrip s₁ []
  have h2 := string_roundtrip s₂ []
  rw [h] at h1
  rw [h1] at h2
  injection h2

theorem uint_is_json_number (n : Nat) : IsJsonUInt (formatUint n) := formatUint_json n
theorem int_is_json_number (v : Int) : IsJsonInt (formatInt v) := formatInt_json v

theorem uint32_roundtrip (n : Nat) (h : n < 2 ^ 32) (rest : Bytes) (hr : TokenEnds rest) :
    readUint 32 (formatUint n ++ rest) = .ok n (formatUint n).length
    ∧ readUint 32 (0x22 :: (formatUint n ++ 0x22 :: rest)) = .ok n ((formatUint n).length + 2) :=
  readUint_json (IsJsonInt.fixed (.inl (formatUint_json n))) (parseUint_formatUint n 32 h) rest hr

theorem uint64_roundtrip (n : Nat) (h : n < 2 ^ 64) (rest : Bytes) (hr : TokenEnds rest) :
    readUint 64 (formatUint n ++ rest) = .ok n (formatUint n).length
    ∧ readUint 64 (0x22 :: (formatUint n ++ 0x22 :: rest)) = .ok n ((formatUint n).length + 2) :=
  readUint_json (IsJsonInt.fixed (.inl (formatUint_json n))) (parseUint_formatUint n 64 h) rest hr

theorem int32_roundtrip (v : Int) (hlo : -(2 ^ 31 : Int) ≤ v) (hhi : v < (2 ^ 31 : Int)) (rest : Bytes) (hr : TokenEnds rest) :
    readInt 32 (formatInt v ++ rest) = .ok v (formatInt v).length
    ∧ readInt 32 (0x22 :: (formatInt v ++ 0x22 :: rest)) = .ok v ((formatInt v).length + 2) :=
  readInt_json (formatInt_json v).fixed (parseInt_formatInt 32 v (by omega) hlo hhi) rest hr

theorem int64_roundtrip (v : Int) (hlo : -(2 ^ 63 : Int) ≤ v) (hhi : v < (2 ^ 63 : Int)) (rest : Bytes) (hr : TokenEnds rest) :
    readInt 64 (formatInt v ++ rest) = .ok v (formatInt v).length
    ∧ readInt 64 (0x22 :: (formatInt v ++ 0x22 :: rest)) = .ok v ((formatInt v).length + 2) :=
  readInt_json (formatInt_json v).fixed (parseInt_formatInt 64 v (by omega) hlo hhi) rest hr

/-- `strconv.ParseUint` at one width rejects the written text of a value that does not fit it (range errors are errors) -/
theorem uint_out_of_range_rejected (bits n : Nat) (h : ¬ n < 2 ^ bits) : parseUint (formatUint n) bits = none := by
  rw [parseUint_formatUint_eq, if_neg h]

/-- every float32/float64 bit pattern is written as a documented string iff it is not finite; the string is a JSON
string and `Json2ReadFloat32/64` reads it back as the same class (NaN as a NaN, each infinity as itself), whatever
follows -/
theorem float_special (ebits mbits bits : Nat) (rest : Bytes) :
    (floatClass ebits mbits bits = .finite ∧ writeFloatSpecial (floatClass ebits mbits bits) = none) ∨
    ∃ t, writeFloatSpecial (floatClass ebits mbits bits) = some t ∧ IsJsonString t
      ∧ readFloatSpecial (t ++ rest) = some (floatClass ebits mbits bits, t.length) := by
  by_cases h : floatClass ebits mbits bits = .finite
  · left; rw [h]; exact ⟨rfl, rfl⟩
  · exact .inr (float_special_roundtrip _ h rest)

theorem float_class_fields (ebits mbits bits : Nat) :
    (floatClass ebits mbits bits = .finite ↔ bits / 2 ^ mbits % 2 ^ ebits ≠ 2 ^ ebits - 1) ∧
    (floatClass ebits mbits bits = .nan ↔ bits / 2 ^ mbits % 2 ^ ebits = 2 ^ ebits - 1 ∧ bits % 2 ^ mbits ≠ 0) :=
  ⟨(floatClass_spec ebits mbits bits).1, (floatClass_spec ebits mbits bits).2.1⟩

/-- a float32 / float64 bit pattern -/
def IsPattern (f : FloatFmt) (bits : Nat) : Prop := bits < 2 ^ (1 + (f.mbits + f.ebits))

/-- Full-strength statement for finite floats (the totality of the digit search is the only part that is not proved):
every finite pattern is written as an RFC 8259 number that the reader maps back bit-exactly. -/
def FloatFiniteRoundtrip (f : FloatFmt) : Prop :=
  ∀ bits, IsPattern f bits → floatClass f.ebits f.mbits bits = .finite →
    ∃ t, writeFloat f bits = some t ∧ IsJsonFixed t ∧
      ∀ rest, TokenEnds rest → readFloat f (t ++ rest) = some (.ok bits t.length)

/-- the part that is proved: whenever the model of `AppendFloat(…,'f',-1,bitSize)` produces digits for a finite
pattern (guard: the 20-digit search succeeds), the text is an RFC 8259 number without exponent, `ParseFloat`'s model
maps it to the same bits (±0, subnormals, every exponent), and `Json2ReadFloat32/64` reads it back bit-exactly as a
number token (before the end of input or any token-ending character) and in quoted form. -/
theorem float_finite_roundtrip_partial (f : FloatFmt) (bits : Nat) (hp : IsPattern f bits)
    (hfin : floatClass f.ebits f.mbits bits = .finite) (hguard : (formatFloat f bits).isSome = true) :
    ∃ t, writeFloat f bits = some t ∧ IsJsonFixed t ∧ parseFloatText f t = some bits ∧
      ∀ rest, TokenEnds rest →
        readFloat f (t ++ rest) = some (.ok bits t.length)
        ∧ readFloat f (0x22 :: (t ++ 0x22 :: rest)) = some (.ok bits (t.length + 2)) := by
  obtain ⟨t, ht⟩ := Option.isSome_iff_exists.mp hguard
  obtain ⟨hfix, hparse⟩ := formatFloat_spec f bits t ht
  have hparse := hparse hp
  refine ⟨t, ?_, hfix, hparse, fun rest hr => readFloat_json hfix hparse rest hr⟩
  unfold writeFloat; rw [hfin]; exact ht

/-- the writer model never fails on a non-finite pattern, and a finite pattern is never written as a string -/
theorem float_writer_cases (f : FloatFmt) (bits : Nat) :
    (floatClass f.ebits f.mbits bits ≠ .finite → ∃ t, writeFloat f bits = some t ∧ IsJsonString t) ∧
    (floatClass f.ebits f.mbits bits = .finite → writeFloat f bits = formatFloat f bits) := by
  constructor
  · intro h
    obtain ⟨t, h1, h3, _⟩ := float_special_roundtrip _ h []
    exact ⟨t, by unfold writeFloat; rw [h1], h3⟩
  · intro h; unfold writeFloat; rw [h]; rfl

/-! ## The hypotheses are satisfiable, the branches are all reachable -/

example : formatFloat fmt64 0x3FF8000000000000 = some [0x31, 0x2E, 0x35] := by decide +kernel          -- 1.5
example : formatFloat fmt32 0x3DCCCCCD = some [0x30, 0x2E, 0x31] := by decide +kernel                  -- 0.1f
example : formatFloat fmt64 0x8000000000000000 = some [0x2D, 0x30] := by decide +kernel                -- -0
example : (formatFloat fmt64 0x0000000000000001).isSome = true := by decide +kernel                    -- 5e-324
example : (formatFloat fmt64 0x7FEFFFFFFFFFFFFF).isSome = true := by                                   -- max
  unfold formatFloat
  simp only
  rw [if_neg (by decide +kernel)]
  -- the 17-digit candidate reads back; the sixteen shorter ones need not be looked at
  exact shortestSearch_isSome _ _ _ _ _ _ 20 1 16 (by decide) (by decide +kernel) (by decide +kernel)
example : parseFloatText fmt64 [0x31, 0x65, 0x33, 0x30, 0x39] = none := by decide +kernel              -- 1e309 overflows

example : utf8Valid [0x68, 0x0A, 0x22, 0xE2, 0x80, 0xA8, 0xF0, 0x9F, 0x98, 0x80] = true := by decide
example : utf8Valid [0xED, 0xA0, 0x80] = false := by decide        -- a UTF-8 encoded surrogate
example : utf8Valid [0xC0, 0x80] = false := by decide              -- overlong
example : utf8Valid [0xF4, 0x90, 0x80, 0x80] = false := by decide  -- above U+10FFFF
example : TokenEnds [0x2C, 0x31] := Or.inr ⟨_, _, rfl, by decide⟩
example : floatClass 11 52 0x7FF8000000000001 = .nan := by decide
example : floatClass 8 23 0xFF800000 = .ninf := by decide
example : floatClass 11 52 0x8000000000000000 = .finite := by decide

end TLVerif.Props.C34
