import TLVerif.Codec.Registry
import TLVerif.Codec.TL1Canon
/-!
# C17 — runtime registry consistent with the schema

`registry d` is the model of the generated meta package; `registryOK` is the decidable certificate (names
unique, non-zero tags unique) evaluated by the check on every descriptor the current kernel exports (T3).
Under it, in any item list, lookups by name and by tag return exactly the registered item.  The tag a boxed encoding starts
with (`boxed_starts_with_tag`) is the tag `regItemOf` gives the item of a struct.
-/
namespace TLVerif.Props.C17
open TLVerif.Codec TLVerif.Prim

theorem find_of_nodup {α β} [DecidableEq β] (key : α → β) (l : List α) (x : α)
    (hn : (l.map key).Nodup) (hx : x ∈ l) : l.find? (fun y => key y == key x) = some x := by
  induction l with
  | nil => cases hx
  | cons a t ih =>
    simp only [List.map_cons, List.nodup_cons] at hn
    rw [List.find?_cons]
    rcases List.mem_cons.mp hx with rfl | h1
    · simp
    · have : (key a == key x) = false := beq_false_of_ne fun e => hn.1 (e ▸ List.mem_map_of_mem h1)
      rw [this]
      exact ih hn.2 h1

/-- Names and non-zero tags are pairwise distinct (this *is* the certificate, unfolded). -/
theorem names_and_tags_unique (r : List RegItem) (ok : registryOK r = true) :
    (r.map (·.name)).Nodup ∧ ((r.filter (·.tag != 0)).map (·.tag)).Nodup := by
  unfold registryOK at ok
  simpa only [Bool.and_eq_true, decide_eq_true_eq] using ok

/-- Creating by name returns the registered item. -/
theorem byName_finds (r : List RegItem) (it : RegItem) (ok : registryOK r = true) (h : it ∈ r) :
    byName r it.name = some it :=
  find_of_nodup RegItem.name r it (names_and_tags_unique r ok).1 h

/-- Creating by (non-zero) tag returns the registered item. -/
theorem byTag_finds (r : List RegItem) (it : RegItem) (ok : registryOK r = true) (h : it ∈ r) (ht : it.tag ≠ 0) :
    byTag r it.tag = some it := by
  have hmem : it ∈ r.filter (·.tag != 0) := by simp [List.mem_filter, h, ht]
  have := find_of_nodup (·.tag) (r.filter (·.tag != 0)) it (names_and_tags_unique r ok).2 hmem
  unfold byTag
  rw [List.find?_filter] at this
  rw [← this]
  congr 1
  funext x
  by_cases hx : x.tag = it.tag
  · simp [hx, ht]
  · simp [hx]

/-- Every boxed TL1 encoding of a struct instance starts with the tag of its descriptor. -/
theorem boxed_starts_with_tag (d : Desc) (fuel ty : Nat) (params : List Nat) (v : Val) (s : StructD) (bs : Bytes)
    (hs : d.get? ty = some (.struct s)) (hw : writeTL1 d fuel ty false params v = .ok bs) :
    ∃ body, bs = u32le s.tag ++ body :=
  let ⟨b, e, _⟩ := (writeTL1_boxed hs).mp hw
  ⟨b, e⟩

example : registryOK [{ name := "a.b", tag := 7, isFunction := false, hasTL1 := true, hasTL2 := false, idx := 3 },
                      { name := "a.C", tag := 0, isFunction := false, hasTL1 := true, hasTL2 := true, idx := 4 }] = true := by decide

end TLVerif.Props.C17
