import TLVerif.Codec.ReuseLemmas
import TLVerif.Generated.ReuseFacts
/-!
C09 — decoding into a REUSED object equals decoding into a fresh one (TL1), and `Reset` makes an object equal to a fresh one.

The model `Codec/Reuse.lean` keeps what the generated Go object keeps between two reads (storage of masked-out fields, of
the non-current union variants, slice elements between `len` and `cap`, the dirty state left by a failed read) and
reads IN PLACE the way `qt_struct/qt_union/qt_brackets/qt_dict/qt_maybe.qtpl` do.  `abs : Mem → Val` forgets the stale
storage: it is what the TL1 writer and every other observer is given.  The theorems hold for EVERY descriptor (no
well-formedness hypothesis), every fuel, every input and every old state — also ill-shaped ones; `Reuse.shaped` (see
below) is the invariant that tells which states are reachable, it is not needed as a hypothesis.

TL2 and JSON readers have no memory-level model: for them C09 is tie-only (checks/C09.py `reuse-mixed`).
-/
namespace TLVerif.Props.C09
open TLVerif.Prim TLVerif.Codec TLVerif.Codec.Reuse

/-- Reading into ANY old object: value, unread rest and error are those of the fresh read `readTL1`. -/
theorem read_into_any_eq_fresh (cfg : Cfg) (d : Desc) (fuel ty : Nat) (bare : Bool) (params : List Nat) (old : Mem) (bs : Bytes) :
    obs (readInto cfg d fuel ty bare params old bs) = readTL1 cfg d fuel ty bare params bs :=
  (readInto_spec cfg d fuel ty bare params old bs).1

def readIntoE (cfg : Cfg) (d : Desc) (fuel ty : Nat) (bare : Bool) (params : List Nat) (old : Mem) (bs : Bytes) :
    Except CErr (Mem × Bytes) :=
  match readInto cfg d fuel ty bare params old bs with
  | (m, .ok r) => .ok (m, r)
  | (_, .error e) => .error e

theorem read_into_any_eq_fresh_except (cfg : Cfg) (d : Desc) (fuel ty : Nat) (bare : Bool) (params : List Nat) (old : Mem) (bs : Bytes) :
    (readIntoE cfg d fuel ty bare params old bs).map (fun p => (abs p.1, p.2)) = readTL1 cfg d fuel ty bare params bs := by
  rw [← read_into_any_eq_fresh cfg d fuel ty bare params old bs]
  unfold readIntoE
  cases readInto cfg d fuel ty bare params old bs with
  | mk m r => cases r <;> rfl

/-- one operation on the object: a decode (with its own recursion budget, as the driver gives it) or `Reset()` -/
inductive HStep where
  | read (fuel : Nat) (bs : Bytes)
  | reset (fuel : Nat)

/-- what the caller sees after an operation: result of the decode / the object after `Reset` -/
inductive HObs where
  | read (r : RRes)
  | reset (v : Val)

variable (cfg : Cfg) (d : Desc) (ty : Nat) (bare : Bool) (params : List Nat)

/-- one operation applied to the object `old`: the object left behind (dirty after an error) and the observation -/
def applyStep (old : Mem) : HStep → Mem × HObs
  | .read fuel bs =>
    let r := readInto cfg d fuel ty bare params old bs
    (r.1, .read (obs r))
  | .reset fuel =>
    let m := resetMem d fuel ty old
    (m, .reset (abs m))

/-- a history of operations on ONE object -/
def history : Mem → List HStep → Mem × List HObs
  | old, [] => (old, [])
  | old, s :: rest =>
    let a := applyStep cfg d ty bare params old s
    let h := history a.1 rest
    (h.1, a.2 :: h.2)

/-- the same operation applied to a freshly created object -/
def freshStep : HStep → HObs
  | .read fuel bs => .read (readTL1 cfg d fuel ty bare params bs)
  | .reset fuel => .reset (abs (freshMem d fuel ty))

/-- every `Reset` of the history is of a type whose zero value is a finite term (T3: evaluated for every factory item,
`codec.z1`); `history_independent` and `history_last` carry it, their proofs do not use it -/
def resetsOk : List HStep → Prop
  | [] => True
  | .reset fuel :: rest => (Z.zeroVal d fuel ty).isSome ∧ resetsOk rest
  | _ :: rest => resetsOk rest

theorem applyStep_obs (old : Mem) (s : HStep) :
    (applyStep cfg d ty bare params old s).2 = freshStep cfg d ty bare params s := by
  cases s with
  | read fuel bs => exact congrArg HObs.read (readInto_spec cfg d fuel ty bare params old bs).1
  | reset fuel =>
    obtain ⟨-, hreset⟩ := reset_spec d fuel ty
    obtain ⟨hobs, -⟩ := hreset old
    exact congrArg HObs.reset hobs

theorem history_obs (old : Mem) (steps : List HStep) :
    (history cfg d ty bare params old steps).2 = steps.map (freshStep cfg d ty bare params) := by
  induction steps generalizing old with
  | nil => rfl
  | cons s rest ih => simp only [history, List.map_cons, ih, applyStep_obs]

/-- Every observation of a history on one object — whatever that object held before — is the observation the same
operation gives on a fresh object. -/
theorem history_independent (old : Mem) (steps : List HStep) (h : resetsOk d ty steps) :
    (history cfg d ty bare params old steps).2 = steps.map (freshStep cfg d ty bare params) :=
  -- `h` is not needed: `Reset` is observed as creation for every descriptor (`reset_spec`)
  have _ := h
  history_obs cfg d ty bare params old steps

theorem history_last (old : Mem) (steps : List HStep) (fuel : Nat) (bs : Bytes) (h : resetsOk d ty steps) :
    (history cfg d ty bare params old (steps ++ [.read fuel bs])).2.getLast? =
      some (.read (readTL1 cfg d fuel ty bare params bs)) := by
  have _ := h
  rw [history_obs]
  simp [freshStep]

/-- `Reset` makes any object equal to a fresh one: both are the zero value `Z.zeroVal`. -/
theorem reset_eq_fresh (d : Desc) (fuel ty : Nat) (old : Mem) (z : Val) (h : Z.zeroVal d fuel ty = some z) :
    abs (resetMem d fuel ty old) = abs (freshMem d fuel ty) ∧ abs (freshMem d fuel ty) = z := by
  obtain ⟨-, hreset⟩ := reset_spec d fuel ty
  obtain ⟨hobs, -⟩ := hreset old
  exact ⟨hobs, fresh_abs d fuel ty z h⟩

/-! ### shape of memory states

`Reuse.shaped d m ty` (ReuseLemmas.lean) is Go's static typing of the object: a struct cell holds field storages of the field
types, a union cell an index in range and variant storages, a slice cell elements and stale cells of the element type
(a fixed array exactly `count` of them), `nil` anywhere, missing trailing storage read as `nil`.  The theorems above hold
for every `old`, shaped or not (the accessors of the model are total), so the predicate is not a hypothesis of anything;
it is an invariant of histories: created objects are shaped, `Reset` and every read — successful or failed — keep it. -/

theorem fresh_shaped (d : Desc) (fuel ty : Nat) : shaped d (freshMem d fuel ty) ty = true := by
  obtain ⟨⟨hfresh, -⟩, -⟩ := reset_spec d fuel ty
  exact hfresh

theorem reset_shaped (d : Desc) (fuel ty : Nat) (old : Mem) (h : shaped d old ty = true) :
    shaped d (resetMem d fuel ty old) ty = true := by
  obtain ⟨-, hreset⟩ := reset_spec d fuel ty
  obtain ⟨-, hkeeps⟩ := hreset old
  exact hkeeps h

/-- the object left behind by a read (also by a failed one: the dirty object) is shaped -/
theorem read_into_shaped (cfg : Cfg) (d : Desc) (fuel ty : Nat) (bare : Bool) (params : List Nat) (old : Mem) (bs : Bytes)
    (h : shaped d old ty = true) : shaped d (readInto cfg d fuel ty bare params old bs).1 ty = true :=
  (readInto_spec cfg d fuel ty bare params old bs).2 h

theorem history_shaped (old : Mem) (steps : List HStep) (h : shaped d old ty = true) :
    shaped d (history cfg d ty bare params old steps).1 ty = true := by
  induction steps generalizing old with
  | nil => exact h
  | cons s rest ih =>
    cases s with
    | read fuel bs => exact ih _ (read_into_shaped cfg d fuel ty bare params old bs h)
    | reset fuel => exact ih _ (reset_shaped d fuel ty old h)

def fld (name : String) (ty : Nat) (bare : Bool := true) (mask : Option (NatArg × Nat) := none) : Field :=
  { name, ty, bare, mask, tl2bit := none, isBit := false, natArgs := [] }

/-- `s m:# a:m.0?# u:U v:(vector #) = S;  a x:# = U;  b = U;` -/
def exDesc : Desc := { insts := #[
  .prim .u32,
  .struct { tag := 1, nparams := 0, fields := [fld "m" 0, fld "a" 0 (mask := some (.field 0, 0)), fld "u" 2 (bare := false), fld "v" 5] },
  .union { variants := [(3, "a"), (4, "b")], elemNatArgs := [], nparams := 0, isEnum := false, isMaybe := false, hasTL2 := false },
  .struct { tag := 10, nparams := 0, fields := [fld "x" 0] },
  .struct { tag := 11, nparams := 0, fields := [] },
  .array { isTuple := false, dynamic := false, count := 0, nparams := 0, elem := fld "" 0, hasTL2 := false }] }

/-- a dirty object: masked-out field `a` holds garbage 99, the union is at variant `a` with x = 7, the vector has 3
elements and one more stale cell behind them -/
def exDirty : Mem :=
  .struct [(true, .nat 0), (false, .nat 99), (true, .union 0 [.struct [(true, .nat 7)], .nil]),
           (true, .vec [.nat 1, .nat 2, .nat 3] [.nat 4])]

/-- `m = 0` (so `a` is absent), `u = b`, `v = [5]` -/
def exInput : Bytes := [0,0,0,0, 11,0,0,0, 1,0,0,0, 5,0,0,0]

/-- The hypotheses are satisfiable and the conclusion is not trivial: after the read the object still holds the stale
variant `a` (x = 7) and the stale slice cells 2, 3, 4 behind the one-element vector, the masked-out `a` was reset from 99
to 0 — and the observation is exactly the fresh decode. -/
theorem dirty_example :
    readInto {} exDesc 5 1 true [] exDirty exInput =
      (.struct [(true, .nat 0), (false, .nat 0), (true, .union 1 [.struct [(true, .nat 7)], .struct []]),
                (true, .vec [.nat 5] [.nat 2, .nat 3, .nat 4])], .ok []) ∧
    obs (readInto {} exDesc 5 1 true [] exDirty exInput) = readTL1 {} exDesc 5 1 true [] exInput ∧
    readTL1 {} exDesc 5 1 true [] exInput =
      .ok (.struct [some (.nat 0), none, some (.union 1 (.struct [])), some (.arr [.nat 5])], []) ∧
    abs exDirty = .struct [some (.nat 0), none, some (.union 0 (.struct [some (.nat 7)])), some (.arr [.nat 1, .nat 2, .nat 3])] ∧
    shaped exDesc exDirty 1 = true :=
  ⟨by rfl, read_into_any_eq_fresh .., by rfl, by rfl, by rfl⟩

/-! ### T1: template sites the model relies on (regenerated from `internal/puregen/gengo/qt_*.qtpl.go` on every run) -/

open TLVerif.Facts.Reuse in
/-- `readFields`: exactly one mask test with an `else`, and `TypeResettingCode` is emitted after the in-place
`EnsureRecursive; TypeReadingCode` of the same field: the `some false` branch of `readFieldsInto` (`rs f.ty o`). -/
theorem struct_else_branch_resets :
    structReadElseSites = 1 ∧
    (structReadFieldsCalls.filter (· == "TypeReadingCode")).length = 1 ∧
    (structReadFieldsCalls.filter (· == "TypeResettingCode")).length = 1 ∧
    (structReadFieldsCalls.filter (· == "EnsureRecursive")).length = 1 ∧
    ((structReadFieldsCalls.dropWhile (· != "EnsureRecursive")).dropWhile (· != "TypeReadingCode")).contains "TypeResettingCode" = true := by
  decide +kernel

open TLVerif.Facts.Reuse in
/-- `Reset()` of a struct runs `TypeResettingCode` for its fields (`resetFieldsWith`) -/
theorem struct_reset_resets : (structResetFieldsCalls.filter (· == "TypeResettingCode")).length = 1 := by decide +kernel

open TLVerif.Facts.Reuse in
/-- vectors and dynamic tuples: one capacity test and one re-slice per reader (`reslice`) -/
theorem vector_reslices :
    vectorCapTestSites = 1 ∧ vectorResliceSites = 1 ∧ tupleCapTestSites = 2 ∧ tupleResliceSites = 2 ∧ dictSliceResliceSites = 1 := by
  decide

open TLVerif.Facts.Reuse in
/-- map dictionaries are cleared by all three readers (TL1, TL2, JSON) before the refill, and by `Reset` -/
theorem dict_cleared : dictClearSites = 3 ∧ dictResetClearSites = 1 := by decide

open TLVerif.Facts.Reuse in
/-- the union readers assign `item.index` (TL1, TL2, JSON, ResetTo/Set), `Maybe` clears `Ok` in Reset and both TL2 paths -/
theorem union_index_assigned : unionIndexAssignSites = 5 ∧ maybeOkFalseSites = 3 := by decide

end TLVerif.Props.C09
