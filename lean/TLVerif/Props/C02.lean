import TLVerif.Codec.TL1Canon
import TLVerif.Codec.TL1Example
/-!
# C02 — TL1 readers accept only canonical encodings

Model: `TLVerif/Codec/TL1.lean` (`readTL1`/`writeTL1` over a schema descriptor), tied to the generated
Go code by the differential run of `checks/C02.py`.

Full-strength statement (`TL1CanonicalStatement`): whatever the reader accepts is, byte for byte, the
writer's output for the decoded value followed by the unread rest.  It is **false** for two kinds of
instance, both shown by concrete counter-examples below:

* map-backed dictionaries (`Inst.dict`): Go decodes into `map[K]V`, so duplicate / unsorted keys are
  accepted and re-encoded sorted and deduplicated (`tl1_canonical_fails_at_dict`);
* a lone TL2 `bit` primitive (`Inst.prim .bit`): the model reader returns `false` consuming nothing
  and the model TL1 writer refuses it (`tl1_canonical_fails_at_bit`); it never occurs as a TL1 type of
  its own in exported descriptors, the guard `Desc.noBit` states that.

Proved: `tl1_canonical_on`: the statement for every type of a set `S` of instances that is closed under
type references (`Desc.closed`, decidable; e.g. `d.reach ty`) and contains neither a dictionary nor `bit`
— so a dictionary somewhere in a schema does not spoil the theorem for the types that cannot reach it
(real descriptors do contain dictionaries and an unreferenced `bit` instance); `tl1_canonical` is the
whole-descriptor special case (`Desc.noDict`, `Desc.noBit`);
`tl1_canonical_dict_partial(_on)` (dictionaries allowed): the re-encoding exists and is not longer than
what was consumed.
-/
namespace TLVerif.Props.C02
open TLVerif.Prim TLVerif.Codec

def TL1CanonicalStatement (cfg : Cfg) (d : Desc) : Prop :=
  ∀ (fuel ty : Nat) (bare : Bool) (params : List Nat) (bs : Bytes) (v : Val) (rest : Bytes),
    readTL1 cfg d fuel ty bare params bs = .ok (v, rest) →
    ∃ pre, bs = pre ++ rest ∧ writeTL1 d fuel ty bare params v = .ok pre

/-- **C02** on a reference-closed set `S` of instances -/
theorem tl1_canonical_on (cfg : Cfg) (d : Desc) (S : Nat → Bool) (hcl : d.closed S = true)
    (hnd : d.allOn S (fun i => !i.isDict) = true) (hnb : d.allOn S (fun i => !i.isBitPrim) = true)
    (fuel ty : Nat) (bare : Bool) (params : List Nat) (bs : Bytes) (v : Val) (rest : Bytes)
    (hS : S ty = true) (h : readTL1 cfg d fuel ty bare params bs = .ok (v, rest)) :
    ∃ pre, bs = pre ++ rest ∧ writeTL1 d fuel ty bare params v = .ok pre := by
  obtain ⟨pre, e, _, hc⟩ := readTL1M_canonNm ByteRel.eq .map (fun _ => true) cfg d S hcl hnb (Or.inl hnd) fuel
    (readTL1M_map _ cfg d fuel ▸ h)
  obtain ⟨⟨w, hw, r⟩, _⟩ := hc hS
  exact ⟨pre, e, by rw [hw, r]⟩

/-- **C02** for descriptors without map-backed dictionaries (and without a TL2 `bit` instance). -/
theorem tl1_canonical (cfg : Cfg) (d : Desc) (hnd : d.noDict = true) (hnb : d.noBit = true) :
    TL1CanonicalStatement cfg d := by
  intro fuel ty bare params bs v rest h
  exact tl1_canonical_on cfg d allInsts (Desc.closed_all d) (Desc.allOn_all hnd _) (Desc.allOn_all hnb _)
    fuel ty bare params bs v rest rfl h

/-- **C02**, general version (dictionaries allowed): the decoded value (with dictionaries normalised
by `dictNormalize`: sorted by key, a later duplicate replacing an earlier one) is accepted by the writer, and its
encoding is not longer than the consumed prefix. -/
theorem tl1_canonical_dict_partial_on (cfg : Cfg) (d : Desc) (S : Nat → Bool) (hcl : d.closed S = true)
    (hnb : d.allOn S (fun i => !i.isBitPrim) = true)
    (fuel ty : Nat) (bare : Bool) (params : List Nat) (bs : Bytes) (v : Val) (rest : Bytes)
    (hS : S ty = true) (h : readTL1 cfg d fuel ty bare params bs = .ok (v, rest)) :
    ∃ pre, bs = pre ++ rest ∧ ∃ w, writeTL1 d fuel ty bare params v = .ok w ∧ w.length ≤ pre.length := by
  obtain ⟨pre, e, _, hc⟩ := readTL1M_canonNm ByteRel.le .map (fun _ => true) cfg d S hcl hnb (Or.inr (StoreCanon.map _)) fuel
    (readTL1M_map _ cfg d fuel ▸ h)
  obtain ⟨⟨w, hw, r⟩, _⟩ := hc hS
  exact ⟨pre, e, w, hw, r⟩

theorem tl1_canonical_dict_partial (cfg : Cfg) (d : Desc) (hnb : d.noBit = true)
    (fuel ty : Nat) (bare : Bool) (params : List Nat) (bs : Bytes) (v : Val) (rest : Bytes)
    (h : readTL1 cfg d fuel ty bare params bs = .ok (v, rest)) :
    ∃ pre, bs = pre ++ rest ∧ ∃ w, writeTL1 d fuel ty bare params v = .ok w ∧ w.length ≤ pre.length :=
  tl1_canonical_dict_partial_on cfg d allInsts (Desc.closed_all d) (Desc.allOn_all hnb _)
    fuel ty bare params bs v rest rfl h

theorem tl1_read_prefix (cfg : Cfg) (d : Desc) (hnb : d.noBit = true)
    (fuel ty : Nat) (bare : Bool) (params : List Nat) (bs : Bytes) (v : Val) (rest : Bytes)
    (h : readTL1 cfg d fuel ty bare params bs = .ok (v, rest)) : ∃ pre, bs = pre ++ rest := by
  obtain ⟨pre, e, _⟩ := tl1_canonical_dict_partial cfg d hnb fuel ty bare params bs v rest h
  exact ⟨pre, e⟩

/-- dictionary `{1→2, 1→3}` (duplicate key) is accepted, decoded to `{1→3}`, whose encoding differs. -/
theorem tl1_canonical_fails_at_dict : ¬ TL1CanonicalStatement {} Ex.dictD := by
  intro h
  obtain ⟨pre, e, hw⟩ := h 3 2 true [] [2,0,0,0, 1,0,0,0, 2,0,0,0, 1,0,0,0, 3,0,0,0] _ _ rfl
  cases hw
  -- 20 bytes read, 12 written
  cases e

/-- a lone `bit` reads as `false` from no bytes but is refused by the TL1 writer. -/
theorem tl1_canonical_fails_at_bit : ¬ TL1CanonicalStatement {} Ex.bitD := by
  intro h
  obtain ⟨pre, _, hw⟩ := h 1 0 true [] [] _ _ rfl
  cases hw

def noVariantWithTag (d : Desc) (tag : Nat) (vs : List (Nat × String)) : Bool :=
  vs.all (fun p => match d.get? p.1 with | some (.struct s) => s.tag != tag | _ => true)

theorem findVariant_none_of (d : Desc) (tag : Nat) (vs : List (Nat × String)) (j : Nat)
    (h : noVariantWithTag d tag vs = true) : findVariant d tag vs j = none := by
  cases hf : findVariant d tag vs j with
  | none => rfl
  | some p =>
    -- the variant found would be a struct of `vs` with this tag
    obtain ⟨s, nm, _, _, hv, hg, ht⟩ := findVariant_spec d tag vs j hf
    have := List.all_eq_true.mp h _ (List.mem_of_getElem? hv)
    simp [hg, ht] at this

/-- a union whose input starts with a tag matching no variant is rejected (`.rej`, not EOF, nothing decoded) -/
theorem rejects_unknown_tag (cfg : Cfg) (d : Desc) (fuel ty : Nat) (bare : Bool) (params : List Nat) (u : UnionD)
    (tag : Nat) (rest : Bytes) (hg : d.get? ty = some (.union u))
    (hno : noVariantWithTag d (tag % 4294967296) u.variants = true) :
    readTL1 cfg d (fuel + 1) ty bare params (u32le tag ++ rest) = .error .rej := by
  simp only [readTL1, hg, readU32_u32le, findVariant_none_of d _ _ _ hno]

theorem rejects_wrong_struct_tag (cfg : Cfg) (d : Desc) (fuel ty : Nat) (params : List Nat) (s : StructD)
    (tag : Nat) (rest : Bytes) (hg : d.get? ty = some (.struct s)) (hne : tag % 4294967296 ≠ s.tag) :
    readTL1 cfg d (fuel + 1) ty false params (u32le tag ++ rest) = .error .rej := by
  simp only [readTL1, hg, Bool.false_eq_true, if_false, readExactTag_wrong hne]

theorem rejects_bad_bool (cfg : Cfg) (d : Desc) (fuel ty : Nat) (bare : Bool) (params : List Nat) (f t : Nat)
    (tag : Nat) (rest : Bytes) (hg : d.get? ty = some (.prim (.bool f t)))
    (hf : tag % 4294967296 ≠ f) (ht : tag % 4294967296 ≠ t) :
    readTL1 cfg d (fuel + 1) ty bare params (u32le tag ++ rest) = .error .rej := by
  simp only [readTL1, hg, readPrim, readU32_u32le, if_neg hf, if_neg ht]

/-- strings: what is accepted is exactly `stringWrite` of the decoded string; together with
`Props.C33.string_read_canonical` this is "non-minimal length forms and non-zero padding are rejected" -/
theorem string_only_canonical (cfg : Cfg) (d : Desc) (fuel ty : Nat) (bare : Bool) (params : List Nat)
    (bs : Bytes) (v : Val) (rest : Bytes) (hg : d.get? ty = some (.prim .str))
    (h : readTL1 cfg d (fuel + 1) ty bare params bs = .ok (v, rest)) :
    ∃ s pre, v = .str s ∧ stringWrite s = some pre ∧ bs = pre ++ rest := by
  simp only [readTL1, hg, readPrim] at h
  cases h1 : stringRead bs with
  | error e => rw [h1] at h; cases h
  | ok p =>
    obtain ⟨s, r⟩ := p
    rw [h1] at h; injection h with h; injection h with h2 h3
    subst h2; subst h3
    obtain ⟨pre, hw, e⟩ := string_read_canonical _ _ _ h1
    exact ⟨s, pre, rfl, hw, e⟩

/-- a string with a non-minimal length form (`fe 01 00 00 'a'…`: medium header for length 1) is rejected -/
example : readTL1 {} Ex.demo 1 3 true [] [0xfe, 1, 0, 0, 0x61, 0, 0, 0] = .error .rej := by rfl
/-- a string with non-zero padding is rejected -/
example : readTL1 {} Ex.demo 1 3 true [] [1, 0x61, 0, 1] = .error .rej := by rfl

example : Ex.demo.noDict = true ∧ Ex.demo.noBit = true := by decide
example : readTL1 {} Ex.demo 3 4 false [] (Ex.demoBytes ++ [9, 9]) = .ok (Ex.demoVal, [9, 9]) := by rfl
example : writeTL1 Ex.demo 3 4 false [] Ex.demoVal = .ok Ex.demoBytes := by rfl
example : ∃ pre, Ex.demoBytes ++ [9, 9] = pre ++ [9, 9] ∧ writeTL1 Ex.demo 3 4 false [] Ex.demoVal = .ok pre :=
  tl1_canonical {} Ex.demo (by decide) (by decide) 3 4 false [] _ _ _ (by rfl)
/-- a schema with a dictionary: the struct `holder` (index 3) cannot reach it, and the theorem applies to it -/
example : Ex.mixedD.noDict = false ∧ Ex.mixedD.closed (Ex.mixedD.reach 3) = true ∧
    Ex.mixedD.allOn (Ex.mixedD.reach 3) (fun i => !i.isDict) = true ∧
    Ex.mixedD.allOn (Ex.mixedD.reach 3) (fun i => !i.isBitPrim) = true ∧ Ex.mixedD.reach 3 3 = true := by decide
example : readTL1 {} Ex.unionD 2 3 false [] [0xc, 0, 0, 0] = .error .rej :=
  rejects_unknown_tag {} Ex.unionD 1 3 false [] _ 0xc [] rfl (by decide)

end TLVerif.Props.C02
