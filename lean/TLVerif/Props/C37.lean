import TLVerif.Acks.AcksBuildLemmas
import TLVerif.Acks.AcksCanonLemmas
import TLVerif.Acks.HeapLemmas
/-!
# C37 — UDP acknowledgement bookkeeping is exact

Property theorems only (helper lemmas: `TLVerif/Acks/AcksLemmas.lean`, `AcksBuildLemmas.lean`, `AcksCanonLemmas.lean`,
`HeapLemmas.lean`).  All statements are about the model of `pkg/rpc/udp/acks.go` in `TLVerif/Acks/Acks.lean`, with
`MaxAckSet` regenerated from the source (`Generated/AcksFacts.lean`).

Quantifier: *all* histories `ops : List (from, to)` from *any* initial prefix, under the explicit wrap-free guard
`WrapFree ops` (`from ≤ to` and `to < 2^32 - 1` for every recorded range) — `guard_needed_*` show the guard is tight.
-/
namespace TLVerif.Props.C37
open TLVerif.Acks TLVerif.Facts.Acks

/-- The state after a history that starts from `AcksToSend{ackPrefix: p0}` (`p0 = 0` is `AcksToSend{}`). -/
def after (p0 : Nat) (ops : List (Nat × Nat)) : AcksToSend := run ⟨p0, []⟩ ops

/-- The union of the recorded ranges (an initial prefix `p0` stands for everything below it). -/
def recorded (p0 : Nat) (ops : List (Nat × Nat)) (n : Nat) : Prop := n < p0 ∨ inOps ops n

/-- T1: the one fact about the constant the bounds below need. -/
theorem maxAckSet_pos : 1 ≤ maxAckSet := by decide

theorem inv_initial (p0 : Nat) (h : p0 ≤ 4294967295) : Inv ⟨p0, []⟩ := ⟨h, trivial⟩

/-- `Inv` read in the usual way: prefix < every range start (in particular `prefix < first.from`), every range
non-empty and wrap-free, and ranges pairwise sorted, disjoint and non-adjacent (`r.to + 1 < s.from` for `r` before `s`). -/
theorem inv_meaning (a : AcksToSend) (hi : Inv a) :
    (∀ r ∈ a.ranges, a.ackPrefix < r.ackFrom ∧ r.ackFrom ≤ r.ackTo ∧ r.ackTo < 4294967295) ∧
    a.ranges.Pairwise (fun r s => r.ackTo + 1 < s.ackFrom) := by
  obtain ⟨p, l⟩ := a
  replace hi : sortedFrom p l := hi.2
  induction l generalizing p with
  | nil => exact ⟨fun _ h => (nomatch h), List.Pairwise.nil⟩
  | cons r rest ih =>
    obtain ⟨h1, h2, h3, h4⟩ := hi
    obtain ⟨i1, i2⟩ := ih (r.ackTo + 1) h4
    exact ⟨List.forall_mem_cons.mpr ⟨⟨h1, h2, h3⟩, fun s hs =>
        ⟨Nat.lt_trans (Nat.lt_of_lt_of_le h1 h2) (Nat.lt_of_succ_lt (i1 s hs).1), (i1 s hs).2⟩⟩,
      List.pairwise_cons.mpr ⟨fun s hs => (i1 s hs).1, i2⟩⟩

theorem invariant_preserved (a : AcksToSend) (f t : Nat) (hi : Inv a) (hft : f ≤ t) (ht : t < 4294967295) :
    Inv (addAckRange a f t) := (addAckRange_spec a f t hi hft ht).1

/-- One `AddAckRange` adds exactly the recorded range to the represented set. -/
theorem add_set (a : AcksToSend) (f t : Nat) (hi : Inv a) (hft : f ≤ t) (ht : t < 4294967295) (n : Nat) :
    (addAckRange a f t).mem n ↔ (a.mem n ∨ (f ≤ n ∧ n ≤ t)) := (addAckRange_spec a f t hi hft ht).2 n

/-- After any history the set is kept as a prefix plus sorted, disjoint, non-adjacent ranges. -/
theorem invariant_after_history (p0 : Nat) (ops : List (Nat × Nat)) (hp : p0 ≤ 4294967295) (hw : WrapFree ops) :
    Inv (after p0 ops) := (run_spec (inv_initial p0 hp) hw).1

/-- After any history the acknowledgement set equals the union of the recorded ranges. -/
theorem set_eq_union (p0 : Nat) (ops : List (Nat × Nat)) (hp : p0 ≤ 4294967295) (hw : WrapFree ops) (n : Nat) :
    (after p0 ops).mem n ↔ recorded p0 ops n :=
  ((run_spec (inv_initial p0 hp) hw).2 n).trans (or_congr_left (or_iff_left (memRanges_nil n).mp))

/-- The acknowledgement header never acknowledges an unrecorded number. -/
theorem buildAck_sound (p0 : Nat) (ops : List (Nat × Nat)) (hp : p0 ≤ 4294967295) (hw : WrapFree ops) (n : Nat)
    (h : ackedBy (buildAck (after p0 ops)) n) : recorded p0 ops n :=
  (set_eq_union p0 ops hp hw n).mp (Acks.buildAck_sound _ (invariant_after_history p0 ops hp hw) n h)

/-- Exact content of the header: `prefix-1` (absent for prefix 0), the first range, and the first `MaxAckSet`
numbers of the remaining ranges in ascending order (absent when empty). -/
theorem buildAck_exact (p0 : Nat) (ops : List (Nat × Nat)) (hp : p0 ≤ 4294967295) (hw : WrapFree ops) :
    buildAck (after p0 ops) =
      { pfx := if (after p0 ops).ackPrefix > 0 then some ((after p0 ops).ackPrefix - 1) else none
        range := (after p0 ops).ranges.head?.map fun r => (r.ackFrom, r.ackTo)
        set := nonEmptyOpt ((enumRanges (after p0 ops).ranges.tail).take maxAckSet) } :=
  buildAck_eq _ (invariant_after_history p0 ops hp hw)

/-- The explicit acknowledgement set is never flagged empty and never longer than `MaxAckSet`. -/
theorem buildAck_set_bound (p0 : Nat) (ops : List (Nat × Nat)) (hp : p0 ≤ 4294967295) (hw : WrapFree ops) (s : List Nat)
    (h : (buildAck (after p0 ops)).set = some s) : s.length ≤ maxAckSet ∧ s ≠ [] := by
  rw [buildAck_exact p0 ops hp hw] at h
  obtain ⟨rfl, h2⟩ := nonEmptyOpt_some h
  exact ⟨List.length_take_le .., h2⟩

/-- Conversely a recorded number *is* acknowledged when it is below the prefix, in the first range, or the ranges
after the first hold at most `MaxAckSet` numbers. -/
theorem buildAck_complete (p0 : Nat) (ops : List (Nat × Nat)) (hp : p0 ≤ 4294967295) (hw : WrapFree ops) (n : Nat)
    (hr : recorded p0 ops n)
    (hfit : n < (after p0 ops).ackPrefix ∨ (∃ r, (after p0 ops).ranges.head? = some r ∧ r.mem n) ∨
      (enumRanges (after p0 ops).ranges.tail).length ≤ maxAckSet) :
    ackedBy (buildAck (after p0 ops)) n := by
  rw [ackedBy_buildAck _ (invariant_after_history p0 ops hp hw)]
  rcases hfit with hf | hf | hf
  · exact Or.inl hf
  · exact Or.inr (Or.inl hf)
  · rw [List.take_of_length_le hf, mem_enumRanges, ← memRanges_head_tail]
    exact (set_eq_union p0 ops hp hw n).mpr hr

/-- The resend request never requests a recorded number. -/
theorem buildNack_sound (p0 : Nat) (ops : List (Nat × Nat)) (hp : p0 ≤ 4294967295) (hw : WrapFree ops) (n : Nat)
    (h : requestedBy (buildNegativeAck (after p0 ops)) n) : ¬ recorded p0 ops n := fun hr => by
  have hi := invariant_after_history p0 ops hp hw
  rw [buildNegativeAck_eq _ hi maxAckSet_pos] at h
  exact ((requestedBy_holes _ hi n).mp (requestedBy_take h)).1 ((set_eq_union p0 ops hp hw n).mpr hr)

/-- Exact content of the resend request: the first `MaxAckSet` holes below the last range, in order. -/
theorem buildNack_exact (p0 : Nat) (ops : List (Nat × Nat)) (hp : p0 ≤ 4294967295) (hw : WrapFree ops) :
    buildNegativeAck (after p0 ops) = (gapsFrom (after p0 ops).ackPrefix (after p0 ops).ranges).take maxAckSet :=
  buildNegativeAck_eq _ (invariant_after_history p0 ops hp hw) maxAckSet_pos

/-- At most `MaxAckSet` resend ranges, each a non-empty wrap-free interval. -/
theorem buildNack_bound (p0 : Nat) (ops : List (Nat × Nat)) (hp : p0 ≤ 4294967295) (hw : WrapFree ops) :
    (buildNegativeAck (after p0 ops)).length ≤ maxAckSet ∧
    ∀ g ∈ buildNegativeAck (after p0 ops), g.1 ≤ g.2 ∧ g.2 < 4294967295 := by
  rw [buildNack_exact p0 ops hp hw]
  exact ⟨List.length_take_le .., fun g hg =>
    gapsFrom_nonempty (invariant_after_history p0 ops hp hw).2 g (List.mem_of_mem_take hg)⟩

/-- Conversely every unrecorded number below some recorded range is requested when there are at most
`MaxAckSet` ranges. -/
theorem buildNack_complete (p0 : Nat) (ops : List (Nat × Nat)) (hp : p0 ≤ 4294967295) (hw : WrapFree ops)
    (hfit : (after p0 ops).ranges.length ≤ maxAckSet) (n : Nat) (hn : ¬ recorded p0 ops n)
    (hb : ∃ r ∈ (after p0 ops).ranges, n ≤ r.ackTo) : requestedBy (buildNegativeAck (after p0 ops)) n := by
  rw [buildNack_exact p0 ops hp hw, List.take_of_length_le (by rw [gapsFrom_length]; exact hfit)]
  exact (requestedBy_holes _ (invariant_after_history p0 ops hp hw) n).mpr
    ⟨fun hm => hn ((set_eq_union p0 ops hp hw n).mp hm), hb⟩

/-- The repository's own `checkInvariantsCommon` never reports an error after any history. -/
theorem checkInvariants_silent (p0 : Nat) (ops : List (Nat × Nat)) (hp : p0 ≤ 4294967295) (hw : WrapFree ops) :
    checkInvariantsCommon (after p0 ops) = 0 :=
  checkInvariantsCommon_zero _ (invariant_after_history p0 ops hp hw)

/-! ### Exactness beyond the statement: the state is a function of the recorded set -/

/-- The representation is canonical: two histories that record the same numbers end in the *same* state
(same prefix, same ranges), whatever the order, batching or duplication of the recorded ranges. -/
theorem state_determined_by_set (p0 p0' : Nat) (ops ops' : List (Nat × Nat)) (hp : p0 ≤ 4294967295) (hp' : p0' ≤ 4294967295)
    (hw : WrapFree ops) (hw' : WrapFree ops') (h : ∀ n, recorded p0 ops n ↔ recorded p0' ops' n) :
    after p0 ops = after p0' ops' :=
  state_unique _ _ (invariant_after_history p0 ops hp hw) (invariant_after_history p0' ops' hp' hw') (fun n => by
    rw [set_eq_union p0 ops hp hw n, set_eq_union p0' ops' hp' hw' n]; exact h n)

/-- Only which pairs were recorded matters, not their order or multiplicity. -/
theorem state_of_same_ops (p0 : Nat) {ops ops' : List (Nat × Nat)} (hp : p0 ≤ 4294967295) (hw : WrapFree ops)
    (hmem : ∀ op, op ∈ ops' ↔ op ∈ ops) : after p0 ops' = after p0 ops :=
  state_determined_by_set p0 p0 ops' ops hp hp (fun op ho => hw op ((hmem op).mp ho)) hw fun _ =>
    or_congr_right (exists_congr fun op => and_congr_left' (hmem op))

/-- Reordered arrival (any permutation of the history) gives the same state, hence the same headers. -/
theorem order_irrelevant (p0 : Nat) (ops ops' : List (Nat × Nat)) (hp : p0 ≤ 4294967295) (hw : WrapFree ops)
    (hperm : ops.Perm ops') : after p0 ops = after p0 ops' :=
  (state_of_same_ops p0 hp hw fun _ => hperm.mem_iff.symm).symm

/-- Recording a range again (a retransmitted packet) changes nothing. -/
theorem duplicate_irrelevant (p0 : Nat) (ops : List (Nat × Nat)) (op : Nat × Nat) (hp : p0 ≤ 4294967295) (hw : WrapFree ops)
    (hin : op ∈ ops) : after p0 (ops ++ [op]) = after p0 ops :=
  state_of_same_ops p0 hp hw fun o => by
    rw [List.mem_append, List.mem_singleton]
    exact ⟨fun h => h.elim id (fun e => e ▸ hin), Or.inl⟩

/-- The acknowledged prefix never moves backwards (no guard needed). -/
theorem prefix_monotone (a : AcksToSend) (ops : List (Nat × Nat)) : a.ackPrefix ≤ (run a ops).ackPrefix := by
  induction ops generalizing a with
  | nil => exact Nat.le_refl _
  | cons op rest ih => exact Nat.le_trans (addAckRange_prefix_mono a op.1 op.2) (ih _)

/-- `HaveHoles` is exact: it is true iff some unrecorded number lies below a recorded one. -/
theorem haveHoles_exact (p0 : Nat) (ops : List (Nat × Nat)) (hp : p0 ≤ 4294967295) (hw : WrapFree ops) :
    haveHoles (after p0 ops) = true ↔ ∃ n m, n < m ∧ ¬ recorded p0 ops n ∧ recorded p0 ops m := by
  rw [haveHoles_iff _ (invariant_after_history p0 ops hp hw)]
  simp only [set_eq_union p0 ops hp hw]

/-- The pointer-level model of `AddAckRange` (`Heap.lean`: node heap, `prevRange`/`tmpRange` cursors, in-place node
mutation, `firstRange`/`prevRange.next` redirection — the model the correspondence run executes) read back as a list is
the list-level model all theorems above are about.  For every history of `uint32` pairs, no guard. -/
theorem heap_refines (p0 : Nat) (ops : List (Nat × Nat)) : (hRun (Heap.empty p0) ops).abs = after p0 ops :=
  (hRun_sim ops (refines_empty p0)).abs_eq

/-- … and the heap stays a well-formed acyclic chain of distinct allocated nodes (so the fuel of the loops never runs out). -/
theorem heap_wellformed (p0 : Nat) (ops : List (Nat × Nat)) :
    HeapInv (hRun (Heap.empty p0) ops) (after p0 ops).ranges :=
  (hRun_sim ops (refines_empty p0)).heapInv

/-! ### The guard is tight, and satisfiable -/

/-- Without `to < 2^32-1` a recorded range can vanish: `AddAckRange(0, 2^32-1)` on the empty structure leaves it empty. -/
theorem guard_needed_set : ¬ ((after 0 [(0, 4294967295)]).mem 0 ↔ recorded 0 [(0, 4294967295)] 0) := by
  have h1 : after 0 [(0, 4294967295)] = ⟨0, []⟩ := by decide
  rw [h1]
  intro h
  rcases h.mpr (Or.inr ⟨(0, 4294967295), List.mem_singleton_self _, Nat.le_refl 0, Nat.zero_le _⟩) with h | ⟨_, h, _⟩
  · exact Nat.lt_irrefl 0 h
  · cases h

/-- Without the guard the ranges stop being sorted/disjoint. -/
theorem guard_needed_inv : ¬ Inv (after 0 [(5, 4294967295), (7, 7)]) := by decide

/-- … and the resend request then asks for recorded numbers (5 and 6). -/
theorem guard_needed_nack : buildNegativeAck (after 0 [(5, 4294967295), (7, 7)]) = [(0, 4), (0, 6)] := by decide

example : WrapFree [(5, 7), (1, 1), (0, 0), (9, 9), (8, 8)] ∧
    after 0 [(5, 7), (1, 1), (0, 0), (9, 9), (8, 8)] = ⟨2, [⟨5, 9⟩]⟩ := by decide

example : buildNegativeAck (after 0 [(5, 7), (1, 1), (9, 9)]) = [(0, 0), (2, 4), (8, 8)] := by decide

example : buildAck (after 0 [(5, 7), (1, 1), (9, 9)]) = ⟨none, some (1, 1), some [5, 6, 7, 9]⟩ := by
  rw [buildAck_exact 0 _ (by decide) (by decide)]; decide

end TLVerif.Props.C37
