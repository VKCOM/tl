import TLVerif.Codec.ResultLemmas
import TLVerif.Props.C02
import TLVerif.Codec.TL2RoundTrip
/-!
# C07 — function result transcoders are mutually consistent

Model: `TLVerif/Codec/Result.lean` (`transcode`, `decodeResult`, `encodeResult`, `readResultTL2`, `writeResultTL2`), tied to the
generated Go transcoders `ReadResult<SRC>WriteResult<DST>` (and, on the implementation side, to the typed methods
`ReadResult*` / `WriteResult*`) by `checks/C07.py`.

* **Composition** (`transcode_is_decode_then_encode` and the six `transcode_<src>_<dst>`): each transcoder is the source
  format's reader at the result type — with the nat arguments computed from the request (`result_args_from_request`) —
  followed by the target format's writer.  In the model this holds *by definition* (`transcode` is written as the Go template is
  written: declare `ret`, read, write); the theorems spell the six instances out with the concrete readers / writers and
  are what the differential run ties to the six generated methods.  The error branches are covered:
  `transcode_without_tl2` (no TL2 code: nothing is read), `transcode_read_error`, `transcode_tl1_of_tl2_origin`.
* **TL1 → TL2 → TL1** (`result_tl1_tl2_tl1_partial`): reproduces the consumed result bytes.  Inherited guards, stated
  explicitly: from C02 (`tl1_canonical_on`) a reference-closed set of instances around the result type without map-backed
  dictionary and without `bit`; from C03/C04 (`tl2_roundtrip_gen`) `Good` **at `zeroIfEmpty = true`** — the result is itself
  written with the empty optimisation (the generated code tests floats with `(x != 0 || 1/x < 0)`, so a function returning
  `Double` keeps `-0.0` at top level, see `result_tl1_tl2_tl1_negzero_at`); the encoding must be shorter than 2^63 bytes.
  `Good` excludes exactly the inherited counter-examples: `bit` behind an alias / Maybe, optional field of an empty struct.
* **TL1 → JSON → TL1** (`result_tl1_json_tl1_partial`): C05 proves the JSON round trip for primitives only (composite
  types are explored by its tie), so the statement inherits it as the explicit hypothesis `JsonRoundTripsAt` (C05's
  `JsonRoundTrip` at one value) next to C02's guard; `result_tl1_json_tl1_bool` discharges the hypothesis for functions
  returning `Bool` (`json_roundtrips_at_bool`; `Props.C05.prim_roundtrip_bool` is the same fact about the primitive reader
  and writer).  Full strength fails on the real code:
  `result_tl1_json_tl1_fails_at_nan_payload` (L3); the L2 witness (`-0.0`, repaired in the generator) round-trips through JSON
  (`result_tl1_json_tl1_neg_zero_roundtrips`).
  The JSON payload is a tree: Go's printer / the model's parser are outside these statements (tied, see the check).
-/
namespace TLVerif.Props.C07
open TLVerif.Prim TLVerif.Codec

/-- the four TL2 transcoders of a function without TL2 code fail before reading -/
def tl2Missing (f : FnD) (src dst : Fmt) : Bool := (src == .tl2 || dst == .tl2) && !f.s.hasTL2

/-- **Every transcoder is decode-then-encode** at the result type with the request's nat arguments. Definitional in the model. -/
theorem transcode_is_decode_then_encode (cfg : Cfg) (d : Desc) (fuel : Nat) (f : FnD) (req : Val) (src dst : Fmt) (p : Payload)
    (na : List Nat) (hg : tl2Missing f src dst = false) (hna : resultArgs f req = some na) :
    transcode cfg d fuel f req src dst p =
      match decodeResult cfg d fuel f na src p with
      | .error e => .error e
      | .ok (v, rest) => (encodeResult d fuel f na src dst v).map (fun q => (q, rest)) := by
  unfold tl2Missing at hg
  unfold transcode
  rw [hg]
  simp only [Bool.false_eq_true, if_false, hna]
  cases decodeResult cfg d fuel f na src p with
  | error e => rfl
  | ok vr =>
    obtain ⟨v, rest⟩ := vr
    simp only
    cases encodeResult d fuel f na src dst v <;> rfl

theorem except_map_map {ε α β γ : Type} (x : Except ε α) (f : α → β) (g : β → γ) :
    (x.map f).map g = x.map (fun a => g (f a)) := by
  cases x <;> rfl

/-- `ReadResultTL1WriteResultJSON` = boxed `ReadTL1` of the result type, then its `WriteJSON` -/
theorem transcode_tl1_json (cfg : Cfg) (d : Desc) (fuel : Nat) (f : FnD) (req : Val) (bs : Bytes) (na : List Nat)
    (ho : f.s.originTL2 = false) (hna : resultArgs f req = some na) :
    transcode cfg d fuel f req .tl1 .json (.bytes bs) =
      match readTL1 cfg d fuel f.s.resultTy false na bs with
      | .error e => .error e
      | .ok (v, rest) => (writeJson d fuel f.s.resultTy na v).map (fun j => (.json j, rest)) := by
  rw [transcode_is_decode_then_encode cfg d fuel f req .tl1 .json _ na rfl hna]
  simp only [decodeResult, encodeResult, ho, Bool.false_eq_true, if_false, except_map_map]
  rfl

/-- `ReadResultJSONWriteResultTL1` = `ReadJSON` of the result type, then its boxed `WriteTL1` (fields present for TL1 only hold zeros) -/
theorem transcode_json_tl1 (cfg : Cfg) (d : Desc) (fuel : Nat) (f : FnD) (req : Val) (j : Json) (na : List Nat)
    (ho : f.s.originTL2 = false) (hna : resultArgs f req = some na) :
    transcode cfg d fuel f req .json .tl1 (.json j) =
      match readJson d false parseJson fuel f.s.resultTy na (some j) with
      | .error e => .error e
      | .ok v =>
        match jfillTL1 d fuel f.s.resultTy na v with
        | .error e => .error e
        | .ok v' => (writeTL1 d fuel f.s.resultTy false na v').map (fun b => (.bytes b, [])) := by
  rw [transcode_is_decode_then_encode cfg d fuel f req .json .tl1 _ na rfl hna]
  simp only [decodeResult, encodeResult, writeResultTL1, ho, Bool.false_eq_true, if_false]
  cases readJson d false parseJson fuel f.s.resultTy na (some j) with
  | error e => rfl
  | ok v =>
    simp only [Except.map]
    cases jfillTL1 d fuel f.s.resultTy na v with
    | error e => rfl
    | ok v' => dsimp only; cases writeTL1 d fuel f.s.resultTy false na v' <;> rfl

/-- `ReadResultTL1WriteResultTL2` -/
theorem transcode_tl1_tl2 (cfg : Cfg) (d : Desc) (fuel : Nat) (f : FnD) (req : Val) (bs : Bytes) (na : List Nat)
    (ho : f.s.originTL2 = false) (ht : f.s.hasTL2 = true) (hna : resultArgs f req = some na) :
    transcode cfg d fuel f req .tl1 .tl2 (.bytes bs) =
      match readTL1 cfg d fuel f.s.resultTy false na bs with
      | .error e => .error e
      | .ok (v, rest) => (writeResultTL2 d fuel f v).map (fun b => (.bytes b, rest)) := by
  rw [transcode_is_decode_then_encode cfg d fuel f req .tl1 .tl2 _ na (by simp [tl2Missing, ht]) hna]
  simp only [decodeResult, encodeResult, ho, Bool.false_eq_true, if_false, except_map_map, show (Fmt.tl1 == Fmt.json) = false from rfl]
  rfl

/-- `ReadResultTL2WriteResultTL1` -/
theorem transcode_tl2_tl1 (cfg : Cfg) (d : Desc) (fuel : Nat) (f : FnD) (req : Val) (bs : Bytes) (na : List Nat)
    (ho : f.s.originTL2 = false) (ht : f.s.hasTL2 = true) (hna : resultArgs f req = some na) :
    transcode cfg d fuel f req .tl2 .tl1 (.bytes bs) =
      match readResultTL2 d fuel f bs with
      | .error e => .error e
      | .ok (v, rest) => (writeTL1Z d fuel f.s.resultTy false na v).map (fun b => (.bytes b, rest)) := by
  rw [transcode_is_decode_then_encode cfg d fuel f req .tl2 .tl1 _ na (by simp [tl2Missing, ht]) hna]
  simp only [decodeResult, encodeResult, writeResultTL1, ho, Bool.false_eq_true, if_false, except_map_map]
  rfl

/-- `ReadResultTL2WriteResultJSON` -/
theorem transcode_tl2_json (cfg : Cfg) (d : Desc) (fuel : Nat) (f : FnD) (req : Val) (bs : Bytes) (na : List Nat)
    (ht : f.s.hasTL2 = true) (hna : resultArgs f req = some na) :
    transcode cfg d fuel f req .tl2 .json (.bytes bs) =
      match readResultTL2 d fuel f bs with
      | .error e => .error e
      | .ok (v, rest) => (writeJson d fuel f.s.resultTy na v).map (fun j => (.json j, rest)) := by
  rw [transcode_is_decode_then_encode cfg d fuel f req .tl2 .json _ na (by simp [tl2Missing, ht]) hna]
  simp only [decodeResult, encodeResult, except_map_map]
  rfl

/-- `ReadResultJSONWriteResultTL2` (a field the JSON reader made present for TL1 only is absent for TL2) -/
theorem transcode_json_tl2 (cfg : Cfg) (d : Desc) (fuel : Nat) (f : FnD) (req : Val) (j : Json) (na : List Nat)
    (ht : f.s.hasTL2 = true) (hna : resultArgs f req = some na) :
    transcode cfg d fuel f req .json .tl2 (.json j) =
      match readJson d false parseJson fuel f.s.resultTy na (some j) with
      | .error e => .error e
      | .ok v => (writeResultTL2 d fuel f (dropHidden v)).map (fun b => (.bytes b, [])) := by
  rw [transcode_is_decode_then_encode cfg d fuel f req .json .tl2 _ na (by simp [tl2Missing, ht]) hna]
  simp only [decodeResult, encodeResult, except_map_map, show (Fmt.json == Fmt.json) = true from rfl, if_true]
  cases readJson d false parseJson fuel f.s.resultTy na (some j) <;> rfl

/-- a function generated without TL2 code: the four TL2 transcoders answer an error whatever the input (nothing is read) -/
theorem transcode_without_tl2 (cfg : Cfg) (d : Desc) (fuel : Nat) (f : FnD) (req : Val) (src dst : Fmt) (p : Payload)
    (ht : f.s.hasTL2 = false) (h2 : src = .tl2 ∨ dst = .tl2) :
    transcode cfg d fuel f req src dst p = .error .rej := by
  unfold transcode
  have : ((src == .tl2 || dst == .tl2) && !f.s.hasTL2) = true := by
    rcases h2 with h | h <;> subst h <;> simp [ht]
  rw [this]
  rfl

/-- a reader error is the transcoder's error: nothing is written -/
theorem transcode_read_error (cfg : Cfg) (d : Desc) (fuel : Nat) (f : FnD) (req : Val) (src dst : Fmt) (p : Payload)
    (na : List Nat) (e : CErr) (hg : tl2Missing f src dst = false) (hna : resultArgs f req = some na)
    (hd : decodeResult cfg d fuel f na src p = .error e) :
    transcode cfg d fuel f req src dst p = .error e := by
  rw [transcode_is_decode_then_encode cfg d fuel f req src dst p na hg hna, hd]

/-- TL2-origin functions have no TL1 result code: the TL1-source transcoders fail on every input -/
theorem transcode_tl1_of_tl2_origin (cfg : Cfg) (d : Desc) (fuel : Nat) (f : FnD) (req : Val) (dst : Fmt) (bs : Bytes)
    (na : List Nat) (ho : f.s.originTL2 = true) (hg : tl2Missing f .tl1 dst = false) (hna : resultArgs f req = some na) :
    transcode cfg d fuel f req .tl1 dst (.bytes bs) = .error .rej :=
  transcode_read_error cfg d fuel f req .tl1 dst _ na .rej hg hna (by simp [decodeResult, ho])

/-- constants are themselves, `field i` is the value of the request's `#` field `i` (0 when that field is masked out) -/
theorem result_args_from_request (f : FnD) (fs : List (Option Val)) :
    resultArgs f (.struct fs) = natArgVals fs [] f.s.resultNatArgs ∧
    (∀ n, natArgVal fs [] (.num n) = some n) ∧
    (∀ i n, fs[i]? = some (some (.nat n)) → natArgVal fs [] (.field i) = some n) ∧
    (∀ i, fs[i]? = some none → natArgVal fs [] (.field i) = some 0) := by
  refine ⟨rfl, fun _ => rfl, ?_, ?_⟩
  · intro i n h; simp [natArgVal, h]
  · intro i h; simp [natArgVal, h]

/-- `f a:# b:# = T b a`: the arguments are taken in the order the result type names them, not in request order -/
example : resultArgs { s := { tag := 1, nparams := 0, fields := [], isFunction := true, resultNatArgs := [.field 1, .field 0, .num 7] } }
    (.struct [some (.nat 3), some (.nat 5)]) = some [5, 3, 7] := by rfl

/-- `WriteResultTL2` ∘ `ReadResultTL2` on covered values (`Good` at `zeroIfEmpty = true`) -/
theorem result_tl2_wrapper_roundtrip (d : Desc) (fuel : Nat) (f : FnD) (hal : f.resultAlias = false) (v : Val) (w rest : Bytes)
    (hg : Good d fuel f.s.resultTy true v) (hw : writeResultTL2 d fuel f v = .ok w) (hsz : w.length < 2 ^ 63) :
    readResultTL2 d fuel f (w ++ rest) = .ok (v, rest) := by
  unfold writeResultTL2 at hw
  simp only [hal, Bool.false_eq_true, if_false] at hw
  split at hw
  · cases hw
  · rename_i r he
    cases hw
    obtain ⟨h1, h2⟩ := tl2_roundtrip_gen d fuel f.s.resultTy true true v r hg he    -- `RT` unfolds to `ReadsBack`'s two halves
    have hrb : ReadsBack (readResultTL2 d fuel f) v v (objTL2 false (bodyTL2 0 [r])) := by
      refine readsBack_obj false _ hsz (fun _ => rfl) fun bs rest hs => ?_
      unfold readResultTL2
      simp only [hal, hs, Bool.false_eq_true, if_false]
      cases r with
      | none =>
        -- nothing was written for the result: it is the zero value
        have hbe : bodyTL2 0 [none] = [] := rfl
        simp only [hbe, List.isEmpty_nil, if_true, h2 rfl]
      | some b' =>
        have hbe : bodyTL2 0 [some b'] ≠ [] := fun h => by cases (body_empty 0 _ h).2
        obtain ⟨block, hh, hbit⟩ := readHead_single 0 (by decide) _ hbe
        have := (h1 b' rfl).2 []
        rw [List.append_nil] at this
        simp [List.isEmpty_eq_false_iff.mpr hbe, hh, hbit, optBytes, this]
    exact (hrb.present (objTL2_false_some _) rest).2

/-- **TL1 → TL2 → TL1 reproduces the result bytes** (partial: guards of C02 and C03/C04, see the header).
`bs` = result bytes followed by anything (`rest` is what `ReadResultTL1` leaves). -/
theorem result_tl1_tl2_tl1_partial (cfg : Cfg) (d : Desc) (S : Nat → Bool) (hcl : d.closed S = true)
    (hnd : d.allOn S (fun i => !i.isDict) = true) (hnb : d.allOn S (fun i => !i.isBitPrim) = true)
    (fuel : Nat) (f : FnD) (req : Val) (na : List Nat) (bs rest : Bytes) (v : Val)
    (hal : f.resultAlias = false) (ho : f.s.originTL2 = false) (ht : f.s.hasTL2 = true)
    (hna : resultArgs f req = some na) (hS : S f.s.resultTy = true)
    (hr : readTL1 cfg d fuel f.s.resultTy false na bs = .ok (v, rest))
    (hg : Good d fuel f.s.resultTy true v) :
    ∃ w2 pre, bs = pre ++ rest ∧
      transcode cfg d fuel f req .tl1 .tl2 (.bytes bs) = .ok (.bytes w2, rest) ∧
      (w2.length < 2 ^ 63 → ∀ rest2,
        transcode cfg d fuel f req .tl2 .tl1 (.bytes (w2 ++ rest2)) = .ok (.bytes pre, rest2)) := by
  obtain ⟨pre, hpre, hw1⟩ := Props.C02.tl1_canonical_on cfg d S hcl hnd hnb fuel _ _ _ _ _ _ hS hr
  obtain ⟨r, he⟩ := good_enc_ok d fuel f.s.resultTy true v hg
  have hw2 : writeResultTL2 d fuel f v = .ok (optBytes (objTL2 false (bodyTL2 0 [r]))) := by
    simp [writeResultTL2, hal, he]
  refine ⟨optBytes (objTL2 false (bodyTL2 0 [r])), pre, hpre, ?_, ?_⟩
  · rw [transcode_tl1_tl2 cfg d fuel f req bs na ho ht hna, hr]
    simp only [hw2]
    rfl
  · intro hsz rest2
    rw [transcode_tl2_tl1 cfg d fuel f req _ na ho ht hna,
      result_tl2_wrapper_roundtrip d fuel f hal v _ rest2 hg hw2 hsz]
    simp only [writeTL1Z_of_writeTL1 d fuel _ _ _ _ _ hw1]
    rfl

/-- the full-strength statement (neither proved nor refuted: `result_tl1_tl2_tl1_partial` needs its guards, and `-0.0` is
preserved, `result_tl1_tl2_tl1_negzero_at`) -/
def ResultTL1TL2TL1 : Prop :=
  ∀ (cfg : Cfg) (d : Desc) (fuel : Nat) (f : FnD) (req : Val) (bs w2 rest : Bytes), f.resultAlias = false →
    transcode cfg d fuel f req .tl1 .tl2 (.bytes bs) = .ok (.bytes w2, rest) →
    ∃ pre, bs = pre ++ rest ∧ transcode cfg d fuel f req .tl2 .tl1 (.bytes w2) = .ok (.bytes pre, [])

/-- `double ? = Double; @read f = Double;` — instance 0 `double`, 1 the boxed typedef `Double` (tag 1), 2 the function -/
def dblFn : Desc :=
  { insts := #[.prim .f64,
      .struct { tag := 1, nparams := 0, hasTL2 := true, isAlias := true, isTypedef := true, isUnwrap := true,
                fields := [{ name := "", ty := 0, bare := true, mask := none, tl2bit := none, isBit := false, natArgs := [] }] },
      .struct { tag := 2, nparams := 0, hasTL2 := true, isFunction := true, resultTy := 1, fields := [] }],
    tlnames := #["double", "double", "f"] }

def dblF : FnD := { s := { tag := 2, nparams := 0, hasTL2 := true, isFunction := true, resultTy := 1, fields := [] } }

/-- **`-0.0` at the top of a result** (lead L2). A function returning `Double`: the result is written with
`zeroIfEmpty`, and since the generated code tests floats with `(x != 0 || 1/x < 0)` the result `-0.0` is not empty: it travels
as its eight bytes and comes back as `-0.0`. -/
theorem result_tl1_tl2_tl1_negzero_at :
    transcode {} dblFn 4 dblF (.struct []) .tl1 .tl2 (.bytes [1, 0, 0, 0, 0, 0, 0, 0, 0, 0, 0, 0x80]) =
      .ok (.bytes [9, 2, 0, 0, 0, 0, 0, 0, 0, 0x80], []) ∧
    transcode {} dblFn 4 dblF (.struct []) .tl2 .tl1 (.bytes [9, 2, 0, 0, 0, 0, 0, 0, 0, 0x80]) =
      .ok (.bytes [1, 0, 0, 0, 0, 0, 0, 0, 0, 0, 0, 0x80], []) := by
  -- as at `C03.bit_alias_roundtrip_fails`
  set_option smartUnfolding false in exact ⟨rfl, rfl⟩

/-- `-0.0` at the top of the result is `Good` at `zeroIfEmpty = true`, like `1.0` -/
example : goodPrim .f64 true (.nat 0x8000000000000000) = true ∧ goodPrim .f64 true (.nat 0x3FF0000000000000) = true := ⟨rfl, rfl⟩

/-- the same function, result `1.0`: both transcoders, bytes reproduced -/
example :
    transcode {} dblFn 4 dblF (.struct []) .tl1 .tl2 (.bytes [1, 0, 0, 0, 0, 0, 0, 0, 0, 0, 0xF0, 0x3F]) =
      .ok (.bytes [9, 2, 0, 0, 0, 0, 0, 0, 0xF0, 0x3F], []) := by rfl

/-- C05's round-trip statement at one value: the JSON written reads back to a value with the same TL1 encoding.
C05 proves it for primitives (`prim_roundtrip_*`), refutes it for NaN payloads, and explores the rest by its tie. -/
def JsonRoundTripsAt (d : Desc) (fuel ty : Nat) (na : List Nat) (v : Val) : Prop :=
  ∀ j, writeJson d fuel ty na v = .ok j →
    ∃ v' v'', readJson d false parseJson fuel ty na (some j) = .ok v' ∧ jfillTL1 d fuel ty na v' = .ok v'' ∧
      writeTL1 d fuel ty false na v'' = writeTL1 d fuel ty false na v

/-- **TL1 → JSON → TL1 reproduces the result bytes** (partial: C02's guard, and C05's round trip at the decoded value as an
explicit hypothesis). -/
theorem result_tl1_json_tl1_partial (cfg : Cfg) (d : Desc) (S : Nat → Bool) (hcl : d.closed S = true)
    (hnd : d.allOn S (fun i => !i.isDict) = true) (hnb : d.allOn S (fun i => !i.isBitPrim) = true)
    (fuel : Nat) (f : FnD) (req : Val) (na : List Nat) (bs rest : Bytes) (v : Val) (j : Json)
    (ho : f.s.originTL2 = false) (hna : resultArgs f req = some na) (hS : S f.s.resultTy = true)
    (hr : readTL1 cfg d fuel f.s.resultTy false na bs = .ok (v, rest))
    (hj : writeJson d fuel f.s.resultTy na v = .ok j)
    (hrt : JsonRoundTripsAt d fuel f.s.resultTy na v) :
    ∃ pre, bs = pre ++ rest ∧
      transcode cfg d fuel f req .tl1 .json (.bytes bs) = .ok (.json j, rest) ∧
      transcode cfg d fuel f req .json .tl1 (.json j) = .ok (.bytes pre, []) := by
  obtain ⟨pre, hpre, hw1⟩ := Props.C02.tl1_canonical_on cfg d S hcl hnd hnb fuel _ _ _ _ _ _ hS hr
  obtain ⟨v', v'', h1, h2, h3⟩ := hrt j hj
  refine ⟨pre, hpre, ?_, ?_⟩
  · rw [transcode_tl1_json cfg d fuel f req bs na ho hna, hr]
    simp only [hj]
    rfl
  · rw [transcode_json_tl1 cfg d fuel f req j na ho hna, h1]
    simp only [h2, h3, hw1]
    rfl

/-- the hypothesis is met by `Bool` results: `true` / `false` are written and read back as themselves -/
theorem json_roundtrips_at_bool (d : Desc) (fuel ty : Nat) (na : List Nat) (ft tt : Nat) (b : Bool)
    (hty : d.get? ty = some (.prim (.bool ft tt))) : JsonRoundTripsAt d (fuel + 1) ty na (.bool b) := by
  intro j hj
  have hw : writeJson d (fuel + 1) ty na (.bool b) = .ok (.bool b) := by
    simp only [writeJson, hty]
    rfl
  rw [hw] at hj
  cases hj
  refine ⟨.bool b, .bool b, ?_, ?_, rfl⟩
  · simp only [readJson, hty]
    rfl
  · simp [jfillTL1, hty]

/-- **Functions returning `Bool`** (e.g. `memcache.add … = Bool`): TL1 → JSON → TL1 reproduces the four result bytes, no
hypothesis about JSON left. -/
theorem result_tl1_json_tl1_bool (cfg : Cfg) (d : Desc) (S : Nat → Bool) (hcl : d.closed S = true)
    (hnd : d.allOn S (fun i => !i.isDict) = true) (hnb : d.allOn S (fun i => !i.isBitPrim) = true)
    (fuel : Nat) (f : FnD) (req : Val) (na : List Nat) (bs rest : Bytes) (v : Val) (ft tt : Nat)
    (ho : f.s.originTL2 = false) (hna : resultArgs f req = some na) (hS : S f.s.resultTy = true)
    (hty : d.get? f.s.resultTy = some (.prim (.bool ft tt)))
    (hr : readTL1 cfg d (fuel + 1) f.s.resultTy false na bs = .ok (v, rest)) :
    ∃ pre b, bs = pre ++ rest ∧
      transcode cfg d (fuel + 1) f req .tl1 .json (.bytes bs) = .ok (.json (.bool b), rest) ∧
      transcode cfg d (fuel + 1) f req .json .tl1 (.json (.bool b)) = .ok (.bytes pre, []) := by
  have hv : ∃ b, v = .bool b := by
    simp only [readTL1, hty] at hr
    obtain ⟨_, _, _, hn⟩ := readPrim_canonical (by nofun) hr
    cases v with
    | bool b => exact ⟨b, rfl⟩
    | _ => cases hn
  obtain ⟨b, rfl⟩ := hv
  have hj : writeJson d (fuel + 1) f.s.resultTy na (.bool b) = .ok (.bool b) := by
    simp only [writeJson, hty]; rfl
  obtain ⟨pre, h1, h2, h3⟩ := result_tl1_json_tl1_partial cfg d S hcl hnd hnb (fuel + 1) f req na bs rest _ _ ho hna hS hr hj
    (json_roundtrips_at_bool d fuel _ na ft tt b hty)
  exact ⟨pre, b, h1, h2, h3⟩

/-- the full-strength statement (JSON payload = the tree the first transcoder wrote) -/
def ResultTL1JSONTL1 : Prop :=
  ∀ (cfg : Cfg) (d : Desc) (fuel : Nat) (f : FnD) (req : Val) (bs rest : Bytes) (j : Json),
    transcode cfg d fuel f req .tl1 .json (.bytes bs) = .ok (.json j, rest) →
    ∃ pre, bs = pre ++ rest ∧ transcode cfg d fuel f req .json .tl1 (.json j) = .ok (.bytes pre, [])

/-- `t x:float = T; @read g = T;` — instance 0 `float`, 1 the struct (tag 1), 2 the function -/
def fltFn : Desc :=
  { insts := #[.prim .f32,
      .struct { tag := 1, nparams := 0, fields := [{ name := "x", ty := 0, bare := true, mask := none, tl2bit := none, isBit := false, natArgs := [] }] },
      .struct { tag := 2, nparams := 0, isFunction := true, resultTy := 1, fields := [] }],
    tlnames := #["float", "t", "g"] }

def fltF : FnD := { s := { tag := 2, nparams := 0, isFunction := true, resultTy := 1, fields := [] } }

/-- evaluation of `ReadResultJSONWriteResultTL1` step by step (`jfillTL1` does not reduce by `rfl`) -/
theorem json_tl1_eval (cfg : Cfg) (d : Desc) (fuel : Nat) (f : FnD) (req : Val) (j : Json) (na : List Nat) (v v' : Val) (b : Bytes)
    (ho : f.s.originTL2 = false) (hna : resultArgs f req = some na)
    (h1 : readJson d false parseJson fuel f.s.resultTy na (some j) = .ok v)
    (h2 : jfillTL1 d fuel f.s.resultTy na v = .ok v') (h3 : writeTL1 d fuel f.s.resultTy false na v' = .ok b) :
    transcode cfg d fuel f req .json .tl1 (.json j) = .ok (.bytes b, []) := by
  rw [transcode_json_tl1 cfg d fuel f req j na ho hna, h1]
  dsimp only
  rw [h2]
  dsimp only
  rw [h3]
  rfl

theorem jfill_flt (n : Nat) : jfillTL1 fltFn 4 fltF.s.resultTy [] (.struct [some (.nat n)]) = .ok (.struct [some (.nat n)]) := by
  simp [jfillTL1, jfillTL1.go, fltFn, fltF, Desc.get?, fieldPresent, natArgVals, unhide, Except.map]

/-- finding L2, repaired in the generator (a float is empty iff its bit pattern is zero): `x = -0.0` is written as `-0` and
reads back with its sign bit. -/
theorem result_tl1_json_tl1_neg_zero_roundtrips :
    transcode {} fltFn 4 fltF (.struct []) .tl1 .json (.bytes [1, 0, 0, 0, 0, 0, 0, 0x80]) =
      .ok (.json (.obj [(strBytes "x", .num ['-', '0'])]), []) ∧
    transcode {} fltFn 4 fltF (.struct []) .json .tl1 (.json (.obj [(strBytes "x", .num ['-', '0'])])) =
      .ok (.bytes [1, 0, 0, 0, 0, 0, 0, 0x80], []) :=
  ⟨by rfl, json_tl1_eval {} fltFn 4 fltF _ _ [] _ _ _ rfl rfl (by rfl) (jfill_flt 0x80000000) (by rfl)⟩

/-- **L3.** A NaN with a payload is written as `"NaN"` and reads back as Go's canonical NaN. -/
theorem result_tl1_json_tl1_fails_at_nan_payload :
    transcode {} fltFn 4 fltF (.struct []) .tl1 .json (.bytes [1, 0, 0, 0, 1, 0, 0xC0, 0x7F]) =
      .ok (.json (.obj [(strBytes "x", .str (strBytes "NaN"))]), []) ∧
    transcode {} fltFn 4 fltF (.struct []) .json .tl1 (.json (.obj [(strBytes "x", .str (strBytes "NaN"))])) =
      .ok (.bytes [1, 0, 0, 0, 0, 0, 0xC0, 0x7F], []) :=
  ⟨by rfl, json_tl1_eval {} fltFn 4 fltF _ _ [] _ _ _ rfl rfl (by rfl) (jfill_flt 0x7FC00000) (by rfl)⟩

theorem result_tl1_json_tl1_fails : ¬ ResultTL1JSONTL1 := by
  intro h
  obtain ⟨h1, h2⟩ := result_tl1_json_tl1_fails_at_nan_payload
  obtain ⟨pre, hp, ht⟩ := h _ _ _ _ _ _ _ _ h1
  cases h2.symm.trans ht
  cases hp

/-- the same function round-trips at a finite float: `x = 1.5` -/
example :
    transcode {} fltFn 4 fltF (.struct []) .tl1 .json (.bytes [1, 0, 0, 0, 0, 0, 0xC0, 0x3F]) =
      .ok (.json (.obj [(strBytes "x", .num ['1', '.', '5'])]), []) ∧
    transcode {} fltFn 4 fltF (.struct []) .json .tl1 (.json (.obj [(strBytes "x", .num ['1', '.', '5'])])) =
      .ok (.bytes [1, 0, 0, 0, 0, 0, 0xC0, 0x3F], []) :=
  ⟨by rfl, json_tl1_eval {} fltFn 4 fltF _ _ [] _ _ _ rfl rfl (by rfl) (jfill_flt 0x3FC00000) (by rfl)⟩

/-- the hypotheses of the partial theorems are satisfiable on these descriptors: the result types reach no dictionary and no `bit` -/
example : dblFn.closed (dblFn.reach 1) = true ∧ dblFn.allOn (dblFn.reach 1) (fun i => !i.isDict) = true ∧
    dblFn.allOn (dblFn.reach 1) (fun i => !i.isBitPrim) = true ∧ dblFn.reach 1 1 = true := by decide

end TLVerif.Props.C07
