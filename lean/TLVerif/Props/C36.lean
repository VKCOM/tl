import TLVerif.Udp.MonitorLemmas
/-!
# C36 — UDP transport delivers every message intact exactly once

**What is a theorem here and what is not.**  The transport (pkg/rpc/udp/transport.go, incoming.go,
outgoing.go) is *not* modelled in this file.  The theorems below are about the *monitor*
`TLVerif.Udp.run` that the check runs (compiled, as `tlmodel`) over the event trace of every explored
simulator schedule: whenever it accepts a trace ending in `settle`, the trace satisfies the property
statement of C36, expressed with specification functions (`submits`, `delivers`, `acksOf`, `memAcq`,
`memRel`, `allocs`, `frees`) that do not mention the monitor's state.  Coverage of schedules is
exploration (see checks/C36.py).  The modelled part of the protocol itself (sliding windows,
reassembly, acknowledgement flow) is in `Props/C36Window.lean`.

Property statement, full strength, for one simulator run with trace `pre ++ [settle]`:
* delivered multiset = submitted multiset (items are (src, dst, contents): each message exactly once,
  intact, at the right destination), and at no point in time has an item been delivered more often
  than it was submitted (no early, no double delivery);
* for every connection the observed prefixes never move backwards;
* for every transport and every point in time, released ≤ acquired ≤ released + limit; all memory is
  released at the end; message buffers are released at most once and all of them by the end.
-/
namespace TLVerif.Props.C36
open TLVerif.Udp

theorem prefix_inv {cfg : Cfg} {tr p : List Event} {st : St} (h : run cfg tr = .ok st) (hp : p <+: tr) :
    ∃ s, Inv cfg p s := by
  obtain ⟨q, rfl⟩ := hp
  obtain ⟨s, _, _, hinv⟩ := runFrom_prefix_inv p q (inv_init cfg) h
  exact ⟨s, hinv⟩

theorem accepted_split {cfg : Cfg} {pre : List Event} {st : St} (h : run cfg (pre ++ [.settle]) = .ok st) :
    ∃ s, run cfg pre = .ok s ∧ step cfg s .settle = .ok st ∧ Inv cfg pre s := by
  obtain ⟨s, hp, hq, hinv⟩ := runFrom_prefix_inv pre [.settle] (inv_init cfg) h
  exact ⟨s, hp, (runFrom_singleton cfg s .settle).symm.trans hq, hinv⟩

/-- Exactly once, intact. -/
theorem accepted_delivery_exactly_once (cfg : Cfg) (pre : List Event) (st : St)
    (h : run cfg (pre ++ [.settle]) = .ok st) (hd : cfg.delivery = true) :
    (delivers pre).Perm (submits pre) := by
  obtain ⟨s, _, hst, hinv⟩ := accepted_split h
  exact List.perm_iff_count.mpr fun x =>
    (balance_zero (hinv.pend hd x) (congrArg (List.count x) ((settle_checks hst).1 hd))).symm

/-- At every point of an accepted trace nothing has been delivered more often than submitted
(no delivery of something never sent or corrupted, no delivery before submission, no duplicate). -/
theorem accepted_no_early_or_double_delivery (cfg : Cfg) (tr p : List Event) (st : St)
    (h : run cfg tr = .ok st) (hd : cfg.delivery = true) (hp : p <+: tr) (x : Item) :
    (delivers p).count x ≤ (submits p).count x := by
  obtain ⟨s, hinv⟩ := prefix_inv h hp
  exact hinv.pend hd x ▸ Nat.le_add_left _ _

/-- Acknowledged / received prefixes of every connection never move backwards. -/
theorem accepted_acks_monotone (cfg : Cfg) (tr : List Event) (st : St) (h : run cfg tr = .ok st)
    (ha : cfg.acks = true) (k : PKey) : (acksOf k tr).Pairwise (· ≤ ·) :=
  let ⟨_, hinv⟩ := prefix_inv h List.prefix_rfl
  (hinv.acks ha k).1

/-- Memory accounting: at every point, released ≤ acquired and the outstanding amount is within the limit. -/
theorem accepted_memory_within_limit (cfg : Cfg) (tr p : List Event) (st : St) (h : run cfg tr = .ok st)
    (hp : p <+: tr) (t : Nat) : memRel t p ≤ memAcq t p ∧ memAcq t p - memRel t p ≤ cfg.limit := by
  obtain ⟨s, hinv⟩ := prefix_inv h hp
  rw [← hinv.mem t, Nat.add_sub_cancel]
  exact ⟨Nat.le_add_left _ _, hinv.memLim t⟩

/-- All acquired memory is released by the time of `settle`. -/
theorem accepted_memory_released (cfg : Cfg) (pre : List Event) (st : St)
    (h : run cfg (pre ++ [.settle]) = .ok st) (t : Nat) : memAcq t pre = memRel t pre := by
  obtain ⟨s, _, hst, hinv⟩ := accepted_split h
  exact balance_zero (hinv.mem t) ((settle_checks hst).2.1 t)

/-- Buffers (incoming and outgoing): never released more often than allocated, never allocated while
live; every incoming message buffer (kind 0) is released by `settle` when `cfg.live`. -/
theorem accepted_buffers_balanced (cfg : Cfg) (pre : List Event) (st : St)
    (h : run cfg (pre ++ [.settle]) = .ok st) :
    (∀ p, p <+: pre → ∀ i, frees i p ≤ allocs i p ∧ allocs i p ≤ frees i p + 1) ∧
    (cfg.live = true → ∀ i, allocs (0, i) pre = frees (0, i) pre) := by
  obtain ⟨s, hrun, hst, hinv⟩ := accepted_split h
  refine ⟨fun p hp i => ?_, fun hl i => ?_⟩
  · obtain ⟨s', hinv'⟩ := prefix_inv hrun hp
    have := hinv'.live i
    have := hinv'.liveOne i
    omega
  · exact balance_zero (hinv.live (0, i)) ((settle_checks hst).2.2 hl i)

/-- **Soundness of the monitor** (DESIGN §4 C36): an accepted trace ending in `settle` satisfies the
whole property statement. -/
theorem accepted_trace_sound (cfg : Cfg) (pre : List Event) (st : St)
    (h : run cfg (pre ++ [.settle]) = .ok st) :
    Event.settle ∉ pre ∧
    (cfg.delivery = true → (delivers pre).Perm (submits pre) ∧
      ∀ p, p <+: pre → ∀ x, (delivers p).count x ≤ (submits p).count x) ∧
    (cfg.acks = true → ∀ k, (acksOf k pre).Pairwise (· ≤ ·)) ∧
    (∀ p, p <+: pre → ∀ t, memRel t p ≤ memAcq t p ∧ memAcq t p - memRel t p ≤ cfg.limit) ∧
    (∀ t, memAcq t pre = memRel t pre) ∧
    (∀ p, p <+: pre → ∀ i, frees i p ≤ allocs i p ∧ allocs i p ≤ frees i p + 1) ∧
    (cfg.live = true → ∀ i, allocs (0, i) pre = frees (0, i) pre) := by
  obtain ⟨s, hrun, hst, hinv⟩ := accepted_split h
  exact ⟨hinv.nosettle (step_settled hst),
    fun hd => ⟨accepted_delivery_exactly_once cfg pre st h hd,
      fun p hp => accepted_no_early_or_double_delivery cfg pre p s hrun hd hp⟩,
    accepted_acks_monotone cfg pre s hrun,
    fun p hp => accepted_memory_within_limit cfg pre p s hrun hp,
    accepted_memory_released cfg pre st h, accepted_buffers_balanced cfg pre st h⟩

/-- A trace in which, at some point, an item has been delivered more often than submitted is rejected
(whatever follows). -/
theorem rejects_double_delivery (cfg : Cfg) (tr p : List Event) (x : Item) (hd : cfg.delivery = true)
    (hp : p <+: tr) (hx : (submits p).count x < (delivers p).count x) : ∃ r, run cfg tr = .error r :=
  exists_error_of_ne_ok fun st h =>
    Nat.not_le_of_lt hx (accepted_no_early_or_double_delivery cfg tr p st h hd hp x)

theorem rejects_lost_message (cfg : Cfg) (pre : List Event) (x : Item) (hd : cfg.delivery = true)
    (hx : (delivers pre).count x < (submits pre).count x) : ∃ r, run cfg (pre ++ [.settle]) = .error r :=
  exists_error_of_ne_ok fun st h =>
    Nat.ne_of_lt hx (List.perm_iff_count.mp (accepted_delivery_exactly_once cfg pre st h hd) x)

theorem rejects_over_limit (cfg : Cfg) (tr p : List Event) (t : Nat) (hp : p <+: tr)
    (hx : cfg.limit < memAcq t p - memRel t p) : ∃ r, run cfg tr = .error r :=
  exists_error_of_ne_ok fun st h => Nat.not_le_of_lt hx (accepted_memory_within_limit cfg tr p st h hp t).2

/-! ### Satisfiability: a non-trivial trace is accepted, its mutations are rejected -/

def exCfg : Cfg := { limit := 510, delivery := true, acks := true, live := true }

def exTrace : List Event :=
  [.submit (0, 1, [0, 0, 220]), .alloc (1, 0), .acquire 1 220, .alloc (0, 0), .ackPrefix (1, 1) 1, .ackPrefix (1, 1) 7,
   .deliver (0, 1, [0, 0, 220]), .free (0, 0), .release 1 220, .ackPrefix (0, 0) 8, .free (1, 0), .settle]

example : ∃ st, run exCfg exTrace = .ok st ∧ st.settled = true := ⟨_, rfl, rfl⟩
example : run exCfg (exTrace.take 6 ++ [.settle]) = .error .pendingAtSettle := rfl
example : run exCfg (exTrace.take 7 ++ [.deliver (0, 1, [0, 0, 220])]) = .error .badDelivery := rfl
example : run exCfg (exTrace.take 6 ++ [.deliver (0, 1, [1, 0, 0, 0, 0])]) = .error .badDelivery := rfl
example : run exCfg (exTrace.take 6 ++ [.ackPrefix (1, 1) 6]) = .error .ackBackwards := rfl
example : run exCfg (exTrace.take 4 ++ [.acquire 1 291]) = .error .overLimit := rfl
example : run exCfg (exTrace.take 8 ++ [.free (0, 0)]) = .error .badFree := rfl
example : run exCfg (exTrace.take 7 ++ [.release 1 220, .settle]) = .error .liveAtSettle := rfl

end TLVerif.Props.C36
