import TLVerif.Rpccalls.ClientConnLemmas
import TLVerif.Rpccalls.ClientConnShutdown
import TLVerif.Generated.RpccallsFacts
/-!
# C38 — RPC calls receive exactly their own responses

Property theorems about the model of the `clientConn` call bookkeeping (`TLVerif/Rpccalls/ClientConn.lean`).
A history is a list of critical sections (`Op`) in the order in which they took `pc.mu`; `Reach ops σ evs` says
that the history `ops` runs without panic from the initial connection to the state `σ` and produces the
observable events `evs` — so "for all `ops`" is "for every interleaving of the concurrent callers, the send
loop, the receive loop and the connect loop".

What is *not* here: the atomicity of the sections (that is the mutex; data-race freedom is explored by the
`-race` end-to-end runs of the check, not proved), the TCP/crypto transport (C35) and the server side.
-/
namespace TLVerif.Props.C38
open TLVerif.Rpccalls TLVerif.Facts.Rpccalls

/-- `Reach` is precisely "the executable model `run` succeeds" (the function the `tlmodel` driver iterates). -/
theorem reach_iff_run {ops σ evs} : Reach ops σ evs ↔ run Conn.init ops = .ok (σ, evs) := by
  constructor
  · intro h
    induction h with
    | init => rfl
    | snoc _ hs ih => exact run_snoc ih hs
  · intro h
    simpa using Reach.append .init h

/-- Whatever a step of a reachable state delivers to the call context `o` with query id `q`: `o` was registered
with `q`, and the result is the packet for `q` that this very step processes, or one of the three connection
errors handed out by the tear-down of the connection. -/
theorem deliver_why {ops σ evs op σ' e o cb q r} (hr : Reach ops σ evs) (hs : step σ op = .ok (σ', e))
    (hm : Ev.deliver o cb q r ∈ e) :
    (∃ f dl, Op.setup o q f dl cb ∈ ops) ∧
    (op.finishes q r ∨
      (r = .sideEffect ∨ r = .noSideEffect ∨ r = .deadline) ∧ ((∃ g, op = .disc g) ∨ op = .gc)) := by
  have inv := reach_inv hr
  cases step_event hs hm with
  | neutral hn => exact hn.elim
  | @finished k c r hl hop =>
    obtain ⟨rfl, hset⟩ := inv.hist k c (lookup_mem hl)
    exact ⟨⟨_, _, hset⟩, .inl hop⟩
  | torn hkc hop hr' =>
    exact ⟨⟨_, _, (inv.hist _ _ hkc).1 ▸ (inv.hist _ _ hkc).2⟩,
      .inr ⟨hr' ▸ massRes_cases σ.isOpen _, hop.imp id And.left⟩⟩

/-- **finish_delivers_own** (one step).  In any reachable state, if a step delivers a *response packet*
(`rpcReqResultHeader`/`rpcReqResultError` whose header carries query id `hq`) to the call context `o`,
then `hq` is that call context's own query id `q`, the step is the processing of exactly that packet
(so the delivered payload / error code is the packet's), and `o` was registered with id `q`. -/
theorem finish_delivers_own {ops σ evs op σ' e o cb q hq p} (hr : Reach ops σ evs) (hs : step σ op = .ok (σ', e)) :
    (Ev.deliver o cb q (.resp hq p) ∈ e → hq = q ∧ op = .resp q p ∧ ∃ f dl, Op.setup o q f dl cb ∈ ops) ∧
    (Ev.deliver o cb q (.rpcErr hq p) ∈ e → hq = q ∧ op = .rerr q p ∧ ∃ f dl, Op.setup o q f dl cb ∈ ops) := by
  -- `cases h`: a `.resp`/`.rpcErr` equals none of the three tear-down errors; what is left of `deliver_why` is `finishes`
  constructor <;> intro hm <;>
    obtain ⟨hset, (⟨_, hop, h⟩ | ⟨_, hop, h⟩) | ⟨h | h | h, -⟩⟩ := deliver_why hr hs hm <;> cases h
  · exact ⟨rfl, hop, hset⟩
  · exact ⟨rfl, hop, hset⟩

/-- **own response, over whole histories.**  Whatever is ever delivered to a call context `o` whose own
query id is `q`: (a) `o` was registered with `q` by a `setupCallLocked` of the history; (b) if it is a response
or an RPC error read from the wire, the packet carried `q` and was a packet of the history; (c) otherwise it is
one of the three connection errors, produced by the tear-down of the connection (`disc`/`gc` step). -/
theorem response_goes_to_its_query {ops σ evs o cb q r} (hr : Reach ops σ evs) (hm : Ev.deliver o cb q r ∈ evs) :
    (∃ f dl, Op.setup o q f dl cb ∈ ops) ∧
    (∀ hq p, r = .resp hq p → hq = q ∧ Op.resp q p ∈ ops) ∧
    (∀ hq code, r = .rpcErr hq code → hq = q ∧ Op.rerr q code ∈ ops) ∧
    ((∀ hq p, r ≠ .resp hq p) → (∀ hq p, r ≠ .rpcErr hq p) →
      (r = .sideEffect ∨ r = .noSideEffect ∨ r = .deadline) ∧ ((∃ g, Op.disc g ∈ ops) ∨ Op.gc ∈ ops)) := by
  obtain ⟨ops0, σ0, evs0, op, σ1, e, hr0, hs, hx, hsub⟩ := hr.of_mem hm
  obtain ⟨⟨f, dl, hset⟩, hwhy⟩ := deliver_why hr0 hs hx
  have hop : op ∈ ops := hsub _ (by simp)
  refine ⟨⟨f, dl, hsub _ (List.mem_append_left _ hset)⟩, ?_⟩
  rcases hwhy with (⟨p, rfl, rfl⟩ | ⟨p, rfl, rfl⟩) | ⟨hc, hd⟩
  · exact ⟨fun _ _ h => by cases h; exact ⟨rfl, hop⟩, fun _ _ h => Res.noConfusion h, fun n _ => absurd rfl (n _ _)⟩
  · exact ⟨fun _ _ h => Res.noConfusion h, fun _ _ h => by cases h; exact ⟨rfl, hop⟩, fun _ n => absurd rfl (n _ _)⟩
  · refine ⟨fun _ _ h => ?_, fun _ _ h => ?_, fun _ _ => ⟨hc, ?_⟩⟩
    · subst h; rcases hc with h | h | h <;> cases h
    · subst h; rcases hc with h | h | h <;> cases h
    · rcases hd with ⟨g, rfl⟩ | rfl
      · exact .inl ⟨g, hop⟩
      · exact .inr hop

/-- a call's own cancellation: `cancelCall` hands back only the call context registered under the cancelled id -/
theorem cancel_returns_own {ops σ evs o q u} (hr : Reach ops σ evs) (hm : Ev.cancelled o q u ∈ evs) :
    Op.cancel q ∈ ops ∧ ∃ f dl cb, Op.setup o q f dl cb ∈ ops := by
  obtain ⟨ops0, σ0, evs0, op, σ1, e, hr0, hs, hx, hsub⟩ := hr.of_mem hm
  have inv := reach_inv hr0
  cases step_event hs hx with
  | neutral hn => exact hn.elim
  | @cancelled k c hop hl =>
    have hkc := lookup_mem hl
    obtain ⟨rfl, hset⟩ := inv.hist k c hkc
    exact ⟨hsub _ (by simp [hop]), _, _, _, hsub _ (List.mem_append_left _ hset)⟩

/-- completions (result delivered, or call context handed back by cancel) of a call context never exceed the
number of times it was registered — for every history, with no assumption at all -/
theorem completions_le_setups {ops σ evs} (hr : Reach ops σ evs) (o : Nat) : nCompl o evs ≤ nSetup o ops := by
  have := (reach_inv hr).count o
  omega

/-- every caller uses its own call context: no context is registered twice -/
def OwnersDistinct (ops : List Op) : Prop := ∀ o, nSetup o ops ≤ 1

/-- **at_most_once.**  If every call uses its own call context, each call completes at most once: its result
channel receives at most one result (so the buffered channel of capacity 1 never blocks the connection under
the lock), and a call that got its context back from cancel never also gets a result. -/
theorem at_most_once {ops σ evs} (hr : Reach ops σ evs) (hd : OwnersDistinct ops) (o : Nat) : nCompl o evs ≤ 1 :=
  Nat.le_trans (completions_le_setups hr o) (hd o)

/-- a completed call is no longer registered (with distinct owners): nothing can be delivered to it later -/
theorem completed_is_unregistered {ops σ evs} (hr : Reach ops σ evs) (hd : OwnersDistinct ops) (o : Nat)
    (hc : 1 ≤ nCompl o evs) : nOwner o σ.calls = 0 := by
  have := (reach_inv hr).count o
  have := hd o
  omega

/-- **inFlight_eq_sentCount.**  Along histories that respect the protocol guard (`Op.wb`: fresh query ids;
responses only for requests that were written to the connection) `inFlight` equals the number of registered
calls whose request was handed to the send loop. -/
theorem inFlight_eq_sentCount {ops σ evs} (h : GReach ops σ evs) : σ.inFlight = sentCount σ.calls :=
  (greach_spec h).2.inFlight

/-- … hence the `pc.inFlight < 0` panic is unreachable (three sites: cancelCallImpl, finishCall,
massCancelRequestsLocked) … -/
theorem inFlight_panic_unreachable {ops σ evs op} (h : GReach ops σ evs) (hwb : op.wb σ = true) :
    step σ op ≠ .error .inFlightNeg := by
  obtain ⟨σ', e, hr⟩ := gstep_no_panic (greach_spec h).2 hwb
  rw [hr]; simp

/-- … and so are "double sent" and "wrong request in queue": no critical section panics at all. -/
theorem no_panic {ops σ evs op} (h : GReach ops σ evs) (hwb : op.wb σ = true) : ∃ σ' e, step σ op = .ok (σ', e) :=
  gstep_no_panic (greach_spec h).2 hwb

/-- `inFlight_eq_sentCount` and `no_panic` with the guard stated on the history alone (`Op.twb`, no model state): every call is set
up with a query id never used before on this connection, and a response / RPC error for `q` arrives only after
the request `q` was written to the connection (or for an id the client never used). -/
theorem inFlight_eq_sentCount_trace {ops σ evs} (h : TReach ops σ evs) : σ.inFlight = sentCount σ.calls :=
  inFlight_eq_sentCount h.greach

theorem no_panic_trace {ops σ evs} {op : Op} (h : TReach ops σ evs) (hwb : op.twb ops evs) :
    ∃ σ' e, step σ op = .ok (σ', e) :=
  no_panic h.greach (twb_wb (reach_inv h.greach.reach) (treach_spec h).2 hwb)

/-- under that guard a request that is still registered as unsent has never been written to the connection,
and everything written belongs to a call that was set up (so a well-behaved peer has nothing else to answer) -/
theorem unsent_never_written {ops σ evs k c} (h : TReach ops σ evs) (hm : (k, c) ∈ σ.calls) (hu : c.unsent = true) :
    Ev.pkt (.req k) ∉ evs := (treach_spec h).2 k c hm hu

theorem written_was_set_up {ops σ evs q} (h : TReach ops σ evs) (hm : Ev.pkt (.req q) ∈ evs) : q ∈ setupQids ops :=
  (reach_inv h.greach.reach).written q hm

/-- **a request is written at most once** (so a well-behaved server produces at most one response per call):
under the history-level guard, `rpcInvokeReqHeader{q}` goes to the connection at most once in the whole history -/
theorem request_written_at_most_once {ops σ evs} (h : TReach ops σ evs) (q : Nat) :
    evs.count (Ev.pkt (.req q)) ≤ 1 := by
  induction h with
  | init => simp
  | @snoc ops σ evs op σ' e hr hwb hs ih =>
    rw [List.count_append]
    by_cases hm : Ev.pkt (.req q) ∈ e
    · -- written now: it was registered unsent, hence never written before
      cases step_event hs hm with
      | neutral hn => exact hn.elim
      | written _ _ hl hu _ hc =>
        have := List.count_eq_zero.mpr ((treach_spec hr).2 q _ (lookup_mem hl) hu)
        omega
    · have := List.count_eq_zero.mpr hm
      omega

/-- graceful shutdown (`rpcServerWantsFin` received): when the last in-flight call of a shut-down connection
finishes or is cancelled, that very critical section takes the connection out to close it -/
theorem shutdown_closes_when_drained {σ σ' e} {op : Op} (hs : step σ op = .ok (σ', e))
    (hop : (∃ q, op = .cancel q) ∨ (∃ q p, op = .resp q p) ∨ (∃ q p, op = .rerr q p))
    (hc : σ.hasConn = true) (hsd : σ.isShutdown = true) (hn : σ'.inFlight = 0) (hchg : σ'.inFlight ≠ σ.inFlight) :
    Ev.closeConn ∈ e ∧ σ'.hasConn = false := by
  rcases hop with ⟨q, rfl⟩ | ⟨q, p, rfl⟩ | ⟨q, p, rfl⟩
  · exact ((cancelStep_spec σ q).of_ok hs).2.closed hc hsd hn hchg
  · exact ((finishStep_spec σ (.inl ⟨p, rfl, rfl⟩)).of_ok hs).2.closed hc hsd hn hchg
  · exact ((finishStep_spec σ (.inr ⟨p, rfl, rfl⟩)).of_ok hs).2.closed hc hsd hn hchg

/-- **graceful shutdown never strands a connection.**  In every history in which the connect loop behaves as
`goConnect` does (`Op.cwb`: `setClientConn` only after the previous connection's `continueRunningImpl`), a
connection that is in graceful shutdown (`rpcServerWantsFin` processed) and still open has something in flight.
Equivalently: the critical section that takes `inFlight` to 0 — `finishCall` for a response or an RPC error,
`cancelCallImpl` for an explicit cancel **or for a local deadline** — takes the connection out to close it
(`shutdown_closes_when_drained` is the one-step form).  Otherwise nothing would ever close it: requests queued
after the FIN are not sent while `isShutdown`, and the server's `CloseWait` waits for this close. -/
theorem shutdown_drained_is_closed {ops σ evs} (h : CReach ops σ evs) (hc : σ.hasConn = true)
    (hs : σ.isShutdown = true) : σ.inFlight ≠ 0 := (creach_spec h).2 hc hs

/-- … and with the protocol guard as well, what keeps such a connection open is a registered call whose request
was handed to the send loop (so it ends by response, error, cancel or its deadline — and then closes it) -/
theorem shutdown_open_has_sent_call {ops σ evs} (h : CReach ops σ evs) (hg : GReach ops σ evs)
    (hc : σ.hasConn = true) (hs : σ.isShutdown = true) : ∃ k c, (k, c) ∈ σ.calls ∧ c.unsent = false := by
  have h0 := shutdown_drained_is_closed h hc hs
  have h1 := inFlight_eq_sentCount hg
  have hpos : 0 < sentCount σ.calls := by omega
  simp only [sentCount, List.countP_pos_iff] at hpos
  obtain ⟨⟨k, c⟩, hm, hu⟩ := hpos
  exact ⟨k, c, hm, by simpa using hu⟩

/-- what `goConnect` does once the connection is gone: `continueRunningImpl`, `setClientConn`, `sendLoop` -/
def reconnectOps (good : Bool) : List Op := [.disc good, .connect, .send]

/-- **queued calls are sent after the reconnect.**  From every state reached under the protocol guard, with the
client open, one turn of the connect loop does not panic and leaves no registered call behind: each one either
completes in that turn (sent ones with "closed after request sent", fail-fast and expired ones with their
error) or its request is written to the new connection — in particular every call that was queued while the
old connection was in graceful shutdown. -/
theorem reconnect_sends_queued {ops σ evs} (h : GReach ops σ evs) (ho : σ.isOpen = true) (good : Bool) :
    ∃ σ' e, run σ (reconnectOps good) = .ok (σ', e) ∧
      ∀ k c, (k, c) ∈ σ.calls → (∃ r, Ev.deliver c.owner c.cb c.qid r ∈ e) ∨ Ev.pkt (.req k) ∈ e := by
  obtain ⟨σ1, e1, h1⟩ := no_panic (op := .disc good) h rfl
  have g1 : GReach (ops ++ [.disc good]) σ1 (evs ++ e1) := .snoc h rfl h1
  obtain ⟨σ2, e2, h2⟩ := no_panic (op := .connect) g1 rfl
  have g2 : GReach (ops ++ [.disc good] ++ [.connect]) σ2 (evs ++ e1 ++ e2) := .snoc g1 rfl h2
  obtain ⟨σ3, e3, h3⟩ := no_panic (op := .send) g2 rfl
  refine ⟨σ3, e1 ++ (e2 ++ e3), by simp [reconnectOps, run, h1, h2, h3], fun k c hkc => ?_⟩
  have inv1 := reach_inv g1.reach
  obtain ⟨c1, w1, o1, s1, d1⟩ := disc_spec h1
  by_cases hq : requeued σ.isOpen (k, c) = true
  · -- re-queued by the tear-down, then written to the new connection by the send loop
    have hk1 : (k, c) ∈ σ1.calls := c1 ▸ List.mem_filter.mpr ⟨hkc, hq⟩
    obtain rfl : c.qid = k := (inv1.hist k c hk1).1
    have ho1 : (!σ1.isOpen) = false := by simp [o1, ho]
    simp only [step, ho1, Bool.false_eq_true, if_false] at h2
    obtain ⟨rfl, -⟩ := ok_inj h2
    have hreq : WQ.req c.owner c.qid ∈ σ1.writeQ := w1 ▸ mem_requeue.mpr ⟨_, c, hk1, rfl, rfl⟩
    exact .inr (List.mem_append_right _ (List.mem_append_right _
      (sendStep_writes (σ := { σ1 with hasConn := true, waiting := false }) rfl s1 h3 hreq
        (List.mem_map.mpr ⟨_, hk1, rfl⟩))))
  · exact .inl ⟨_, List.mem_append_left _ (d1 k c hkc (by simpa using hq))⟩

/-- the history of the seeded defect `C38-shutdown-last-call-times-out`, on the model: the server sends its FIN
while call 5 is in flight, call 5 ends by its own (passed) local deadline — that section closes the connection —
call 6 is queued meanwhile (and by `reconnect_sends_queued` is written to the next connection) -/
example : (match run Conn.init [.connect, .setup 1 5 false .past false, .send, .sfin, .setup 2 6 false .none false,
      .cancel 5] with
    | .ok (σ, evs) => decide (Ev.closeConn ∈ evs) && decide (Ev.cancelled 1 5 false ∈ evs) && !σ.hasConn &&
        (lookup 6 σ.calls).isSome && decide (Ev.pkt (.req 6) ∉ evs)
    | .error _ => false) = true := by decide

/-- The guard is needed, i.e. the unguarded statement is false *for the code as it is*: a response that
arrives for a registered call whose request was not yet handed to the send loop is accounted by `finishCall`
as if it had been sent (the `cctx.req != nil` case is commented out in the source), `inFlight` becomes −1 and
the client panics.  (Query ids are sequential per client, so a peer can predict them.) -/
theorem early_response_panics :
    run Conn.init [.setup 1 5 false .none false, .resp 5 1] = .error .inFlightNeg := by rfl

/-- Full-strength statement without the response guard, and its refutation. -/
def NoPanicUnguarded : Prop := ∀ ops σ evs op, Reach ops σ evs → ∃ r, step σ op = .ok r

theorem no_panic_unguarded_fails : ¬ NoPanicUnguarded := by
  intro h
  have hr : Reach [.setup 1 5 false .none false] _ _ := reach_iff_run.mpr rfl
  obtain ⟨r, hr⟩ := h _ _ _ (.resp 5 1) hr
  cases hr

/-- reusing a query id while an old request with that id is still queued trips "wrong request in queue" -/
theorem qid_reuse_panics :
    run Conn.init [.setup 1 1 false .none false, .cancel 1, .setup 2 1 false .none false, .connect, .send]
      = .error .wrongRequest := by rfl

/-- closing the client side: `close()` followed by the connect loop's `massCancelRequestsLocked` -/
def closeOps : List Op := [.close, .gc]

/-- **close_completes_all.**  From every state reached under the protocol guard, closing the client completes
*every* registered call — sent ones with "closed after request sent", unsent ones with "closed before request
sent" — leaves no call registered, and does not panic. -/
theorem close_completes_all {ops σ evs} (h : GReach ops σ evs) :
    ∃ σ' e, run σ closeOps = .ok (σ', e) ∧ σ'.calls = [] ∧ σ'.isOpen = false ∧
      ∀ k c, (k, c) ∈ σ.calls →
        Ev.deliver c.owner c.cb c.qid (if c.unsent then .noSideEffect else .sideEffect) ∈ e := by
  obtain ⟨σ1, e1, h1, hc1, ho1⟩ : ∃ σ1 e1, step σ .close = .ok (σ1, e1) ∧ σ1.calls = σ.calls ∧ σ1.isOpen = false :=
    ⟨_, _, dropStep_eq _, rfl, rfl⟩
  obtain ⟨σ2, e2, h2⟩ := no_panic (op := .gc) (.snoc h rfl h1) rfl
  refine ⟨σ2, e1 ++ e2, by simp [closeOps, run, h1, h2], ?_⟩
  rw [step, if_pos (by rw [ho1]; rfl), massCancel_eq] at h2
  split at h2
  · cases h2
  obtain ⟨rfl, rfl⟩ := ok_inj h2
  have hq : ∀ kc, requeued σ1.isOpen kc = false := fun kc => by simp [requeued, ho1]
  refine ⟨List.filter_eq_nil_iff.mpr fun kc _ => by simp [hq], ho1, fun k c hkc => ?_⟩
  have hr : massRes σ1.isOpen c = if c.unsent then .noSideEffect else .sideEffect := by
    cases hu : c.unsent <;> simp [massRes, hu, ho1]
  exact List.mem_append_right _ (hr ▸ mem_massEv (hc1 ▸ hkc) (hq (k, c)))

/-- **the other side closes** (connection torn down by the peer or by an error): `continueRunningImpl`
completes every call whose request was handed to the send loop with "closed after request sent"; what stays
registered is unsent (it is re-queued for the next connection, or completes by its own deadline/cancel),
and `inFlight` is back to what the remaining calls account for. -/
theorem disconnect_completes_sent {ops σ evs g σ' e} (hr : Reach ops σ evs) (hs : step σ (.disc g) = .ok (σ', e)) :
    (∀ k c, (k, c) ∈ σ.calls → c.unsent = false → Ev.deliver c.owner c.cb c.qid .sideEffect ∈ e) ∧
    (∀ k c, (k, c) ∈ σ.calls → c.unsent = true → (c.failNoConn = true ∨ σ.isOpen = false) →
        Ev.deliver c.owner c.cb c.qid .noSideEffect ∈ e) ∧
    (∀ k c, (k, c) ∈ σ'.calls → c.unsent = true ∧ (k, c) ∈ σ.calls) := by
  -- holds of every state: reachability is not needed
  have _ := hr
  obtain ⟨hc, -, -, -, hd⟩ := disc_spec hs
  refine ⟨fun k c hkc hu => ?_, fun k c hkc hu hf => ?_, fun k c hkc => ?_⟩
  · have := hd k c hkc (by simp [requeued, hu])
    rwa [massRes, hu] at this
  · have := hd k c hkc (by rcases hf with hf | hf <;> simp [requeued, hf])
    rw [massRes, hu] at this
    rcases hf with hf | hf <;> simpa [hf] using this
  · obtain ⟨hm, hq⟩ := List.mem_filter.mp (hc ▸ hkc)
    exact ⟨requeued_unsent hq, hm⟩

/-- a closed client connection accepts no new call, and stays closed -/
theorem closed_rejects_setup {σ : Conn} (hc : σ.isOpen = false) (o q : Nat) (f : Bool) (dl : Deadline) (cb : Bool) :
    step σ (.setup o q f dl cb) = .ok (σ, [.ret 1]) := by
  simp [step, setupStep, hc]

/-- requests are written to the connection only for registered calls that wait in the queue, by the send loop -/
theorem request_written_only_when_pending {ops σ evs op σ' e q} (_hr : Reach ops σ evs) (hs : step σ op = .ok (σ', e))
    (hm : Ev.pkt (.req q) ∈ e) : op = .send ∧ q ∈ reqQids σ.writeQ ∧ ∃ c, lookup q σ.calls = some c := by
  cases step_event hs hm with
  | neutral hn => exact hn.elim
  | written hop hq hl _ _ _ => exact ⟨hop, hq, _, hl⟩

/-- T1: `client_conn.go` has exactly five `panic` sites, in the four functions listed (the model's three `Panic`
outcomes: `inFlight < 0` at the first three, "double sent" and "wrong request in queue" in the fourth), and the only
iteration over a map (whose order the model determinises) is the one in `massCancelRequestsLocked`. -/
theorem panic_sites_modelled :
    clientConnPanicSites = ["client_conn.go:clientConn.cancelCallImpl:1", "client_conn.go:clientConn.finishCall:1",
      "client_conn.go:clientConn.massCancelRequestsLocked:1", "client_conn.go:clientConn.moveRequestsToSendLocked:2"] ∧
    clientConnMapRanges = ["client_conn.go:clientConn.massCancelRequestsLocked:1"] := by
  constructor <;> rfl

/-! ### the hypotheses are satisfiable by non-trivial histories -/

def grun (σ : Conn) : List Op → Option (Conn × List Ev)
  | [] => some (σ, [])
  | op :: ops =>
    if op.wb σ then
      match step σ op with
      | .error _ => none
      | .ok (σ1, e1) => (grun σ1 ops).map (fun r => (r.1, e1 ++ r.2))
    else none

theorem greach_of_grun_aux {ops1 σ1 e1} (h1 : GReach ops1 σ1 e1) :
    ∀ {ops σ evs}, grun σ1 ops = some (σ, evs) → GReach (ops1 ++ ops) σ (e1 ++ evs) := by
  intro ops σ evs h
  fun_induction grun σ1 ops generalizing ops1 e1 σ evs with
  | case1 => cases h; simpa using h1
  | case2 _ _ _ _ _ hs => cases h
  | case3 σ1 op ops hwb σa ea hs ih =>
    obtain ⟨r, hr, he⟩ := Option.map_eq_some_iff.mp h
    obtain ⟨rfl, rfl⟩ := Prod.mk.inj he
    simpa using ih (.snoc h1 hwb hs) (evs := r.2) hr
  | case4 => cases h

theorem greach_of_grun {ops σ evs} (h : grun Conn.init ops = some (σ, evs)) : GReach ops σ evs := by
  simpa using greach_of_grun_aux .init h

def twbB (ops : List Op) (evs : List Ev) : Op → Bool
  | .setup _ q _ _ _ => !(setupQids ops).contains q
  | .resp q _ => evs.contains (.pkt (.req q)) || !(setupQids ops).contains q
  | .rerr q _ => evs.contains (.pkt (.req q)) || !(setupQids ops).contains q
  | _ => true

theorem twb_of_twbB {ops evs} {op : Op} (h : twbB ops evs op = true) : op.twb ops evs := by
  cases op <;> simp_all [Op.twb, twbB]

def trun (ops : List Op) (σ : Conn) (evs : List Ev) : List Op → Option (Conn × List Ev)
  | [] => some (σ, evs)
  | op :: rest =>
    if twbB ops evs op then
      match step σ op with
      | .error _ => none
      | .ok (σ1, e1) => trun (ops ++ [op]) σ1 (evs ++ e1) rest
    else none

theorem treach_of_trun {ops0 σ0 e0} (h0 : TReach ops0 σ0 e0) :
    ∀ {rest σ evs}, trun ops0 σ0 e0 rest = some (σ, evs) → TReach (ops0 ++ rest) σ evs := by
  intro rest σ evs h
  fun_induction trun ops0 σ0 e0 rest with
  | case1 => cases h; simpa using h0
  | case2 _ _ _ _ _ _ _ hs => cases h
  | case3 ops0 σ0 e0 op rest hok σa ea hs ih => simpa using ih (.snoc h0 (twb_of_twbB hok) hs) h
  | case4 => cases h

/-- three concurrent calls, one answered, one cancelled after being sent, one failed by the disconnect -/
def demoOps : List Op :=
  [.connect, .setup 1 5 false .none false, .setup 2 6 false .future true, .setup 3 7 true .none false, .send,
   .resp 6 66, .cancel 5, .send, .sfin, .disc true]

def demoVal : Conn × List Ev := (grun Conn.init demoOps).get (by rfl)

theorem demo_eq : grun Conn.init demoOps = some demoVal := (Option.some_get _).symm

/-- the same history satisfies the history-level guard -/
def demoValT : Conn × List Ev := (trun [] Conn.init [] demoOps).get (by rfl)

example : ∃ σ evs, TReach demoOps σ evs := by
  have h : trun [] Conn.init [] demoOps = some demoValT := (Option.some_get _).symm
  exact ⟨demoValT.1, demoValT.2, treach_of_trun (ops0 := []) .init h⟩

example : ∃ σ evs, GReach demoOps σ evs ∧ OwnersDistinct demoOps ∧
    Ev.deliver 2 true 6 (.resp 6 66) ∈ evs ∧ Ev.cancelled 1 5 false ∈ evs ∧ Ev.deliver 3 false 7 .sideEffect ∈ evs := by
  refine ⟨demoVal.1, demoVal.2, greach_of_grun demo_eq, ?_, ?_⟩
  · intro o
    simp only [nSetup, demoOps, List.countP_cons, List.countP_nil, isSetupOf, beq_iff_eq, Bool.false_eq_true, if_false,
      Nat.add_zero, Nat.zero_add]
    split <;> split <;> split <;> omega
  · decide

end TLVerif.Props.C38
