import TLVerif.Tool.WalkLemmas
import TLVerif.Tool.OutDirLemmas
import TLVerif.Tool.CycleName
import TLVerif.Generated.ToolCycleFacts
import TLVerif.Generated.ToolMapsFacts
import TLVerif.Generated.ToolMapsExpect
/-!
# C15 — Code generation is deterministic

Statement (fixed): generating code twice from the same schema files and options produces byte-identical output,
regardless of scheduling (GOMAXPROCS), map iteration order and the order in which the input files or directories are
listed on the command line.

Proved here (skeleton of the argument): (1) the input walk is invariant under permutation of the roots
(`walk_perm_invariant`), (2) the concurrent, map-ordered file writing phase of `OutDir.Write` yields the same file system,
write set and delete set for every processing order (`write_order_irrelevant`), (3) every `range` over a map in the
generator packages is a site that has been classified (sorted afterwards / commutative / output-irrelevant) in
`expect/maprange.json` (`maprange_census_classified`, over the census regenerated from the source on every run).
Determinism of the generator *internals* is exploration (`checks/C15.py`: repeated runs, GOMAXPROCS 1/2/16, permuted and
duplicated input paths, all languages, byte comparison).
-/
namespace TLVerif.Props.C15
open TLVerif.Tool List

/-- **Input walk.** Listing the same roots in another order gives the same file list (same failure, too), provided
that among the collected files equal canonical forms mean equal paths. -/
theorem walk_perm_invariant (listing : String → Option (List String)) (canon : String → String) (ext : String)
    (r₁ r₂ : List String) (h : r₁ ~ r₂)
    (hinj : ∀ ps, collectPairs listing canon ext r₁ = some ps →
      ∀ a ∈ ps, ∀ b ∈ ps, a.canonical = b.canonical → a = b) :
    walkDeterministic listing canon ext r₁ = walkDeterministic listing canon ext r₂ := by
  have hp := collectPairs_perm listing canon ext h
  unfold walkDeterministic
  generalize collectPairs listing canon ext r₂ = o₂ at hp ⊢
  cases h1 : collectPairs listing canon ext r₁ with
  | none => rw [h1] at hp; cases hp; rfl
  | some p₁ =>
    rw [h1] at hp
    cases hp with
    | some hp => simp only [Option.map_some, sort_perm_eq hp (hinj p₁ h1)]

/-- On a platform where the canonical form determines the path (Linux: `canon = id`; in general any injective
`canon`) the invariance is unconditional — duplicated roots included. -/
theorem walk_perm_invariant_of_injective (listing : String → Option (List String)) (canon : String → String)
    (hc : ∀ p q, canon p = canon q → p = q) (ext : String) (r₁ r₂ : List String) (h : r₁ ~ r₂) :
    walkDeterministic listing canon ext r₁ = walkDeterministic listing canon ext r₂ := by
  apply walk_perm_invariant listing canon ext r₁ r₂ h
  intro ps hps a ha b hb hab
  have sa := collectPairs_shape listing canon ext r₁ ps hps a ha
  have sb := collectPairs_shape listing canon ext r₁ ps hps b hb
  have : a.common = b.common := hc _ _ (by rw [← sa, ← sb, hab])
  cases a; cases b; cases hab; cases this; rfl

/-- Sorting the collected pairs as `walkDeterministic` does orders them by canonical path and keeps exactly them
(a fact about `mergeSort pairLe` on any list; the proof does not use `_h`). -/
theorem walk_sorted (listing : String → Option (List String)) (canon : String → String) (ext : String)
    (roots : List String) (ps : List WalkPair) (_h : collectPairs listing canon ext roots = some ps) :
    (ps.mergeSort pairLe).Pairwise (fun a b => a.canonical ≤ b.canonical) ∧ ps.mergeSort pairLe ~ ps := by
  refine ⟨?_, mergeSort_perm ps pairLe⟩
  have := pairwise_mergeSort pairLe_trans pairLe_total ps
  exact this.imp (fun {a b} hab => by simpa [pairLe] using hab)

theorem alookup_perm {c₁ c₂ : List (Path × String)} (h : c₁ ~ c₂) (hnd : (keys c₁).Nodup) (p : Path) :
    alookup p c₁ = alookup p c₂ :=
  Option.ext fun v => by
    rw [alookup_eq_some_iff hnd, alookup_eq_some_iff ((h.map _ : keys c₁ ~ keys c₂).nodup_iff.mp hnd), h.mem_iff]

/-- **Scheduling / map order.** `OutDir.Write` feeds the entries of the `Code` map, in Go's random map order, to
`NumCPU` workers.  Whatever order the entries are processed in, the outcome, every file of the resulting file system,
the set of written files, the set of deleted files and the counters are the same. -/
theorem write_order_irrelevant (fmt : Path → String → String) (fs : FS) (marker : Path)
    (c₁ c₂ : List (Path × String)) (h : c₁ ~ c₂) (hnd : (keys c₁).Nodup) :
    (write fmt fs c₁ marker).outcome = (write fmt fs c₂ marker).outcome ∧
    (∀ p, (write fmt fs c₁ marker).fs.lookup p = (write fmt fs c₂ marker).fs.lookup p) ∧
    (∀ p, p ∈ (write fmt fs c₁ marker).written ↔ p ∈ (write fmt fs c₂ marker).written) ∧
    (∀ p, p ∈ (write fmt fs c₁ marker).deleted ↔ p ∈ (write fmt fs c₂ marker).deleted) ∧
    (write fmt fs c₁ marker).notTouched + (write fmt fs c₁ marker).written.length =
      (write fmt fs c₂ marker).notTouched + (write fmt fs c₂ marker).written.length := by
  have hpk : keys c₁ ~ keys c₂ := h.map _
  have hnd2 : (keys c₂).Nodup := hpk.nodup_iff.mp hnd
  by_cases hc : refuseCond fs marker
  · rw [write_refused hc, write_refused hc]; simp
  · rw [write_ok hc, write_ok hc]
    refine ⟨rfl, fun p => ?_, fun p => ?_, fun p => ?_, ?_⟩ <;> simp only []
    · rw [fsAfter_lookup _ _ _ _ hnd p, fsAfter_lookup _ _ _ _ hnd2 p, alookup_perm h hnd p]
    · rw [afterFiles_written _ _ _ hnd p, afterFiles_written _ _ _ hnd2 p, alookup_perm h hnd p]
    · rw [mem_stale, mem_stale, hpk.mem_iff]
    · rw [afterFiles_count, afterFiles_count, h.length_eq]

/-- … and the write logs of two processing orders are permutations of each other (every file written at most once). -/
theorem write_log_perm (fmt : Path → String → String) (fs : FS) (marker : Path)
    (c₁ c₂ : List (Path × String)) (h : c₁ ~ c₂) (hnd : (keys c₁).Nodup) :
    (write fmt fs c₁ marker).written ~ (write fmt fs c₂ marker).written := by
  have hnd2 : (keys c₂).Nodup := (h.map _ : keys c₁ ~ keys c₂).nodup_iff.mp hnd
  exact (perm_ext_iff_of_nodup (write_written_nodup fmt fs c₁ marker hnd) (write_written_nodup fmt fs c₂ marker hnd2)).mpr
    (write_order_irrelevant fmt fs marker c₁ c₂ h hnd).2.2.1

/-! ## Package names of merged import cycles (`--split-internal`)

The order of `ins.Types` after cycles are merged depends on map iteration; the directory / package name
`internal/cycle_<hash>` must not. -/

theorem sortedElements_perm_invariant (t₁ t₂ : List String) (h : t₁ ~ t₂) : sortedElements t₁ = sortedElements t₂ :=
  mergeSort_eq_of_perm (le := fun a b => decide (a ≤ b))
    (fun _ _ _ hab hbc => decide_eq_true (String.le_trans (of_decide_eq_true hab) (of_decide_eq_true hbc)))
    (fun a b => by simp only [Bool.or_eq_true, decide_eq_true_eq]; exact String.le_total a b) h
    fun _ _ _ _ hab hba => String.le_antisymm (of_decide_eq_true hab) (of_decide_eq_true hba)

/-- **The cycle package name is a function of the set of types**: whatever order the merging left them in (any hash). -/
theorem cycle_name_perm_invariant (hash : String → String) (t₁ t₂ : List String) (h : t₁ ~ t₂) :
    cycleName hash t₁ = cycleName hash t₂ := by
  unfold cycleName; rw [sortedElements_perm_invariant t₁ t₂ h]

/-- T1: the generator still feeds `sortedElements()` (through `strings.Join`) into `sha1.Sum` when it names a cycle, and
`sortedElements` still sorts what it collected (call-order facts regenerated from the source on every run). -/
theorem cycle_hash_uses_sorted_elements :
    isInfixB ["Sum", "Join", "sortedElements", "EncodeToString"] TLVerif.Facts.ToolCycle.gengoGenerateCodeCalls = true ∧
    TLVerif.Facts.ToolCycle.gengoGenerateCodeCalls.count "Sum" = 1 ∧
    TLVerif.Facts.ToolCycle.gengoSortedElementsCalls = ["append", "Sort"] := by decide +kernel

/-! ## T1: census of `range`-over-map sites in the generator packages

`Facts.ToolMaps.mapRangeSites` is regenerated from the source on every run (`file:function:count` for every function
that ranges over a map-typed expression in internal/pure, internal/puregen/**, internal/tlast, internal/tlcodegen, internal/utils);
`Facts.ToolMapsExpect.classified` is generated from `expect/maprange.json`, where each site has been read and classified.
A new or changed site is not in the table and breaks this obligation. -/
theorem maprange_census_classified :
    ∀ s ∈ TLVerif.Facts.ToolMaps.mapRangeSites, s ∈ TLVerif.Facts.ToolMapsExpect.classified.map (·.1) := by
  -- Both tables are emitted in sorted order, so the census is a sublist of the classified sites: walk the two in step,
  -- keeping an entry where the heads unify and skipping a classified site otherwise.  Equal string literals unify at
  -- once, whereas deciding `=` on strings makes the kernel take every literal apart byte by byte.
  have walk : TLVerif.Facts.ToolMaps.mapRangeSites <+ TLVerif.Facts.ToolMapsExpect.classified.map (·.1) := by
    repeat first | exact .slnil | apply Sublist.cons_cons | apply Sublist.cons
  exact fun _ hs => walk.subset hs

theorem maprange_classes_valid :
    ∀ c ∈ TLVerif.Facts.ToolMapsExpect.classified, c.2 ∈ ["sorted", "commutative", "irrelevant"] := by decide +kernel

end TLVerif.Props.C15
