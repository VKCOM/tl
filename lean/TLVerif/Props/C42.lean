import TLVerif.Sema.SemaphoreLemmas
import TLVerif.Generated.SemaFacts
/-!
# C42 — Weighted semaphore never over-admits and never loses wakeups

Statement (fixed): *Under any concurrent schedule of acquire, try-acquire, release, forced acquire and
resize, the weight held through non-forced acquisitions never pushes the total above the size at admission
time, and whenever capacity allows the first waiter to proceed it is eventually admitted.*

Model: `TLVerif/Sema/Semaphore.lean`.  Every mutex-protected critical section of
`internal/vkgo/pkg/semaphore/semaphore.go` is one atomic `step`; a concurrent schedule is an arbitrary
`List Op` (a blocking `Acquire` contributes `Op.acquire` and, only if its context is cancelled,
`Op.cancel` at an arbitrary later position).  All theorems quantify over **all** states / **all** histories.

"Eventually admitted" is proved in its strongest form, as a state invariant (`NoLost`): between any two
critical sections there is no first waiter that the capacity would allow to proceed — so the wait is zero steps.

**History.** Up to repository commit 616a0ec3 `Acquire`'s cancellation branch tested `isFront && s.size > s.cur` before
calling `notifyWaiters`; a cancelled front waiter that left a waiter of weight 0 behind while `size = cur` kept that
waiter asleep although it fitted (found by this check; `sema.h 1 t1,a1,a0,c0`).  The code tests `>=`, the model's
`stepCancel` follows it, and the full-strength statement `NoLostWakeupFull` is a theorem (`no_lost_wakeup`), under the
only guard: no `Release` of more than is held (the documented misuse, which panics after having decremented
`cur` and without waking anybody).  The old behaviour is kept as the counter-example `no_lost_wakeup_fails_with_strict_gt`.
-/
namespace TLVerif.Props.C42
open TLVerif.Sema

/-- The ordered callee lists of the methods of `semaphore.go`, extracted from the working tree, are the ones the
model encodes: every method is one `Lock … Unlock` section (`Acquire`: fast-path / doomed / enqueue exits of the first
section, then the cancellation section); exactly `SetSize`, `Release` (after the over-release `panic`) and `Acquire`'s
cancellation section call `notifyWaiters`; `ForceAcquire`, `TryAcquire`, `Observe` wake nobody; arrivals are
`PushBack`ed and `notifyWaiters` takes from the `Front`, `Remove`s and `close`s; `WaitEmpty` is `Acquire` then `Release`.
If the source changes shape this theorem (hence the check) breaks and the model must be revisited. -/
theorem code_shape :
    Facts.Sema.callsSetSize = ["Lock", "notifyWaiters", "Unlock"] ∧
    Facts.Sema.callsForceAcquire = ["panic", "Lock", "Unlock"] ∧
    Facts.Sema.callsObserve = ["Lock", "Unlock"] ∧
    Facts.Sema.callsTryAcquire = ["panic", "Lock", "Len", "Unlock"] ∧
    Facts.Sema.callsRelease = ["panic", "Lock", "Unlock", "panic", "notifyWaiters", "Unlock"] ∧
    Facts.Sema.callsNotifyWaiters = ["Front", "Remove", "close"] ∧
    Facts.Sema.callsAcquire = ["panic", "Lock", "Len", "Unlock", "Unlock", "Done", "Err", "make", "PushBack", "Unlock",
      "Done", "Err", "Lock", "Front", "Remove", "notifyWaiters", "Unlock"] ∧
    Facts.Sema.callsWaitEmpty = ["Acquire", "Release"] :=
  -- each constant unfolds to the literal list beside it; deciding `=` would take every string apart instead
  ⟨rfl, rfl, rfl, rfl, rfl, rfl, rfl, rfl⟩

/-- **admit_within_size.** In *every* state and for *every* operation, each non-forced admission performed by
the step (`cur += n` on behalf of an `Acquire` fast path, a `TryAcquire`, or a waiter woken by
`notifyWaiters`) leaves `cur` at most the `size` in force at that moment — which is the size of the
post-state (`SetSize` stores the new size before it wakes anybody). -/
theorem admit_within_size (s : State) (op : Op) :
    ∀ e ∈ (step s op).2.adm, e.curAfter ≤ e.size ∧ e.size = (step s op).1.size :=
  (step_spec s op).adm_ok

/-- The same over all histories from all initial states: every admission event anywhere in the trace. -/
theorem admit_within_size_history (s : State) (ops : List Op) :
    ∀ x ∈ trace s ops, ∀ e ∈ x.2.2.adm, e.curAfter ≤ e.size ∧ e.size = (step x.1 x.2.1).1.size :=
  trace_forall (I := fun _ => True) (fun _ _ _ => trivial) (fun s op _ => (step_spec s op).adm_ok) s ops trivial

/-- **Accounting.** The events are complete and their `curAfter` are the true running totals: starting from
`base s op` (= `cur` after the operation's own `Release`/`ForceAcquire` arithmetic) the admission events chain up
to the post-state `cur`.  So `cur` never changes except by a release, a forced acquisition, or a listed
admission, each of which is bounded by `admit_within_size`. -/
theorem cur_accounting (s : State) (op : Op) :
    Chain (base s op) (step s op).2.adm (step s op).1.cur ∧
    (step s op).1.cur = base s op + admSum (step s op).2.adm :=
  ⟨(step_spec s op).chain, (chain_facts (step_spec s op).chain).1⟩

/-- A step that is not `ForceAcquire` never pushes the total above the (new) size: afterwards
`cur ≤ max (old cur) (new size)`. -/
theorem nonforced_never_pushes_above (s : State) (op : Op) (hf : ∀ n, op ≠ .force n) :
    (step s op).1.cur ≤ max s.cur (step s op).1.size := by
  have hch := (step_spec s op).chain
  have hok := (step_spec s op).adm_ok
  -- either no admission happened (cur = base ≤ old cur) or the last admission bounds cur
  have hbase : base s op ≤ s.cur := by
    cases op with
    | release n => simp only [base]; split <;> omega
    | force n => exact absurd rfl (hf n)
    | _ => simp [base]
  have hb : ∀ e ∈ (step s op).2.adm, e.curAfter ≤ (step s op).1.size := fun e he => (hok e he).2 ▸ (hok e he).1
  have := (chain_facts hch).2.2 _ hb
  omega

/-- History form: in a history without `ForceAcquire` whose `SetSize` arguments never exceed `M`, started in a state
with `cur ≤ M` and `size ≤ M` (e.g. `NewWeighted(size)` with `M = max size 0`), the total never exceeds `M` —
for every schedule, including cancellations and shrinking resizes. -/
theorem cur_bounded_without_force (M : Int) (s : State) (ops : List Op) (hc : s.cur ≤ M) (hs : s.size ≤ M)
    (hops : ∀ op ∈ ops, (∀ n, op ≠ .force n) ∧ (∀ n, op = .setSize n → n ≤ M)) :
    (exec s ops).cur ≤ M ∧ (exec s ops).size ≤ M := by
  induction ops generalizing s with
  | nil => exact ⟨hc, hs⟩
  | cons op ops ih =>
    have hop := hops op (List.mem_cons_self ..)
    have h1 := nonforced_never_pushes_above s op hop.1
    have h2 : (step s op).1.size ≤ M := by
      rw [(step_spec s op).size]
      cases op with
      | setSize n => exact hop.2 n rfl
      | _ => exact hs
    exact ih _ (by omega) h2 (fun o ho => hops o (List.mem_cons_of_mem _ ho))

/-- **Full-strength statement**: for every initial size and every history (= every concurrent schedule) that contains
no over-release, after *every* prefix of the history there is no first waiter that the capacity would allow to proceed. -/
def NoLostWakeupFull : Prop :=
  ∀ (size : Int) (ops : List Op), CleanRun (init size) ops → ∀ k, NoLost (exec (init size) (ops.take k))

theorem no_lost_wakeup : NoLostWakeupFull :=
  fun size _ hc k => exec_take_noLost _ _ k (init_noLost size) hc

/-- Step form: from any state satisfying the invariant, every step that is not an over-release re-establishes it
(weight 0, cancellations of any ticket, shrinking resizes, forced acquisitions included). -/
theorem no_lost_wakeup_step (s : State) (op : Op) (h : NoLost s) (hc : ¬ OverRelease s op) :
    NoLost (step s op).1 := (step_spec s op).noLost h hc

/-- The guard cannot be dropped: an over-release leaves a fitting waiter asleep (`cur` is decremented before the
panic and `notifyWaiters` is skipped).  `NewWeighted(1)`: `TryAcquire(1)`, `Acquire(1)` blocks, `Release(2)` panics
with `cur = -1`; the waiter of weight 1 fits into `size − cur = 2` and sleeps. -/
theorem over_release_guard_needed : ¬ NoLost (exec (init 1) [.tryAcquire 1, .acquire 1, .release 2]) := by decide

/-- `NewWeighted(1)`; `TryAcquire(1)`; `Acquire(1)` blocks (ticket 0); `Acquire(0)` queues behind it (ticket 1); the
context of ticket 0 is cancelled.  With the strict test ticket 1 fits (`0 ≤ size − cur = 0`) and is not woken. -/
def strictGtHistory : List Op := [.tryAcquire 1, .acquire 1, .acquire 0, .cancel 0]

theorem no_lost_wakeup_fails_with_strict_gt : ¬ NoLost (execStrictGt (init 1) strictGtHistory) := by decide

/-- …while the repaired step wakes it in that very history. -/
theorem strict_gt_history_now_fine :
    NoLost (exec (init 1) strictGtHistory) ∧ (exec (init 1) strictGtHistory).waiters = [] := by decide

/-- With the strict test the waiter could sleep for ever with nothing held: after this history `cur = size = 0`,
a weight-0 waiter is queued and `TryAcquire(0)` fails although a fresh `NewWeighted(0)` admits it. -/
def strictGtHangingHistory : List Op :=
  [.tryAcquire 1, .acquire 1, .acquire 0, .setSize 0, .release 1, .cancel 0]

theorem strict_gt_hanging_state :
    (execStrictGt (init 1) strictGtHangingHistory).cur = 0 ∧ (execStrictGt (init 1) strictGtHangingHistory).size = 0 ∧
    (execStrictGt (init 1) strictGtHangingHistory).waiters = [⟨1, 0⟩] ∧
    (step (execStrictGt (init 1) strictGtHangingHistory) (.tryAcquire 0)).2.res = .no ∧
    (exec (init 1) strictGtHangingHistory).waiters = [] := by decide

/-- The old branch lost the invariant exactly in the gap (front cancelled, `size = cur`, next weight 0)… -/
theorem strict_gt_gap_breaks (s : State) (id : Nat) (hz : ZeroGap s id) : ¬ NoLost (stepCancelStrictGt s id).1 := by
  obtain ⟨hf, he, hm⟩ := hz
  have hany : s.waiters.any (·.id == id) = true := by
    unfold isFront at hf
    cases hw : s.waiters with
    | nil => rw [hw] at hf; simp at hf
    | cons w ws => rw [hw] at hf; simp at hf; simp [hf]
  unfold stepCancelStrictGt
  rw [if_pos hany]
  have hng : ¬ (isFront s id = true ∧ s.size > s.cur) := by omega
  simp only [hng, if_false]
  unfold NoLost
  simp only
  split
  · rename_i heq; simp only [heq] at hm
  · rename_i w2 rest heq; simp only [heq] at hm; omega

/-- …and is identical to the repaired one everywhere else. -/
theorem strict_gt_differs_only_in_gap (s : State) (id : Nat) (h : ¬ (isFront s id = true ∧ s.size = s.cur)) :
    stepCancelStrictGt s id = stepCancel s id := by
  unfold stepCancelStrictGt stepCancel
  have : (isFront s id = true ∧ s.size > s.cur) ↔ (isFront s id = true ∧ s.size ≥ s.cur) :=
    and_congr_right fun a => ⟨Int.le_of_lt, fun b => Int.lt_iff_le_and_ne.mpr ⟨b, fun e => h ⟨a, e.symm⟩⟩⟩
  simp only [this]

/-- Self-stabilisation: `Release` (that does not panic) and `SetSize` re-establish the invariant from *any*
state, in particular after an over-release. -/
theorem release_restores (s : State) (n : Int) (h0 : 0 ≤ n) (h1 : n ≤ s.cur) : NoLost (step s (.release n)).1 := by
  rw [step_release s h0 h1]
  exact afterNotify_noLost _ _

theorem setSize_restores (s : State) (n : Int) : NoLost (step s (.setSize n)).1 := afterNotify_noLost _ _

/-- **Wake-up exactly when capacity allows.** A `Release` (resp. `SetSize`) after which the first waiter fits admits
it in the same critical section, as the first admission, at the running total `cur − n + weight`. -/
theorem release_admits_front (s : State) (n : Int) (w : Waiter) (ws : List Waiter) (hw : s.waiters = w :: ws)
    (h0 : 0 ≤ n) (h1 : n ≤ s.cur) (hfit : (w.n : Int) ≤ s.size - (s.cur - n)) :
    ∃ rest, (step s (.release n)).2.adm = ⟨some w.id, w.n, s.cur - n + w.n, s.size⟩ :: rest := by
  rw [step_release s h0 h1]
  exact afterNotify_admits_front _ _ hw hfit

theorem setSize_admits_front (s : State) (n : Int) (w : Waiter) (ws : List Waiter) (hw : s.waiters = w :: ws)
    (hfit : (w.n : Int) ≤ n - s.cur) :
    ∃ rest, (step s (.setSize n)).2.adm = ⟨some w.id, w.n, s.cur + w.n, n⟩ :: rest :=
  afterNotify_admits_front { s with size := n } .ok hw hfit

/-- **cancel_preserves.** Cancelling a waiter keeps the invariant (unconditionally), never changes
`size`, changes `cur` only through the admissions it lists, and removes exactly that ticket from the queue:
the woken tickets followed by the remaining queue are the old queue without the cancelled ticket, in order. -/
theorem cancel_preserves (s : State) (id : Nat) (h : NoLost s) :
    NoLost (step s (.cancel id)).1 ∧
    (step s (.cancel id)).1.size = s.size ∧
    Chain s.cur (step s (.cancel id)).2.adm (step s (.cancel id)).1.cur ∧
    (step s (.cancel id)).2.adm.map Adm.key ++ (step s (.cancel id)).1.waiters.map Waiter.key =
      (s.waiters.filter (fun w => !(w.id == id))).map Waiter.key := by
  have hs := step_spec s (.cancel id)
  exact ⟨hs.noLost h (fun h => h), hs.size, hs.chain, hs.queue⟩

/-- A cancelled ticket is never admitted by its own cancellation step (its weight does not enter `cur`). -/
theorem cancel_not_admitted (s : State) (id : Nat) : id ∉ admTickets (step s (.cancel id)).2 :=
  Sema.cancel_not_admitted s id

/-- "On failure, returns ctx.Err() and leaves the semaphore unchanged": an `Acquire` that blocks and whose context
is cancelled before any other critical section restores `size`, `cur`, the queue and the parked set exactly,
and wakes nobody. -/
theorem failed_acquire_unchanged (s : State) (n : Int) (h : WF s)
    (hres : (step s (.acquire n)).2.res = .blocked ∨ (step s (.acquire n)).2.res = .doomed) :
    let s2 := (step (step s (.acquire n)).1 (.cancel s.next)).1
    s2.size = s.size ∧ s2.cur = s.cur ∧ s2.waiters = s.waiters ∧ s2.doomed = s.doomed ∧
    (step (step s (.acquire n)).1 (.cancel s.next)).2 = ⟨.err, []⟩ := by
  -- the ticket just issued is fresh
  have hany : s.waiters.any (·.id == s.next) = false :=
    List.any_eq_false.mpr fun w hw => by have := h.1.2 w hw; simp; omega
  have hfild : s.doomed.filter (fun t => !(t == s.next)) = s.doomed :=
    List.filter_eq_self.mpr fun t ht => by have := h.2 t ht; simp; omega
  generalize hr : step s (.acquire n) = r1 at hres ⊢
  have h1 := hr ▸ step_spec s (.acquire n)
  cases h1 with
  | acqDoomed => simp [step, stepCancel, hany, hfild, List.filter_append]
  | acqQueue n h0 hf =>
    have hfil : (s.waiters ++ [(⟨s.next, n.toNat⟩ : Waiter)]).filter (fun w => !(w.id == s.next)) = s.waiters := by
      simp [List.filter_append, filter_id_eq_self hany]
    simp only [step, stepCancel, List.any_append, List.any_cons, beq_self_eq_true, Bool.true_or, Bool.or_true,
      if_true, hfil]
    split
    · -- it was the front: the queue was empty, `notifyWaiters` has nothing to do
      rename_i hnf
      have hemp : s.waiters = [] := by
        cases hw : s.waiters with
        | nil => rfl
        | cons w ws =>  -- the front would be a queued `w`, and no queued ticket is the fresh one
          have hne := List.any_eq_false.mp hany w (by rw [hw]; exact List.mem_cons_self ..)
          simp only [isFront, hw, List.cons_append] at hnf
          exact absurd hnf.1 hne
      simp [afterNotify, hemp, notify]
    · simp
  | _ => rcases hres with h | h <;> cases h

/-- Well-formedness (arrival order, tickets below `next`) holds in every reachable state. -/
theorem reachable_wf (size : Int) (ops : List Op) : WF (exec (init size) ops) := exec_wf _ _ (wf_init size)

/-- **acquire_returns_once.** In any state, if a blocked ticket stops being blocked in a step then *either* the step
admitted it (`Acquire` returns nil; the admission is one of the events bounded by `admit_within_size`) *or* the step
is its own cancellation, which returns `ctx.Err()` and does not admit it — never both; and a ticket that is no
longer blocked never becomes blocked again. -/
theorem acquire_returns_once (s : State) (op : Op) (t : Nat) :
    (Blocked s t → ¬ Blocked (step s op).1 t →
      (t ∈ admTickets (step s op).2 ∧ op ≠ .cancel t) ∨
      (op = .cancel t ∧ (step s op).2.res = .err ∧ t ∉ admTickets (step s op).2)) ∧
    (t < s.next → ¬ Blocked s t → ¬ Blocked (step s op).1 t) :=
  ⟨blocked_leaves_once s op t, never_reblocked s op t⟩

/-- The queue of every reachable state is in ticket (= arrival) order. -/
theorem queue_in_arrival_order (size : Int) (ops : List Op) : Sorted (exec (init size) ops) :=
  exec_sorted _ _ (sorted_init size)

/-- **fifo_admission.** In every state whose queue is in arrival order (hence every reachable state), every ticket
admitted by a step is older than every ticket still waiting afterwards: nobody is overtaken. In particular the
`Acquire` fast path only succeeds when nobody waits (its ticket is newer than every queued one); for `TryAcquire`,
whose admission carries no ticket, that is part of `queue_conservation`. -/
theorem fifo_admission (s : State) (op : Op) (h : Sorted s) :
    ∀ a ∈ (step s op).2.adm, ∀ t, a.ticket = some t → ∀ w ∈ (step s op).1.waiters, t < w.id :=
  (step_spec s op).no_overtaking h

/-- **fifo_history.** At every step of every history of a fresh semaphore, each admitted ticket is older than
every ticket that is still waiting after that step: a waiter is never overtaken by a later arrival. -/
theorem fifo_history (size : Int) (ops : List Op) :
    ∀ x ∈ trace (init size) ops, ∀ e ∈ x.2.2.adm, ∀ b, e.ticket = some b →
      ∀ w ∈ (step x.1 x.2.1).1.waiters, b < w.id :=
  trace_forall (fun s op => (step_spec s op).sorted) (fun s op h => (step_spec s op).no_overtaking h) _ ops
    (sorted_init size)

/-- Queue conservation per operation: arrivals go to the back, admissions are taken from the front, and
nothing else moves. -/
theorem queue_conservation (s : State) (op : Op) :
    match op with
    | .acquire n =>
        ((step s op).2.res = .blocked ∧ (step s op).1.waiters = s.waiters ++ [⟨s.next, n.toNat⟩]) ∨
        ((step s op).2.res ≠ .blocked ∧ (step s op).1.waiters = s.waiters ∧
          ((step s op).2.res = .ok → s.waiters = []))
    | .tryAcquire _ => (step s op).1.waiters = s.waiters ∧ ((step s op).2.res = .yes → s.waiters = [])
    | .force _ | .observe => (step s op).1.waiters = s.waiters
    | .release _ | .setSize _ =>
        (step s op).2.adm.map Adm.key ++ (step s op).1.waiters.map Waiter.key = s.waiters.map Waiter.key
    | .cancel id =>
        (step s op).2.adm.map Adm.key ++ (step s op).1.waiters.map Waiter.key =
          (s.waiters.filter (fun w => !(w.id == id))).map Waiter.key :=
  (step_spec s op).queue

/-! ## `WaitEmpty` (not in the property's operation list; modelled as the composition it is) -/

/-- `WaitEmpty` is `Acquire(ctx, s.size)` followed by `Release(s.size)` with `s.size` read again (both reads outside the
mutex).  On an idle semaphore the two critical sections restore the state (only the ticket counter moves). -/
theorem waitEmpty_idle_neutral (s : State) (hw : s.waiters = []) (hc : s.cur = 0) (h0 : 0 ≤ s.size) :
    (step (step s (.acquire s.size)).1 (.release s.size)).1 = { s with next := s.next + 1 } := by
  have h1 : (step s (.acquire s.size)).1 = { s with next := s.next + 1, cur := s.cur + s.size } := by
    simp only [step, stepAcquire]
    rw [if_neg (by omega), if_pos ⟨by show s.size - s.cur ≥ s.size; omega, by simp [hw]⟩]
  rw [h1, step_release _ h0 (by show s.size ≤ s.cur + s.size; omega)]
  simp only [afterNotify, hw, notify, hc]
  have : (0 : Int) + s.size - s.size = 0 := by omega
  simp only [this]

/-- Observations on the real code (reproduced by the tie, `sema.h 1 t1,w,s5`): because the second read of `s.size` may
differ from the first, a `WaitEmpty` that waited across a growing `SetSize` releases more than it acquired and panics
("released more than held")… -/
example : (step (exec (init 1) [.tryAcquire 1, .acquire 1, .setSize 5]) (.release 5)).2.res = .panic := by decide
/-- …and across a shrinking `SetSize` it releases less: weight stays in `cur` for ever although nobody holds it. -/
example : (exec (init 2) [.acquire 2, .setSize 1, .release 1]).cur = 1 := by decide

/-- The model computes in ℤ, the code in `int64`.  After any history of a fresh semaphore, `cur` plus the queued
weight is at most the sum of the non-negative arguments of `Acquire`/`TryAcquire`/`ForceAcquire`, and `cur` is at
least minus the sum of the `Release` arguments: a history whose arguments sum below 2^63 cannot overflow `cur`. -/
theorem no_overflow_bound (size : Int) (ops : List Op) :
    (exec (init size) ops).cur + qsum (exec (init size) ops).waiters ≤ accSum ops ∧
    - relSum ops ≤ (exec (init size) ops).cur ∧ 0 ≤ qsum (exec (init size) ops).waiters := by
  have h := exec_magnitude (init size) ops
  have hq := qsum_nonneg (exec (init size) ops).waiters
  have h0 : (init size).cur = 0 := rfl
  have h1 : qsum (init size).waiters = 0 := rfl
  rw [h0, h1] at h
  exact ⟨by omega, by omega, hq⟩

/-! ## Hypotheses are satisfiable by non-trivial values -/

example : CleanRun (init 2) [.acquire 2, .acquire 1, .acquire 1, .cancel 1, .force 1, .release 3, .setSize 0] := by
  decide
example : (exec (init 2) [.acquire 2, .acquire 1, .acquire 1, .cancel 1, .force 1, .release 3]).waiters = [] := by
  decide
example : CleanRun (init 1) [.tryAcquire 1, .acquire 1, .acquire 0, .cancel 0, .release 1] := by decide
example : ZeroGap (exec (init 1) [.tryAcquire 1, .acquire 1, .acquire 0]) 0 := by decide

end TLVerif.Props.C42
