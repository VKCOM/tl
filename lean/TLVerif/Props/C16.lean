import TLVerif.Tool.OutDirLemmas
import TLVerif.Tool.RelPathLemmas
import TLVerif.Tool.LegacyOutDirLemmas
import TLVerif.Generated.ToolLegacyFacts
/-!
# C16 — Output directory management is exact and safe

Statement (fixed): after a successful generation the output directory contains exactly the files of that generation
(stale files from earlier generations are removed and unchanged files are not rewritten); a non-empty output
directory that lacks the previous-generation marker file is refused and left unmodified; nothing outside the
output directory is written except the runtime library location derived from the package paths.

All theorems are about `write` (model of `internal/puregen/outdir.go (*OutDir).Write`) started from an **arbitrary**
file system `fs` — i.e. after any history of generations, planted foreign files and deletions — and an arbitrary
code map given as a list with distinct keys in arbitrary (scheduler-chosen) order, for any formatter `fmt`.
-/
namespace TLVerif.Props.C16
open TLVerif.Tool

variable (fmt : Path → String → String) (fs : FS) (code : List (Path × String)) (marker : Path)

/-- The generation is refused exactly when the output directory holds at least one file and no marker file. -/
theorem refused_iff :
    (write fmt fs code marker).outcome = .refused ↔ (relativeFiles fs ≠ [] ∧ marker ∉ relativeFiles fs) :=
  (write_outcome_cases fmt fs code marker).1

/-- A refused generation leaves the file system (files *and* directories) exactly as it was and writes / deletes nothing. -/
theorem refused_leaves_fs_unchanged (h : (write fmt fs code marker).outcome = .refused) :
    (write fmt fs code marker).fs = fs ∧ (write fmt fs code marker).written = [] ∧
    (write fmt fs code marker).deleted = [] := by
  have hc := (refused_iff fmt fs code marker).mp h
  rw [write_refused hc]; exact ⟨rfl, rfl, rfl⟩

/-- After a successful generation, for every path inside the output directory: the file there is this generation's
(formatted) file, and there is a file only if this generation produced one — stale files are gone, foreign files are gone. -/
theorem after_success_exact (hnd : (keys code).Nodup) (h : (write fmt fs code marker).outcome = .ok)
    (p : Path) (hp : isOutside p = false) :
    (write fmt fs code marker).fs.lookup p = (alookup p code).map (fmt p) := by
  rw [write_ok ((write_outcome_cases fmt fs code marker).2.mp h)]
  exact fsAfter_exact fmt _ fs code hnd p hp rfl

/-- The set of files inside the output directory after success is exactly the set of keys of this generation
that do not point outside. -/
theorem relative_files_after_success (hnd : (keys code).Nodup) (h : (write fmt fs code marker).outcome = .ok) (p : Path) :
    p ∈ relativeFiles (write fmt fs code marker).fs ↔ (isOutside p = false ∧ p ∈ keys code) := by
  rw [mem_relativeFiles]
  exact and_congr_right fun ho => by
    rw [after_success_exact fmt fs code marker hnd h p ho, Option.isSome_map, alookup_isSome_iff]

/-- Outside the output directory a file changes only if it is a key of this generation (then it holds that key's
formatted code); every other outside file keeps its content, whatever the outcome. -/
theorem outside_only_code_keys (hnd : (keys code).Nodup) (p : Path) (hp : isOutside p = true)
    (hk : p ∉ keys code) : (write fmt fs code marker).fs.lookup p = fs.lookup p := by
  by_cases hc : refuseCond fs marker
  · rw [write_refused hc]
  · rw [write_ok hc]
    exact fsAfter_untouched fmt _ fs code hnd p hk fun hr => by simp [((mem_relativeFiles fs p).mp hr).1] at hp

/-- The write log: a file is written iff it is a key of this generation and it is *not* the case that it already
exists inside the output directory with exactly the (formatted) content.  In particular … -/
theorem written_iff (hnd : (keys code).Nodup) (h : (write fmt fs code marker).outcome = .ok) (p : Path) :
    p ∈ (write fmt fs code marker).written ↔
      ∃ c, alookup p code = some c ∧ ¬ (p ∈ relativeFiles fs ∧ fs.lookup p = some (fmt p c)) := by
  rw [write_ok ((write_outcome_cases fmt fs code marker).2.mp h)]
  exact afterFiles_written fmt fs code hnd p

/-- … unchanged files are not rewritten. -/
theorem unchanged_not_rewritten (hnd : (keys code).Nodup) (p : Path) (c : String) (hpc : (p, c) ∈ code)
    (hin : isOutside p = false) (hsame : fs.lookup p = some (fmt p c)) :
    p ∉ (write fmt fs code marker).written := by
  by_cases hc : refuseCond fs marker
  · rw [write_refused hc]; simp
  · rw [write_ok hc]
    intro hw
    obtain ⟨c', hc', hn⟩ := (afterFiles_written fmt fs code hnd p).mp hw
    obtain rfl : c = c' := Option.some.inj (((alookup_eq_some_iff hnd).mpr hpc).symm.trans hc')
    exact hn ⟨(mem_relativeFiles fs p).mpr ⟨hin, by rw [hsame]; rfl⟩, hsame⟩

/-- … and a changed or new file *is* written with the new content (see `after_success_exact`). -/
theorem changed_is_rewritten (hnd : (keys code).Nodup) (h : (write fmt fs code marker).outcome = .ok)
    (p : Path) (c : String) (hpc : (p, c) ∈ code) (hdiff : fs.lookup p ≠ some (fmt p c)) :
    p ∈ (write fmt fs code marker).written :=
  (written_iff fmt fs code marker hnd h p).mpr ⟨c, (alookup_eq_some_iff hnd).mpr hpc, fun hh => hdiff hh.2⟩

/-- Exactly the stale files (inside the output directory, not produced by this generation) are deleted. -/
theorem deleted_iff (h : (write fmt fs code marker).outcome = .ok) (p : Path) :
    p ∈ (write fmt fs code marker).deleted ↔ p ∈ relativeFiles fs ∧ p ∉ keys code := by
  rw [write_ok ((write_outcome_cases fmt fs code marker).2.mp h)]
  simpa using mem_stale fmt (fun _ => false) fs code p

/-- Every write goes to a key of this generation and every deletion to a file inside the output directory:
the only paths touched outside the output directory are keys of the code map that start with `..`
(in `gengo` these are `BasicPackageRelativePath/basictl.go` and `basictl2.go`, see `basictl_rel_path_shape`). -/
theorem writes_only_under_outdir_or_basictl (hnd : (keys code).Nodup) (p : Path) :
    (p ∈ (write fmt fs code marker).written → p ∈ keys code) ∧
    (p ∈ (write fmt fs code marker).deleted → isOutside p = false ∧ p ∉ keys code) := by
  by_cases hc : refuseCond fs marker
  · rw [write_refused hc]; simp
  · rw [write_ok hc]
    constructor
    · intro hw
      obtain ⟨c, hc', _⟩ := (afterFiles_written fmt fs code hnd p).mp hw
      exact (alookup_isSome_iff p code).mp (by rw [hc']; rfl)
    · intro hd
      obtain ⟨a, b, _⟩ := (mem_stale fmt _ fs code p).mp hd
      exact ⟨((mem_relativeFiles fs p).mp a).1, b⟩

/-- every file of the generation is either written or counted as "did not change" -/
theorem counts (h : (write fmt fs code marker).outcome = .ok) :
    (write fmt fs code marker).notTouched + (write fmt fs code marker).written.length = code.length := by
  rw [write_ok ((write_outcome_cases fmt fs code marker).2.mp h)]
  exact afterFiles_count fmt fs code

/-- After a success whose code map contains the marker (inside the output directory), no later generation is refused. -/
theorem next_generation_accepted (code' : List (Path × String)) (hnd : (keys code).Nodup)
    (h : (write fmt fs code marker).outcome = .ok) (hm : marker ∈ keys code) (hmi : isOutside marker = false) :
    (write fmt (write fmt fs code marker).fs code' marker).outcome = .ok := by
  refine (write_outcome_cases fmt _ code' marker).2.mpr ?_
  rintro ⟨_, hn⟩
  exact hn ((relative_files_after_success fmt fs code marker hnd h marker).mpr ⟨hmi, hm⟩)

/-- Running the same generation again (same entries, any order) after a success is not refused, deletes nothing and
writes nothing inside the output directory. -/
theorem second_run_touches_nothing (code' : List (Path × String)) (hnd : (keys code).Nodup) (hnd' : (keys code').Nodup)
    (hsame : ∀ p, alookup p code' = alookup p code)
    (hm : marker ∈ keys code) (hmi : isOutside marker = false)
    (h : (write fmt fs code marker).outcome = .ok) :
    let r2 := write fmt (write fmt fs code marker).fs code' marker
    r2.outcome = .ok ∧ r2.deleted = [] ∧ ∀ p ∈ r2.written, isOutside p = true := by
  intro r2
  have hrel := relative_files_after_success fmt fs code marker hnd h
  have hk : ∀ p, p ∈ keys code' ↔ p ∈ keys code := by
    intro p; rw [← alookup_isSome_iff, ← alookup_isSome_iff, hsame]
  have hok : r2.outcome = .ok := next_generation_accepted fmt fs code marker code' hnd h hm hmi
  refine ⟨hok, ?_, ?_⟩
  · apply List.eq_nil_iff_forall_not_mem.mpr
    intro p hp
    obtain ⟨a, b⟩ := (deleted_iff fmt _ code' marker hok p).mp hp
    exact b ((hk p).mpr ((hrel p).mp a).2)
  · intro p hp
    obtain ⟨c, hc, hn⟩ := (written_iff fmt _ code' marker hnd' hok p).mp hp
    cases ho : isOutside p with
    | true => rfl
    | false =>
      have hl : (write fmt fs code marker).fs.lookup p = some (fmt p c) := by
        rw [after_success_exact fmt fs code marker hnd h p ho, ← hsame, hc]; rfl
      exact absurd ⟨(mem_relativeFiles _ p).mpr ⟨ho, by rw [hl]; rfl⟩, hl⟩ hn

theorem each_file_written_at_most_once (hnd : (keys code).Nodup) : (write fmt fs code marker).written.Nodup :=
  write_written_nodup fmt fs code marker hnd

/-- Directory pruning removes only directories that existed before the generation (and are empty afterwards):
a directory that is not among the collected ones — in particular every directory created for a new file — stays. -/
theorem pruning_only_removes_collected (fs' : FS) (L : List Path) (d : Path) :
    (d ∈ (pruneDirs fs' L).dirs → d ∈ fs'.dirs) ∧ (d ∈ fs'.dirs → d ∉ L → d ∈ (pruneDirs fs' L).dirs) := by
  induction L generalizing fs' with
  | nil => exact ⟨id, fun h _ => h⟩
  | cons x t ih =>
    rw [pruneDirs_cons]
    have ht : d ∉ x :: t → d ≠ x ∧ d ∉ t := fun hn => ⟨fun e => hn (e ▸ List.mem_cons_self), fun e => hn (List.mem_cons_of_mem _ e)⟩
    split
    · exact ⟨(ih fs').1, fun h hn => (ih fs').2 h (ht hn).2⟩
    · exact ⟨fun h => (List.mem_filter.mp ((ih _).1 h)).1,
        fun h hn => (ih _).2 (List.mem_filter.mpr ⟨h, by simpa using (ht hn).1⟩) (ht hn).2⟩

/-- A directory that holds a file but no marker is protected for ever: whatever generations are attempted, all are
refused and the file system never changes. -/
theorem protected_forever (gens : List (List (Path × String))) (h : relativeFiles fs ≠ [] ∧ marker ∉ relativeFiles fs) :
    (runHistory fmt marker fs (gens.map Step.gen)).1 = fs ∧
    ∀ r ∈ (runHistory fmt marker fs (gens.map Step.gen)).2, r.outcome = .refused ∧ r.written = [] ∧ r.deleted = [] := by
  induction gens with
  | nil => simp [runHistory]
  | cons g rest ih =>
    simp only [List.map_cons, runHistory]
    rw [write_refused h]
    simp only []
    refine ⟨ih.1, ?_⟩
    intro r hr
    rcases List.mem_cons.mp hr with e | e
    · subst e; exact ⟨rfl, rfl, rfl⟩
    · exact ih.2 r e

theorem runHistory_append_gen (steps : List Step) : ∀ (fs0 : FS) (code : List (Path × String)),
    runHistory fmt marker fs0 (steps ++ [Step.gen code]) =
      ((write fmt (runHistory fmt marker fs0 steps).1 code marker).fs,
       (runHistory fmt marker fs0 steps).2 ++ [write fmt (runHistory fmt marker fs0 steps).1 code marker]) := by
  induction steps with
  | nil => intro fs0 code; simp [runHistory]
  | cons s rest ih =>
    intro fs0 code
    cases s <;> simp only [List.cons_append, runHistory, ih]

/-- **Exactness after any history.**  Whatever happened before (earlier generations with other schemas, foreign files
and directories planted, files removed), if the last generation succeeds then the files inside the output directory
are exactly that generation's. -/
theorem history_exact (steps : List Step) (fs0 : FS) (hnd : (keys code).Nodup) :
    let res := runHistory fmt marker fs0 (steps ++ [Step.gen code])
    ∀ r, res.2.getLast? = some r → r.outcome = .ok →
      ∀ p, isOutside p = false → res.1.lookup p = (alookup p code).map (fmt p) := by
  intro res r hr hok p hp
  have e : res = _ := runHistory_append_gen fmt marker steps fs0 code
  rw [e] at hr ⊢
  simp at hr
  subst hr
  exact after_success_exact fmt _ code marker hnd hok p hp

/-! ## The refusal rule at full strength FAILS for directories that hold only empty directories (known finding)

The property says "a non-empty output directory that lacks the marker is refused and left unmodified".  The code
only counts regular files (`relativeFiles`): a directory containing only (nested) empty directories is accepted, and
the final loop then removes those directories.  `refused_iff` above is the exact (partial) rule: guard = "holds at
least one non-directory". -/

/-- full-strength refusal rule: *any* entry (file or directory) makes the output directory non-empty -/
def RefusalFullStrength : Prop :=
  ∀ (fmt : Path → String → String) (fs : FS) (code : List (Path × String)) (marker : Path),
    (relativeFiles fs ≠ [] ∨ fs.dirs ≠ []) → marker ∉ relativeFiles fs → (write fmt fs code marker).outcome = .refused

/-- counter-example: output directory containing just the empty directory `e` -/
theorem refusal_full_fails_at : ¬ RefusalFullStrength := by
  intro h
  have := h (fun _ c => c) ⟨[], ["e"]⟩ [] "meta/meta.go" (Or.inr (by simp)) (by simp [relativeFiles])
  have h2 := (write_outcome_cases (fun _ c => c) ⟨[], ["e"]⟩ [] "meta/meta.go").1.mp this
  exact h2.1 (by simp [relativeFiles])

/-- (build-time test) the guard of the partial rule is satisfiable by a non-trivial file system, where the rule does fire -/
def guardSampleFS : FS := ⟨[("x.txt", "c")], ["e"]⟩
#guard relativeFiles guardSampleFS == ["x.txt"] && !(relativeFiles guardSampleFS).contains "meta/meta.go"
#guard (write fmtIds guardSampleFS [("meta/meta.go", "c1")] "meta/meta.go").outcome == .refused

/-- The components `prepareOptions` derives from `--pkgPath` / `--basicPkgPath` (`relComponents`, which `basicRelPath` joins
into the location): going `ups` levels up from the output
package path and then down `rest` lands exactly on the runtime library package path (component-wise), and it is only
used when both share at least three leading components (`github.com/user/repo`). -/
theorem basictl_rel_path_shape (outdirElems basicElems : List String) (ups : Nat) (rest : List String)
    (h : relComponents outdirElems basicElems = some (ups, rest)) :
    ups ≤ outdirElems.length ∧ outdirElems.take (outdirElems.length - ups) ++ rest = basicElems ∧
    3 ≤ commonPrefixLen outdirElems basicElems := by
  obtain ⟨h1, _, h3⟩ := commonPrefixLen_spec outdirElems basicElems
  rw [relComponents, Option.ite_none_right_eq_some] at h
  obtain ⟨hn, h⟩ := h
  obtain ⟨rfl, rfl⟩ := Prod.mk.inj (Option.some.inj h)
  exact ⟨Nat.sub_le _ _, by rw [Nat.sub_sub_self h1, h3, List.take_append_drop], hn⟩

example : relComponents ["github.com", "VKCOM", "tl", "o1", "o2", "out"] ["github.com", "VKCOM", "tl", "pkg", "basictl"] =
    some (3, ["pkg", "basictl"]) := by decide +kernel

/-! ## The legacy generator's writer: `internal/tlcodegen/tlgen.go (*Gen2).WriteToDir` (used by `cmd/tlgen` for cpp / php)

Same guarantees as above, for any starting file system, **except** for the paths `keep` exempts from deletion
(`cppFilterFile`: for cpp, every path ending in `.o`).  The marker entry is added by the writer itself. -/
section Legacy
variable (fmt : Path → String → String) (keep : Path → Bool) (fs : FS) (code : List (Path × String)) (marker mc : String)

theorem legacy_refused_iff :
    (legacyWrite fmt keep fs code marker mc).outcome = .refused ↔ (relativeFiles fs ≠ [] ∧ marker ∉ relativeFiles fs) :=
  (legacy_outcome_cases fmt keep fs code marker mc).1

/-- a refused (or internally failed) legacy generation leaves everything as it was -/
theorem legacy_failed_leaves_fs_unchanged (h : (legacyWrite fmt keep fs code marker mc).outcome ≠ .ok) :
    (legacyWrite fmt keep fs code marker mc).fs = fs ∧ (legacyWrite fmt keep fs code marker mc).written = [] ∧
    (legacyWrite fmt keep fs code marker mc).deleted = [] := by
  by_cases hc : refuseCond fs marker
  · rw [legacyWrite_refused hc]; exact ⟨rfl, rfl, rfl⟩
  · by_cases hm : marker ∈ keys code
    · rw [legacyWrite_twice hc hm]; exact ⟨rfl, rfl, rfl⟩
    · exact absurd ((legacy_outcome_cases fmt keep fs code marker mc).2.2.mpr ⟨hc, hm⟩) h

/-- **Exactness outside the exemption.**  After a successful legacy generation every path inside the output directory that
`keep` does not exempt holds exactly this generation's (formatted) file — marker included — or nothing. -/
theorem legacy_after_success_exact (hnd : (keys code).Nodup)
    (h : (legacyWrite fmt keep fs code marker mc).outcome = .ok) (p : Path) (hp : isOutside p = false)
    (hk : keep p = false) :
    (legacyWrite fmt keep fs code marker mc).fs.lookup p = (alookup p (withMarker code marker mc)).map (fmt p) := by
  obtain ⟨hc, hm⟩ := (legacy_outcome_cases fmt keep fs code marker mc).2.2.mp h
  rw [legacyWrite_ok hc hm]
  exact fsAfter_exact fmt keep fs _ (nodup_withMarker code marker mc hnd hm) p hp hk

/-- An exempt path that this generation produces is still replaced by the generation's file. -/
theorem legacy_generated_file_wins (hnd : (keys code).Nodup)
    (h : (legacyWrite fmt keep fs code marker mc).outcome = .ok) (p : Path) (c : String)
    (hpc : alookup p (withMarker code marker mc) = some c) :
    (legacyWrite fmt keep fs code marker mc).fs.lookup p = some (fmt p c) := by
  obtain ⟨hc, hm⟩ := (legacy_outcome_cases fmt keep fs code marker mc).2.2.mp h
  rw [legacy_ok_lookup fmt keep fs code marker mc hnd hc hm p, hpc]

/-- **The exemption is the only leak, and it is a real one**: a stale file on an exempt path (an object file, for cpp)
survives every successful generation untouched.  Hence the full-strength statement "exactly the files of this generation"
is false for the legacy cpp writer whenever such a file exists (known finding, by design: build artefacts). -/
theorem legacy_exempt_stale_survives (hnd : (keys code).Nodup)
    (h : (legacyWrite fmt keep fs code marker mc).outcome = .ok) (p : Path)
    (hk : keep p = true) (hnk : p ∉ keys (withMarker code marker mc)) :
    (legacyWrite fmt keep fs code marker mc).fs.lookup p = fs.lookup p := by
  obtain ⟨hc, hm⟩ := (legacy_outcome_cases fmt keep fs code marker mc).2.2.mp h
  rw [legacyWrite_ok hc hm]
  exact fsAfter_untouched fmt keep fs _ (nodup_withMarker code marker mc hnd hm) p hnk fun _ => hk

/-- what C16 demands of the legacy writer, at full strength -/
def LegacyExactFullStrength : Prop :=
  ∀ (fmt : Path → String → String) (keep : Path → Bool) (fs : FS) (code : List (Path × String)) (marker mc : String),
    (keys code).Nodup → (legacyWrite fmt keep fs code marker mc).outcome = .ok →
    ∀ p, isOutside p = false →
      (legacyWrite fmt keep fs code marker mc).fs.lookup p = (alookup p (withMarker code marker mc)).map (fmt p)

/-- the deleted set: exactly the stale, non-exempt files -/
theorem legacy_deleted_iff (h : (legacyWrite fmt keep fs code marker mc).outcome = .ok) (p : Path) :
    p ∈ (legacyWrite fmt keep fs code marker mc).deleted ↔
      p ∈ relativeFiles fs ∧ p ∉ keys (withMarker code marker mc) ∧ keep p = false := by
  obtain ⟨hc, hm⟩ := (legacy_outcome_cases fmt keep fs code marker mc).2.2.mp h
  rw [legacyWrite_ok hc hm]
  exact mem_stale fmt keep fs _ p

/-- the write log: exactly the new or changed files (unchanged files are not rewritten) -/
theorem legacy_written_iff (hnd : (keys code).Nodup) (h : (legacyWrite fmt keep fs code marker mc).outcome = .ok) (p : Path) :
    p ∈ (legacyWrite fmt keep fs code marker mc).written ↔
      ∃ c, alookup p (withMarker code marker mc) = some c ∧ ¬ (p ∈ relativeFiles fs ∧ fs.lookup p = some (fmt p c)) := by
  obtain ⟨hc, hm⟩ := (legacy_outcome_cases fmt keep fs code marker mc).2.2.mp h
  exact legacy_ok_written fmt keep fs code marker mc hnd hc hm p

/-- after a success the marker is there, so the next legacy generation is not refused -/
theorem legacy_next_generation_not_refused (hnd : (keys code).Nodup) (hmi : isOutside marker = false)
    (h : (legacyWrite fmt keep fs code marker mc).outcome = .ok) (code' : List (Path × String)) :
    (legacyWrite fmt keep (legacyWrite fmt keep fs code marker mc).fs code' marker mc).outcome ≠ .refused := by
  intro hr
  obtain ⟨_, hn⟩ := (legacy_outcome_cases fmt keep _ code' marker mc).1.mp hr
  apply hn
  refine (mem_relativeFiles _ marker).mpr ⟨hmi, ?_⟩
  have hlk : alookup marker (withMarker code marker mc) = some mc :=
    (alookup_eq_some_iff (nodup_withMarker code marker mc hnd ((legacy_outcome_cases fmt keep fs code marker mc).2.2.mp h).2)).mpr (by simp [withMarker])
  rw [legacy_generated_file_wins fmt keep fs code marker mc hnd h marker mc hlk]; rfl

end Legacy

/-- counter-example to the full-strength statement: a stale `x.o` next to the marker survives a cpp regeneration -/
theorem legacy_exact_fails_at : ¬ LegacyExactFullStrength := by
  intro hfull
  let keep : Path → Bool := fun p => p == "x.o"
  let fs0 : FS := ⟨[("x.o", "obj"), ("m", "mk")], []⟩
  have ho1 : isOutside "x.o" = false := by simp [isOutside]
  have ho2 : isOutside "m" = false := by simp [isOutside]
  have hrel : relativeFiles fs0 = ["x.o", "m"] := by
    simp [relativeFiles, fs0, ho1, ho2]
  have hc : ¬ refuseCond fs0 "m" := by
    unfold refuseCond; rw [hrel]; simp
  have hok : (legacyWrite (fun _ c => c) keep fs0 [] "m" "mk").outcome = .ok :=
    (legacy_outcome_cases _ keep fs0 [] "m" "mk").2.2.mpr ⟨hc, by simp [keys]⟩
  have h1 := hfull (fun _ c => c) keep fs0 [] "m" "mk" (by simp [keys]) hok "x.o" ho1
  have h2 := legacy_exempt_stale_survives (fun _ c => c) keep fs0 [] "m" "mk" (by simp [keys]) hok "x.o" (by simp [keep])
    (by simp [keys, withMarker])
  rw [h2] at h1
  simp [FS.lookup, alookup, withMarker, fs0] at h1

/-- the legacy marker file name is the constant of the source (regenerated on every run) -/
theorem legacy_marker_fact : TLVerif.Facts.ToolLegacy.legacyMarkerFile = "tlgen2_version.txt" := rfl

/-- (build-time test, evaluated by `#guard`) the hypotheses are satisfiable by a non-trivial history and the
refusal / stale deletion / directory pruning branches are reachable -/
def sampleHistory : List Step :=
  [Step.gen [("meta/meta.go", "c1"), ("a/b.go", "u2"), ("../x/basictl.go", "c3")], Step.plantFile "z.txt" "zz",
   Step.plantDir "e/f", Step.gen [("meta/meta.go", "c1"), ("a/c.go", "c5")], Step.rm "meta/meta.go",
   Step.gen [("meta/meta.go", "c9")]]
#guard ((runHistory fmtIds "meta/meta.go" FS.empty sampleHistory).2.map (·.outcome)) == [.ok, .ok, .refused]
#guard ((runHistory fmtIds "meta/meta.go" FS.empty sampleHistory).2.map (·.deleted)) == [[], ["z.txt", "a/b.go"], []]
#guard ((runHistory fmtIds "meta/meta.go" FS.empty sampleHistory).2.map (·.written)) == [["../x/basictl.go", "a/b.go", "meta/meta.go"], ["a/c.go"], []]
#guard (runHistory fmtIds "meta/meta.go" FS.empty sampleHistory).1.dirs == ["meta", "a"]

end TLVerif.Props.C16
