import TLVerif.Codec.AccessLemmas
import TLVerif.Codec.Access2
/-!
# C43 — generated field accessors control presence consistently

Model: `TLVerif/Codec/Access.lean` (`AObj.set`, `AObj.clear`, `AObj.isSet`, `AObj.tl1Present` over the state of one
generated struct: field values, the hidden TL2 presence bits, the nat parameters passed by pointer), tied to the generated
`Set*/Clear*/IsSet*` methods by `checks/C43.py` (reflection).

Two notions of presence live in a generated object: the TL1 field mask (`tl1Present`: what `WriteTL1` consults) and the
hidden `tl2mask` bit (`isSet` when the type has TL2 code: what `IsSet*`, the TL2 writer and the JSON writer consult).

* `set_then_isSet`, `set_emitted_tl1`, `set_stores`: after `Set<F>(v)` the field is reported present, the TL1 writer's
  presence test holds and the stored value is `v`; `setFalse_*` for `Set<F>(false)` of `true`-typed fields;
  `clear_then_notSet`, `clear_absent_tl1`, `clear_resets`.
* frame: `set_frame_vals/_tl2/_params/_maskBits`, `clear_frame_*`: no other value, no other hidden bit, no other parameter
  and no other bit of the field's own mask changes.
* `AccessorsKeepPresenceConsistent` — the full-strength statement "IsSet / TL2 / JSON presence and TL1 presence agree
  for every field after every accessor call (if they did before)" — is **false** for the generated code
  (`accessors_inconsistent_at_shared_bit`, `…_at_mask_of_mask`: two of the three shapes found in `cases.tl`, known
  finding `C43-shared-mask`; the third, a conditional mask, satisfies the guard below and is shown by
  `set_does_not_set_ancestor_mask`); `set_keeps_consistent_partial` / `clear_keeps_consistent_partial` prove it
  under the exact decidable guard `independent` (no other field on the same mask bit, the field is not itself a mask).

TL2 / JSON *bytes* are not modelled here (the models of those writers belong to C03/C05); their dependence on the hidden
bit is what the check observes through round trips of the real object (oracle part of `codec.acc`).
-/
namespace TLVerif.Props.C43
open TLVerif.Codec

/-- the accessor of field `i` (descriptor `f`) exists and can be called on `o` -/
structure Callable (o : AObj) (fields : List Field) (i : Nat) (f : Field) : Prop where
  hf : fields[i]? = some f
  acc : f.hasAccessor = true
  tl2len : ∀ t, f.tl2bit = some t → i < o.tl2.length
  mask : ∀ a bit, f.mask = some (a, bit) → o.assignable i a

variable {o : AObj} {fields : List Field} {i : Nat} {f : Field}

theorem mask_of_no_tl2 (c : Callable o fields i f) (ht : f.tl2bit = none) : ∃ a bit, f.mask = some (a, bit) := by
  have := c.acc
  unfold Field.hasAccessor at this
  cases hm : f.mask with
  | none => simp [hm, ht] at this
  | some p => exact ⟨p.1, p.2, rfl⟩

section
variable {o1 o' : AObj} {t : Bool}

/-- the update the two accessors share leaves the field's mask bit equal to the hidden bit `t`: `IsSet<F>` reports `t` … -/
theorem marked_isSet (c : Callable o fields i f) (h : o.Marked o1 f i t o') : o'.isSet fields i = t := by
  simp only [AObj.isSet, c.hf]
  cases ht : f.tl2bit with
  | some x => simp only [h.tl2_self ht (c.tl2len x ht)]
  | none =>
    obtain ⟨a, bit, hm⟩ := mask_of_no_tl2 c ht
    simp only [hm, h.testBit_self hm (c.mask a bit hm)]

/-- … and so does the presence test of the TL1 writer, for a conditional field -/
theorem marked_tl1Present (c : Callable o fields i f) (h : o.Marked o1 f i t o') {a : NatArg} {bit : Nat}
    (hm : f.mask = some (a, bit)) : o'.tl1Present fields i = t := by
  simp only [AObj.tl1Present, c.hf, hm, h.testBit_self hm (c.mask a bit hm)]

end

theorem set_isSet (c : Callable o fields i f) (v : Val) (b : Bool) :
    (o.set fields i v b).isSet fields i = if f.isBit then b else true :=
  marked_isSet c (set_marked c.hf v b)

theorem set_then_isSet (c : Callable o fields i f) (v : Val) : (o.set fields i v true).isSet fields i = true := by
  rw [set_isSet c, ite_self]

/-- **set ⇒ emitted by the TL1 writer** (its presence test holds) -/
theorem set_emitted_tl1 (c : Callable o fields i f) (v : Val) : (o.set fields i v true).tl1Present fields i = true := by
  cases hm : f.mask with
  | none => simp only [AObj.tl1Present, c.hf, hm]
  | some p => rw [marked_tl1Present c (set_marked c.hf v true) hm, ite_self]

/-- **set stores the value** (fields with storage) -/
theorem set_stores (c : Callable o fields i f) (hb : f.isBit = false) (hi : i < o.vals.length) (v : Val) (b : Bool) :
    (o.set fields i v b).vals[i]? = some (some v) := by
  rw [(set_marked c.hf v b).vals_self c.mask]
  simp only [AObj.stored, hb, Bool.false_eq_true, if_false, List.getElem?_set_self hi]

/-- `Set<F>(false)` of a `true`-typed field: reported absent -/
theorem setFalse_then_notSet (c : Callable o fields i f) (hb : f.isBit = true) (v : Val) :
    (o.set fields i v false).isSet fields i = false := by
  rw [set_isSet c, if_pos hb]

/-- … and not emitted by the TL1 writer (conditional fields) -/
theorem setFalse_absent_tl1 (c : Callable o fields i f) (hb : f.isBit = true) {a : NatArg} {bit : Nat}
    (hm : f.mask = some (a, bit)) (v : Val) : (o.set fields i v false).tl1Present fields i = false := by
  rw [marked_tl1Present c (set_marked c.hf v false) hm, if_pos hb]

theorem clear_then_notSet (c : Callable o fields i f) : (o.clear fields i).isSet fields i = false :=
  marked_isSet c (clear_marked c.hf)

/-- **clear ⇒ omitted by the TL1 writer** (conditional fields) -/
theorem clear_absent_tl1 (c : Callable o fields i f) {a : NatArg} {bit : Nat} (hm : f.mask = some (a, bit)) :
    (o.clear fields i).tl1Present fields i = false :=
  marked_tl1Present c (clear_marked c.hf) hm

theorem clear_resets (c : Callable o fields i f) (hi : i < o.vals.length) : (o.clear fields i).vals[i]? = some none := by
  rw [(clear_marked c.hf).vals_self c.mask]
  exact List.getElem?_set_self hi

/-- no other field value changes, except the `#` field that is the mask of `F` -/
theorem set_frame_vals (c : Callable o fields i f) (v : Val) (b : Bool) {k : Nat} (hk : k ≠ i)
    (hmk : ∀ a bit, f.mask = some (a, bit) → a ≠ .field k) : (o.set fields i v b).vals[k]? = o.vals[k]? :=
  (set_marked c.hf v b).vals_ne hk hmk

theorem set_frame_tl2 (c : Callable o fields i f) (v : Val) (b : Bool) {k : Nat} (hk : k ≠ i) :
    (o.set fields i v b).tl2[k]? = o.tl2[k]? :=
  (set_marked c.hf v b).tl2_ne hk

theorem set_frame_params (c : Callable o fields i f) (v : Val) (b : Bool) {p : Nat}
    (hmk : ∀ a bit, f.mask = some (a, bit) → a ≠ .param p) : (o.set fields i v b).params[p]? = o.params[p]? :=
  (set_marked c.hf v b).params_ne hmk

theorem set_frame_maskBits (c : Callable o fields i f) (v : Val) (b : Bool) {a' : NatArg} {bit' : Nat}
    (h1 : a' ≠ .field i) (h2 : ∀ a bit, f.mask = some (a, bit) → ¬ (a' = a ∧ bit' = bit)) :
    testBit ((o.set fields i v b).maskVal a') bit' = testBit (o.maskVal a') bit' :=
  (set_marked c.hf v b).maskBits c.mask h1 h2

theorem clear_frame_vals (c : Callable o fields i f) {k : Nat} (hk : k ≠ i)
    (hmk : ∀ a bit, f.mask = some (a, bit) → a ≠ .field k) : (o.clear fields i).vals[k]? = o.vals[k]? :=
  (clear_marked c.hf).vals_ne hk hmk

theorem clear_frame_tl2 (c : Callable o fields i f) {k : Nat} (hk : k ≠ i) : (o.clear fields i).tl2[k]? = o.tl2[k]? :=
  (clear_marked c.hf).tl2_ne hk

theorem clear_frame_params (c : Callable o fields i f) {p : Nat}
    (hmk : ∀ a bit, f.mask = some (a, bit) → a ≠ .param p) : (o.clear fields i).params[p]? = o.params[p]? :=
  (clear_marked c.hf).params_ne hmk

theorem clear_frame_maskBits (c : Callable o fields i f) {a' : NatArg} {bit' : Nat}
    (h1 : a' ≠ .field i) (h2 : ∀ a bit, f.mask = some (a, bit) → ¬ (a' = a ∧ bit' = bit)) :
    testBit ((o.clear fields i).maskVal a') bit' = testBit (o.maskVal a') bit' :=
  (clear_marked c.hf).maskBits c.mask h1 h2

/-- `IsSet` (= TL2 / JSON presence when the type has TL2 code) and the TL1 presence of field `k` agree -/
def agreesAt (o : AObj) (fields : List Field) (k : Nat) : Bool := o.isSet fields k == o.tl1Present fields k

/-- they agree for every conditional field that has accessors (true after `ReadTL1`) -/
def consistent (o : AObj) (fields : List Field) : Bool :=
  (List.range fields.length).all fun k =>
    match fields[k]? with
    | some g => !(g.hasAccessor && g.mask.isSome) || agreesAt o fields k
    | none => true

/-- **the full-strength statement**: every callable accessor keeps the two notions of presence consistent -/
def AccessorsKeepPresenceConsistent : Prop :=
  ∀ (fields : List Field) (o : AObj) (i : Nat) (f : Field) (op : AccOp),
    Callable o fields i f → consistent o fields = true → consistent (o.apply fields i op) fields = true

/-- guard of the partial theorem: no other field is conditional on the same bit of the same mask, and no field is
conditional on a bit of field `i` itself -/
def independent (fields : List Field) (i : Nat) : Bool :=
  match fields[i]? with
  | none => true
  | some f =>
    (List.range fields.length).all fun k =>
      k == i || match fields[k]? with
        | some g =>
          (match g.mask with
           | none => true
           | some (a', bit') =>
             decide (a' ≠ NatArg.field i) &&
             (match f.mask with
              | some (a, bit) => !(decide (a' = a) && decide (bit' = bit))
              | none => true))
        | none => true

theorem independent_get (hf : fields[i]? = some f) (hind : independent fields i = true) {k : Nat} {g : Field}
    (hg : fields[k]? = some g) (hk : k ≠ i) {a' : NatArg} {bit' : Nat} (hm : g.mask = some (a', bit')) :
    a' ≠ .field i ∧ ∀ a bit, f.mask = some (a, bit) → ¬ (a' = a ∧ bit' = bit) := by
  unfold independent at hind
  rw [hf] at hind
  obtain ⟨hlt, _⟩ := List.getElem?_eq_some_iff.mp hg
  have := List.all_eq_true.mp hind k (List.mem_range.mpr hlt)
  simp only [beq_eq_false_iff_ne.mpr hk, Bool.false_or, hg, hm, Bool.and_eq_true, decide_eq_true_eq] at this
  refine ⟨this.1, fun a bit hfm h4 => ?_⟩
  have h2 := this.2
  rw [hfm] at h2
  simp [h4.1, h4.2] at h2

/-- the update the two accessors share keeps the two notions of presence consistent: the field itself gets the same bit
twice, and under `independent` no bit that another conditional field reads is touched -/
theorem marked_keeps_consistent {o1 o' : AObj} {t : Bool} (c : Callable o fields i f) (h : o.Marked o1 f i t o')
    (hind : independent fields i = true) (hc : consistent o fields = true) : consistent o' fields = true := by
  unfold consistent at hc ⊢
  rw [List.all_eq_true] at hc ⊢
  intro k hk
  have hck := hc k hk
  cases hg' : fields[k]? with
  | none => rfl
  | some g' =>
    simp only [hg'] at hck ⊢
    cases hm : g'.mask with
    | none => simp
    | some p =>
      obtain ⟨a', bit'⟩ := p
      by_cases e : k = i
      · subst e
        obtain rfl : g' = f := Option.some.inj (hg'.symm.trans c.hf)
        simp [agreesAt, marked_isSet c h, marked_tl1Present c h hm]
      · obtain ⟨h1, h2⟩ := independent_get c.hf hind hg' e hm
        have : agreesAt o' fields k = agreesAt o fields k := by
          simp only [agreesAt, AObj.isSet, AObj.tl1Present, hg', hm, h.maskBits c.mask h1 h2, h.tl2_ne e]
        rw [this]
        simpa [hm] using hck

/-- **C43, partial** (`Set`): under `independent`, `Set<F>` keeps IsSet / TL2 / JSON presence equal to TL1 presence for
every conditional field -/
theorem set_keeps_consistent_partial (c : Callable o fields i f) (hind : independent fields i = true) (v : Val) (b : Bool)
    (hc : consistent o fields = true) : consistent (o.set fields i v b) fields = true :=
  marked_keeps_consistent c (set_marked c.hf v b) hind hc

/-- **C43, partial** (`Clear`) -/
theorem clear_keeps_consistent_partial (c : Callable o fields i f) (hind : independent fields i = true)
    (hc : consistent o fields = true) : consistent (o.clear fields i) fields = true :=
  marked_keeps_consistent c (clear_marked c.hf) hind hc

/-- in the object `ReadTL1` produces, the two presence notions agree at a conditional field whose mask resolves in the values
read (both are computed from the same mask test) -/
theorem ofRead_agrees (fields : List Field) (vals : List (Option Val)) (params : List Nat) {k : Nat} {g : Field}
    (hg : fields[k]? = some g) {a : NatArg} {bit : Nat} (hm : g.mask = some (a, bit))
    (hv : ∃ m, natArgVal vals params a = some m ∧ (AObj.ofRead fields vals params).maskVal a = m) :
    agreesAt (AObj.ofRead fields vals params) fields k = true := by
  obtain ⟨m, h1, h2⟩ := hv
  simp only [agreesAt, AObj.isSet, AObj.tl1Present, hg, hm, h2]
  cases ht : g.tl2bit with
  | none => simp
  | some t =>
    simp only [AObj.ofRead, List.getElem?_map, hg, Option.map_some, fieldPresent, hm, h1, Option.map_some]
    simp

/-! ### TL2-origin structs: presence is the hidden bit alone -/

/-- what the TL2 / JSON writers see of a field with a presence bit: absent iff the bit is clear -/
theorem toVal2Fields_get (z : Nat → Val) :
    ∀ (fields : List Field) (vals : List (Option Val)) (tl2 : List Bool) (i : Nat) (f : Field) (v : Option Val) (b : Bool),
      fields[i]? = some f → f.tl2bit.isSome = true → vals[i]? = some v → tl2[i]? = some b →
      (toVal2Fields z fields vals tl2)[i]? =
        some (if b then (if f.isBit then some (z f.ty) else some (match v with | some x => x | none => z f.ty)) else none) := by
  intro fields
  induction fields with
  | nil => intro vals tl2 i f v b h; simp at h
  | cons g gs ih =>
    intro vals tl2 i f v b hf ht hv hb
    rcases vals with _ | ⟨w, ws⟩
    · simp at hv
    rcases tl2 with _ | ⟨c, cs⟩
    · simp at hb
    cases i with
    | zero =>
      simp only [List.getElem?_cons_zero, Option.some.injEq] at hf hv hb
      subst hf hv hb
      simp only [toVal2Fields, ht, if_true, List.getElem?_cons_zero]
      rfl
    | succ i => exact ih ws cs i f v b hf ht hv hb

/-- **TL2-origin `bit` field**: after `Set<F>(false)` the field is reported absent and the TL2 / JSON writers see it
absent (whatever it was before) -/
theorem setFalse_absent_tl2origin (d : Desc) (c : Callable o fields i f) (hb : f.isBit = true) {t : Nat}
    (ht : f.tl2bit = some t) (hi : i < o.vals.length) (v : Val) :
    (o.set fields i v false).isSet fields i = false ∧
    ∃ vs, (o.set fields i v false).toVal2 d fields = .struct vs ∧ vs[i]? = some none := by
  refine ⟨setFalse_then_notSet c hb v, _, rfl, ?_⟩
  have htl : (o.set fields i v false).tl2[i]? = some false := by
    rw [(set_marked c.hf v false).tl2_self ht (c.tl2len t ht), if_pos hb]
  have hvl : (o.set fields i v false).vals[i]? = some o.vals[i] := by
    rw [(set_marked c.hf v false).vals_self c.mask]
    simp only [AObj.stored, hb, if_true, List.getElem?_eq_getElem hi]
  have := toVal2Fields_get (zeroVal d (d.insts.size + 1)) fields _ _ i f _ false c.hf (by rw [ht]; rfl) hvl htl
  simpa using this

/-! ### three shapes present in `cases.tl`: the full-strength statement fails on (a) and (b), (c) keeps `consistent` -/

namespace Ex

def fld (name : String) (ty : Nat) (mask : Option (NatArg × Nat)) (tl2bit : Option Nat) (isBit : Bool) : Field :=
  { name, ty, bare := true, mask, tl2bit, isBit, natArgs := [] }

/-- `cases.testLocalFieldmask f1:# f2:f1.0?# f3:f2.1?true f4:f2.1?true` (type indices irrelevant here) -/
def localMask : List Field :=
  [fld "f1" 0 none none false, fld "f2" 0 (some (.field 0, 0)) (some 0) false,
   fld "f3" 1 (some (.field 1, 1)) (some 1) true, fld "f4" 1 (some (.field 1, 1)) (some 2) true]

/-- `{f1: 1, f2: 0}` as `ReadTL1` leaves it -/
def localObj : AObj := AObj.ofRead localMask [some (.nat 1), some (.nat 0), none, none] []

/-- `{f1: 1, f2: 2}`: f3 and f4 present -/
def localObj2 : AObj := AObj.ofRead localMask [some (.nat 1), some (.nat 2), some (.struct []), some (.struct [])] []

/-- `cases.testRecursiveFieldMask f0:# f1:f0.0?# f2:f1.1?# …` (the `true`-typed fields omitted) -/
def recMask : List Field :=
  [fld "f0" 0 none none false, fld "f1" 0 (some (.field 0, 0)) (some 0) false, fld "f2" 0 (some (.field 1, 1)) (some 1) false]

/-- `{f0: 0}` -/
def recObj : AObj := AObj.ofRead recMask [some (.nat 0), none, none] []

end Ex

/-- (a) two fields on the same mask bit: `SetF3(true)` makes `f4` present for the TL1 writer, `IsSetF4()` stays false -/
theorem accessors_inconsistent_at_shared_bit : ¬ AccessorsKeepPresenceConsistent := by
  intro h
  have c : Callable Ex.localObj Ex.localMask 2 (Ex.fld "f3" 1 (some (.field 1, 1)) (some 1) true) :=
    { hf := rfl, acc := rfl, tl2len := fun _ _ => by decide,
      mask := fun a bit hm => by cases hm; exact ⟨by decide, by decide⟩ }
  have := h Ex.localMask Ex.localObj 2 _ (.set (.struct []) true) c (by decide)
  revert this
  decide

/-- (b) a field that is itself a mask: after `ClearF2()` on `{f1:1, f2:2}` the TL1 writer omits f3/f4, `IsSetF3()` is still true -/
theorem accessors_inconsistent_at_mask_of_mask : ¬ AccessorsKeepPresenceConsistent := by
  intro h
  have c : Callable Ex.localObj2 Ex.localMask 1 (Ex.fld "f2" 0 (some (.field 0, 0)) (some 0) false) :=
    { hf := rfl, acc := rfl, tl2len := fun _ _ => by decide,
      mask := fun a bit hm => by cases hm; exact ⟨by decide, by decide⟩ }
  have := h Ex.localMask Ex.localObj2 1 _ .clear c (by decide)
  revert this
  decide

/-- the guard is not vacuous: `SetF2` of the first example shape without the shared-bit siblings is `independent` -/
example : independent [Ex.fld "f1" 0 none none false, Ex.fld "f2" 0 (some (.field 0, 0)) (some 0) false,
    Ex.fld "f3" 1 (some (.field 0, 1)) (some 1) true] 1 = true := by decide

/-- (c) a conditional mask: `SetF2(v)` on `{f0:0}` sets bit 1 of `f1` but not bit 0 of `f0`: `f2` is reported present and
passes the TL1 writer's own test, but its mask `f1` is not emitted — the bytes written cannot be read back.
(`independent` holds here: this shape is outside what the presence-agreement statement can see, it is tied and recorded
by the check as part of the same known finding.) -/
theorem set_does_not_set_ancestor_mask :
    (Ex.recObj.set Ex.recMask 2 (.nat 7) true).isSet Ex.recMask 2 = true ∧
    (Ex.recObj.set Ex.recMask 2 (.nat 7) true).tl1Present Ex.recMask 2 = true ∧
    (Ex.recObj.set Ex.recMask 2 (.nat 7) true).tl1Present Ex.recMask 1 = false := by
  decide

end TLVerif.Props.C43
