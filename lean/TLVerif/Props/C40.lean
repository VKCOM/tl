import TLVerif.Rpcextra.FormatLemmas
import TLVerif.Rpcextra.FuelLemmas
/-!
# C40 — RPC request/response extras are transmitted unchanged

The model is `TLVerif/Rpcextra/{Wire,Extras,Format}.lean` (hand-written after
`pkg/rpc/rpc_format.go`, the byte-moving lines of `client.go`, `client_conn.go`, `server_conn_tcp.go`, and the generated
TL1 codecs of `RpcInvokeReqExtra` / `RpcReqResultExtra`), instantiated with the wrapper tags, packet limits and error
codes extracted from the repository on this run (`Generated/RpcextraFacts.lean`).

Reading guide.  `e.norm` is `e` with every field whose mask bit is clear reset to its zero value; `e.consistent` is
`e.norm = e` ("a field is non-default only if its bit is set", which the generated `Set…/Clear…` accessors maintain).
All theorems are for **all** requests/extras/handlers: no bound on sizes other than the success of the code's own
length check (`preparePacket … = some`, `prepareResponseBody … = .ok`), from which the lemmas `prepare_wf`/`response_wf`
derive every size side condition of the generated writers.  The remaining hypotheses are explicit and decidable:

* `mapsOK`     — the model's association lists are key-sorted without duplicates, i.e. they *are* Go maps;
* `reqBodyOK`  — the request body starts with a 4-byte tag that is not one of the four request wrapper tags;
* `respBodyOK` — in TL1 body format the result body starts with a tag that is none of the four result magics
                 (in TL2 format the marker makes every body acceptable).

The last two are the in-band-signalling assumptions of the protocol (the body is a TL function call / boxed result);
`body_tag_hypothesis_needed` and `result_tag_hypothesis_needed` show they cannot be dropped.
-/
namespace TLVerif.Props.C40
open TLVerif.Prim TLVerif.Rpcextra TLVerif.Facts.Rpcextra

/-- the four request wrapper tags are pairwise distinct (so the server's `switch` is unambiguous) -/
theorem request_tags_distinct : [tDestActor, tDestFlags, tDestActorFlags, tTL2Marker].Nodup := by decide

theorem result_tags_distinct :
    [tReqResultHeader, tReqError, tRpcReqResultError, tRpcReqResultErrorWrapped, tTL2Marker].Nodup := by decide

/-- the extracted tag values are the documented ones (`rpc.tl`) -/
theorem tag_values :
    tagRpcDestActor = 0x7568aabd ∧ tagRpcDestFlags = 0xe352035e ∧ tagRpcDestActorFlags = 0xf0a5acf7 ∧
    tagRpcTL2Marker = 0x30324c54 ∧ tagReqResultHeader = 0x8cc84ce1 ∧ tagReqError = 0xb527877d ∧
    tagRpcReqResultError = 0x7ae432f5 ∧ tagRpcReqResultErrorWrapped = 0x7ae432f6 := by decide

/-- the field layouts the model's `write`/`read` follow are the ones of the generated `WriteTL1`/`ReadTL1`
(mask bit — 1000 = unconditional —, primitive, field), extracted from the Go source on this run;
writer and reader agree on bits, order and fields. -/
theorem layouts_as_modelled :
    reqExtraWriteLayout.map (fun s => (s.1, s.2.2)) =
      [(1000, "Flags"), (9, "RequesterId"), (15, "WaitShardsBinlogPos"), (16, "WaitBinlogPos"), (18, "StringForwardKeys"),
       (19, "IntForwardKeys"), (20, "StringForward"), (21, "IntForward"), (23, "CustomTimeoutMs"),
       (25, "SupportedCompressionVersion"), (26, "RandomDelay"), (28, "PersistentQuery"), (29, "TraceContext"),
       (30, "ExecutionContext")] ∧
    reqExtraReadLayout.map (fun s => (s.1, s.2.2)) = reqExtraWriteLayout.map (fun s => (s.1, s.2.2)) ∧
    resExtraWriteLayout.map (fun s => (s.1, s.2.2)) =
      [(1000, "Flags"), (0, "BinlogPos"), (1, "BinlogTime"), (2, "EnginePid"), (3, "RequestSize"), (3, "ResponseSize"),
       (4, "FailedSubqueries"), (5, "CompressionVersion"), (6, "Stats"), (14, "ShardsBinlogPos"), (27, "EpochNumber"),
       (27, "ViewNumber")] ∧
    resExtraReadLayout.map (fun s => (s.1, s.2.2)) = resExtraWriteLayout.map (fun s => (s.1, s.2.2)) ∧
    traceContextWriteLayout.map (fun s => (s.1, s.2.2)) = [(1000, "FieldsMask"), (1000, "TraceId"), (2, "ParentId"), (3, "SourceId")] ∧
    traceContextReadLayout.map (fun s => (s.1, s.2.2)) = traceContextWriteLayout.map (fun s => (s.1, s.2.2)) :=
  ⟨rfl, rfl, rfl, rfl, rfl, rfl⟩

/-- the primitives used per field (writer side), as modelled -/
theorem primitives_as_modelled :
    reqExtraWriteLayout.map (fun s => s.2.1) =
      ["NatWrite", "LongWrite", "BuiltinDictStringLongWriteTL1", "LongWrite", "BuiltinVectorStringWriteTL1",
       "BuiltinVectorLongWriteTL1", "StringWrite", "LongWrite", "IntWrite", "IntWrite", "DoubleWrite", "WriteTL1Boxed",
       "WriteTL1", "StringWrite"] ∧
    resExtraWriteLayout.map (fun s => s.2.1) =
      ["NatWrite", "LongWrite", "LongWrite", "WriteTL1", "IntWrite", "IntWrite", "IntWrite", "IntWrite",
       "BuiltinDictStringStringWriteTL1", "BuiltinDictStringLongWriteTL1", "LongWrite", "LongWrite"] ∧
    netPidWriteLayout = [(1000, "NatWrite", "Ip"), (1000, "NatWrite", "PortPid"), (1000, "NatWrite", "Utime")] ∧
    rpcReqResultErrorWriteLayout = [(1000, "LongWrite", "QueryId"), (1000, "IntWrite", "ErrorCode"), (1000, "StringWrite", "Error")] ∧
    rpcReqResultErrorReadLayout = [(1000, "LongRead", "QueryId"), (1000, "IntRead", "ErrorCode"), (1000, "StringRead", "Error")] ∧
    reqErrorReadLayout = [(1000, "IntRead", "ErrorCode"), (1000, "StringRead", "Error")] ∧
    rpcReqResultErrorWrappedReadLayout = [(1000, "IntRead", "ErrorCode"), (1000, "StringRead", "Error")] ∧
    dictFieldStringLongWriteLayout = [(1000, "StringWrite", "Key"), (1000, "LongWrite", "Value")] ∧
    dictFieldStringStringWriteLayout = [(1000, "StringWrite", "Key"), (1000, "StringWrite", "Value")] :=
  ⟨rfl, rfl, rfl, rfl, rfl, rfl, rfl, rfl, rfl⟩

theorem limits_and_codes :
    maxPacketLen = 16777215 ∧ packetOverhead = 16 ∧ i32 errUnknown = 4294963296 ∧ i32 errNoHandler = 4294965296 := by decide

/-- `RpcInvokeReqExtra`: reading what was written yields the value with clear-bit fields reset, and leaves the rest. -/
theorem reqextra_roundtrip (e : ReqExtra) (rest : Bytes) (h : e.wf) :
    ReqExtra.read (e.write ++ rest) = .ok (e.norm, rest) := ReqExtra.rt e h rest

/-- `RpcReqResultExtra`: same. -/
theorem resextra_roundtrip (e : ResExtra) (rest : Bytes) (h : e.wf) :
    ResExtra.read (e.write ++ rest) = .ok (e.norm, rest) := ResExtra.rt e h rest

theorem reqextra_roundtrip_consistent (e : ReqExtra) (rest : Bytes) (h : e.wf) (hc : e.consistent) :
    ReqExtra.read (e.write ++ rest) = .ok (e, rest) := by
  have := ReqExtra.rt e h rest; rwa [hc] at this

/-- the side conditions `wf` are implied by any encoding shorter than 4 GiB (hence by every packet) -/
theorem reqextra_wf_of_short (e : ReqExtra) (hm : e.mapsOK) (hl : e.write.length < 4294967296) : e.wf :=
  ReqExtra.wf_of_short e hm hl

theorem resextra_wf_of_short (e : ResExtra) (hm : e.mapsOK) (hl : e.write.length < 4294967296) : e.wf :=
  ResExtra.wf_of_short e hm hl

/-- a key-sorted association list is a fixed point of "insert the entries one by one into an empty map":
the model's representation of `map[string]T` is canonical -/
theorem map_representation_canonical {β : Type} (m : List (Bytes × β)) (h : dictSorted m = true) : dictOfList m = m :=
  dictOfList_sorted m h

/-- **parseInvokeReq (preparePacket r) = r**, both body formats, every actor, every extra: whenever the client's
`preparePacket` succeeds, the server's `ParseInvokeReq` (on a `reset()` context) succeeds on the bytes
`writeRequest` sends and fills in exactly: the query id, the actor id, the TL2 flag, the extra with clear-bit
fields reset, the function tag, the untouched body, and the derived `noResult`/fieldsmask/timeout. -/
theorem request_roundtrip (req : Request) (p : Bytes × Nat)
    (hb : reqBodyOK req.body = true) (hm : req.extra.mapsOK) (hp : preparePacket req = some p) :
    parseInvokeReq (wireOf p) = .ok (expectedHctx req) := by
  rw [wireOf_prepare req p hp]; exact parse_header req hb (prepare_wf req p hm hp)

/-- for mask-consistent extras the server's `RequestExtra` **is** the client's `Request.Extra`,
and actor, format, query id and body are the client's. -/
theorem request_extras_unchanged (req : Request) (p : Bytes × Nat)
    (hb : reqBodyOK req.body = true) (hm : req.extra.mapsOK) (hc : req.extra.consistent)
    (hp : preparePacket req = some p) :
    ∃ hc', parseInvokeReq (wireOf p) = .ok hc' ∧ hc'.extra = req.extra ∧ hc'.actorId = req.actorId ∧
      hc'.tl2 = req.tl2 ∧ hc'.queryId = req.queryId ∧ hc'.request = req.body ∧
      hc'.fieldsMask = req.extra.flags ∧ hc'.noResult = hasBit req.extra.flags 7 :=
  ⟨expectedHctx req, request_roundtrip req p hb hm hp, hc, rfl, rfl, rfl, rfl, rfl, rfl⟩

/-- `preparePacket` keeps the user body in front and only appends; it fails only on the length check -/
theorem prepare_shape (req : Request) :
    preparePacket req = (if (req.body ++ requestHeader req).length ≤ maxPacketLen - packetOverhead
      then some (req.body ++ requestHeader req, req.body.length) else none) := by
  simp [preparePacket, validBodyLen]

/-- the timeout the server derives is the (received) custom timeout when it is a positive `int32`, else the default -/
theorem request_timeout (req : Request) :
    (expectedHctx req).customTimeout =
      (if (0 < req.extra.norm.customTimeoutMs.toNat && req.extra.norm.customTimeoutMs.toNat < 2147483648) = true
       then some req.extra.norm.customTimeoutMs else none) := rfl

/-- **parseResponseExtra (prepareResponse h) = h.extra** (restricted to the requested bits): for a successful call the
client gets the query id, exactly the handler's body, and the handler's `ResponseExtra` with
`Flags & requestExtraFieldsmask` and clear-bit fields reset. -/
theorem response_roundtrip (h : RespIn) (resp : Bytes) (es : Nat) (fl : UInt32)
    (hb : respBodyOK h.tl2 h.response = true) (hm : (maskedExtra h).mapsOK)
    (hp : prepareResponseBody h .none = .ok resp es fl) :
    parseResponse h.tl2 (wireOf (resp, es)) = .ok (h.queryId, h.response, (maskedExtra h).norm, .ok) :=
  parseResponse_wire hp (parseResponseExtra_ok h.tl2 _ _ hb (response_wf h .none resp es fl hm hp))

/-- the flags sent back are the handler's flags restricted to the request's: never a bit the client did not ask for -/
theorem response_flags_subset (h : RespIn) (err : HandlerErr) (resp : Bytes) (es : Nat) (fl : UInt32)
    (hp : prepareResponseBody h err = .ok resp es fl) :
    fl = h.extra.flags &&& h.reqFlags ∧ fl &&& h.reqFlags = fl ∧ (maskedExtra h).norm.flags = fl := by
  have hfl := (prepareResponseBody_ok hp).2.1
  refine ⟨hfl, ?_, ?_⟩
  · rw [hfl, UInt32.and_assoc, UInt32.and_self]
  · rw [hfl]; rfl

/-- if the handler only sets requested bits and keeps its extra mask-consistent, the client's `Response.Extra`
**is** the handler's `ResponseExtra`. -/
theorem response_extras_unchanged (h : RespIn) (resp : Bytes) (es : Nat) (fl : UInt32)
    (hb : respBodyOK h.tl2 h.response = true) (hm : h.extra.mapsOK) (hc : h.extra.consistent)
    (hsub : h.extra.flags &&& h.reqFlags = h.extra.flags)
    (hp : prepareResponseBody h .none = .ok resp es fl) :
    parseResponse h.tl2 (wireOf (resp, es)) = .ok (h.queryId, h.response, h.extra, .ok) := by
  have hme : maskedExtra h = h.extra := by
    cases hx : h.extra; simp only [maskedExtra, hx] at hsub ⊢; simp only [hsub]
  have := response_roundtrip h resp es fl hb (by rw [hme]; exact hm) hp
  rw [hme, hc] at this; exact this

/-- **error code/description preserved**: whatever `prepareResponseBody` decides to put on the wire for the
handler's error arrives as `*rpc.Error{Code, Description}`; the body is empty; extras as for a success. -/
theorem error_roundtrip (h : RespIn) (err : HandlerErr) (code : UInt32) (desc : Bytes) (resp : Bytes) (es : Nat) (fl : UInt32)
    (he : errorOnWire h.reqTag err = some (code, desc)) (hm : (maskedExtra h).mapsOK)
    (hp : prepareResponseBody h err = .ok resp es fl) :
    parseResponse h.tl2 (wireOf (resp, es)) = .ok (h.queryId, [], (maskedExtra h).norm, .rpcError code desc) := by
  have hne : err.isNone = false := by
    cases err with
    | none => cases he
    | _ => rfl
  have hbody : responseBody h err = u32W tRpcReqResultError ++ (u64W h.queryId ++ (u32W code ++ strW desc)) := by
    simp only [responseBody, he]
  refine parseResponse_wire hp ?_
  rw [hbody, hne, Bool.false_and, if_neg Bool.false_ne_true, List.nil_append]
  exact parseResponseExtra_err h.tl2 _ _ _ _ (response_desc_ok h err code desc resp es fl he hp)
    (response_wf h err resp es fl hm hp)

/-- what goes on the wire for each class of handler error: an `*rpc.Error` is forwarded as is, except that
**code 0 becomes `Unknown` (-4000)**; `ErrNoHandler` becomes `NoHandler` (-2000) with the request tag in the
text; any other error becomes `Unknown` with `err.Error()`. -/
theorem error_codes (tag : UInt32) (code : UInt32) (desc : Bytes) :
    (code ≠ 0 → errorOnWire tag (.rpc code desc) = some (code, desc)) ∧
    errorOnWire tag (.rpc 0 desc) = some (i32 errUnknown, desc) ∧
    errorOnWire tag (.other desc) = some (i32 errUnknown, desc) ∧
    errorOnWire tag .noHandler = some (i32 errNoHandler, noHandlerDescription tag) ∧
    errorOnWire tag .none = none := by
  refine ⟨fun h => ?_, rfl, rfl, rfl, rfl⟩
  have : (code == 0) = false := by simpa using h
  simp [errorOnWire, this]

/-- so a non-zero code and its description arrive unchanged … -/
theorem error_code_preserved (h : RespIn) (code : UInt32) (desc : Bytes) (resp : Bytes) (es : Nat) (fl : UInt32)
    (hne : code ≠ 0) (hm : (maskedExtra h).mapsOK) (hp : prepareResponseBody h (.rpc code desc) = .ok resp es fl) :
    parseResponse h.tl2 (wireOf (resp, es)) = .ok (h.queryId, [], (maskedExtra h).norm, .rpcError code desc) :=
  error_roundtrip h _ code desc resp es fl ((error_codes h.reqTag code desc).1 hne) hm hp

/-- … and code 0 arrives as `Unknown`, never as 0 (0 would mean "no error" to `rpc2.invokeReq`). -/
theorem error_code_zero_is_unknown (h : RespIn) (desc : Bytes) (resp : Bytes) (es : Nat) (fl : UInt32)
    (hm : (maskedExtra h).mapsOK) (hp : prepareResponseBody h (.rpc 0 desc) = .ok resp es fl) :
    parseResponse h.tl2 (wireOf (resp, es)) = .ok (h.queryId, [], (maskedExtra h).norm, .rpcError (i32 errUnknown) desc) ∧
    i32 errUnknown ≠ 0 :=
  ⟨error_roundtrip h _ _ desc resp es fl (error_codes h.reqTag 0 desc).2.1 hm hp, by decide⟩

/-- nothing is sent for a `noResult` request -/
theorem no_result_no_answer (h : RespIn) (err : HandlerErr) (hn : h.noResult = true) :
    prepareResponseBody h err = .noResult := by
  simp [prepareResponseBody, hn]

/-- **End to end** (successful handler): if the exchange completes, the handler saw the client's request
(extras with clear-bit fields reset) and the caller gets the handler's body and the handler's extras restricted to
the bits of the *request* flags. -/
theorem exchange_ok (req : Request) (handler : Hctx → Handler) (p : Bytes × Nat) (resp : Bytes) (es : Nat) (fl : UInt32)
    (hb : reqBodyOK req.body = true) (hm : req.extra.mapsOK) (hp : preparePacket req = some p)
    (herr : (handler (expectedHctx req)).err = .none)
    (hrb : respBodyOK req.tl2 (handler (expectedHctx req)).response = true)
    (hrm : (maskedExtra (respIn (expectedHctx req) (handler (expectedHctx req)))).mapsOK)
    (hpr : prepareResponseBody (respIn (expectedHctx req) (handler (expectedHctx req))) .none = .ok resp es fl) :
    exchange req handler = .done (expectedHctx req) (handler (expectedHctx req)).response
      ({ (handler (expectedHctx req)).extra with
          flags := (handler (expectedHctx req)).extra.flags &&& req.extra.flags } : ResExtra).norm .ok := by
  have := response_roundtrip (respIn (expectedHctx req) (handler (expectedHctx req))) resp es fl hrb hrm hpr
  rw [show (respIn (expectedHctx req) (handler (expectedHctx req))).tl2 = req.tl2 from rfl] at this
  simp only [exchange, hp, request_roundtrip req p hb hm hp, herr, hpr, this]
  rfl

/-- **End to end** (failing handler): the caller gets code (0 ↦ Unknown) and description. -/
theorem exchange_err (req : Request) (handler : Hctx → Handler) (p : Bytes × Nat) (resp : Bytes) (es : Nat) (fl : UInt32)
    (code : UInt32) (desc : Bytes)
    (hb : reqBodyOK req.body = true) (hm : req.extra.mapsOK) (hp : preparePacket req = some p)
    (herr : errorOnWire (expectedHctx req).reqTag (handler (expectedHctx req)).err = some (code, desc))
    (hrm : (maskedExtra (respIn (expectedHctx req) (handler (expectedHctx req)))).mapsOK)
    (hpr : prepareResponseBody (respIn (expectedHctx req) (handler (expectedHctx req))) (handler (expectedHctx req)).err = .ok resp es fl) :
    exchange req handler = .done (expectedHctx req) []
      ({ (handler (expectedHctx req)).extra with
          flags := (handler (expectedHctx req)).extra.flags &&& req.extra.flags } : ResExtra).norm (.rpcError code desc) := by
  have := error_roundtrip (respIn (expectedHctx req) (handler (expectedHctx req))) _ code desc resp es fl herr hrm hpr
  rw [show (respIn (expectedHctx req) (handler (expectedHctx req))).tl2 = req.tl2 from rfl] at this
  simp only [exchange, hp, request_roundtrip req p hb hm hp, hpr, this]
  rfl

/-! ## a proxy hop (`forward.go`, outside the anchors of C40 — recorded because it uses `preparePacket`) -/

/-- A request relayed by `HandlerContext.ForwardAndFlush` reaches the final server with the client's query id,
body and extras (clear-bit fields reset), but with **actor id 0 and without the TL2 marker**, whatever the client
sent: `forward.go` builds `Request{Body, Extra, queryID}` and copies neither `ActorID` nor `BodyFormatTL2`.
This is what the code does (reproduced on the real `ForwardAndFlush` by the `rpcextra.fwd` cases); whether a proxy
is meant to strip the actor is a design question, dropping the TL2 marker makes the final server read a TL2 body as TL1. -/
theorem forward_hop (req : Request) (p : Bytes × Nat) (p2 : Bytes × Nat)
    (hb : reqBodyOK req.body = true) (hm : req.extra.mapsOK) (hp : preparePacket req = some p)
    (hf : forwardRequest (expectedHctx req) = some p2) :
    viaProxy (wireOf p) = .ok (some (.ok (expectedHctx { req with actorId := 0, tl2 := false }))) := by
  unfold viaProxy
  rw [request_roundtrip req p hb hm hp]
  simp only [hf]
  -- the proxy's own request: what it parsed, with default actor and format
  let req2 : Request := { body := (expectedHctx req).request, extra := (expectedHctx req).extra, queryId := (expectedHctx req).queryId }
  rw [request_roundtrip req2 p2 hb (ReqExtra.norm_mapsOK _ hm) hf]
  simp only [req2, expectedHctx, fillInternals, ReqExtra.norm_norm]

/-- The Go loops (`for { … }` over wrappers / result headers) are unbounded; the model drives them with
`len/4 + 1` units of fuel. That bound is never reached, for any input bytes (valid or malformed): the
model's `.error .other` for "out of fuel" is dead code, so the model's verdict on every byte string is the
verdict of the unbounded loop. -/
theorem loops_never_run_out_of_fuel (h0 : Hctx) (q : UInt64) (r : Bytes) (ex0 : ResExtra) (body : Bytes) :
    parseWrappers (r.length / 4 + 1) { h0 with queryId := q, request := r } {} ≠ none ∧
    parseResultExtras (body.length / 4 + 1) ex0 body 0 ≠ none :=
  ⟨parseWrappers_fuel _ _ _ (by simp only; omega), parseResultExtras_fuel _ _ _ _ (by omega)⟩

/-- every reader of the extras consumes input, never produces it -/
theorem readers_consume (r r' : Bytes) :
    (∀ e, ReqExtra.read r = .ok (e, r') → r'.length ≤ r.length) ∧
    (∀ e, ResExtra.read r = .ok (e, r') → r'.length ≤ r.length) :=
  ⟨fun e h => ReqExtra.read_nonInc r e r' h, fun e h => ResExtra.read_nonInc r e r' h⟩

/-- Without `reqBodyOK` the statement is false: a body that begins with the `rpcDestActor` tag is taken for a
wrapper, the server sees another actor and a shorter body. (In-band signalling; real bodies start with a function tag.) -/
theorem body_tag_hypothesis_needed :
    ∃ req p, preparePacket req = some p ∧ req.extra.consistent ∧
      ∃ hc, parseInvokeReq (wireOf p) = .ok hc ∧ hc.actorId ≠ req.actorId ∧ hc.request ≠ req.body :=
  ⟨{ body := u32W tDestActor ++ u64W 5 ++ [1, 2, 3, 4] }, _, rfl, by decide, _, rfl, by decide, by decide⟩

/-- Without `respBodyOK` (TL1 format) a result body beginning with the `reqError` tag is taken for an error. -/
theorem result_tag_hypothesis_needed :
    ∃ h resp es fl, prepareResponseBody h .none = .ok resp es fl ∧
      ∃ r, parseResponse h.tl2 (wireOf (resp, es)) = .ok r ∧ r.2.2.2 ≠ .ok :=
  ⟨{ response := u32W tReqError ++ u32W 7 ++ [0, 0, 0, 0] }, _, _, _, rfl, _, rfl, by decide⟩

/-! Non-vacuity: concrete non-trivial values satisfy the hypotheses and exercise both formats. -/

def exReq : Request :=
  { body := [1, 2, 3, 4, 9], actorId := 77, tl2 := true, queryId := 5,
    extra := { flags := 0x20B48201, requesterId := 9, waitShardsBinlogPos := [([97], 1), ([97, 98], 2)],
               stringForwardKeys := [[], [120]], stringForward := [1], customTimeoutMs := 1500,
               traceContext := { fieldsMask := 12, traceLo := 1, traceHi := 2, parentId := 3, sourceId := [115] } } }

example : reqBodyOK exReq.body = true := by decide
example : exReq.extra.mapsOK := by decide
example : exReq.extra.consistent := by decide
set_option maxRecDepth 100000 in
example : (preparePacket exReq).isSome = true := by decide +kernel
set_option maxRecDepth 100000 in
example : (parseInvokeReq (wireOf ((preparePacket exReq).getD ([], 0)))).toOption.map (·.extra) = some exReq.extra := by decide +kernel
set_option maxRecDepth 100000 in
example : (parseInvokeReq (wireOf ((preparePacket exReq).getD ([], 0)))).toOption.map (·.customTimeout) = some (some 1500) := by decide +kernel

def exResp : RespIn :=
  { queryId := 5, response := [7, 7, 7, 7], reqFlags := 0x4041, tl2 := false,
    extra := { flags := 0x4043, binlogPos := 11, binlogTime := 12, stats := [([107], [118])], shardsBinlogPos := [([115], 4)] } }

example : respBodyOK exResp.tl2 exResp.response = true := by decide
example : (maskedExtra exResp).mapsOK := by decide
example : ∃ resp es, prepareResponseBody exResp .none = .ok resp es 0x4041 := ⟨_, _, rfl⟩
example : ∃ resp es, prepareResponseBody exResp (.rpc 0 [104, 105]) = .ok resp es 0x4041 := ⟨_, _, rfl⟩

end TLVerif.Props.C40
