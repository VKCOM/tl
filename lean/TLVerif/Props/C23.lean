import TLVerif.Syntax.CanonLemmas
import TLVerif.Syntax.ParserLemmas
/-!
# C23 — Implicit constructor tags follow the canonical-form CRC32 rule

Statement (fixed): *A TL1 constructor without an explicit tag gets the CRC32 (IEEE) of its canonical
one-line form as documented (no braces, single spaces, bare-marker rules, arithmetic replaced by its
value); consequently the tag does not change under whitespace, comments, line breaks or equivalent
type-application syntax, and explicit tags are used verbatim.*

Model: `Combinator.canonicalForm` (`qt_tlparser.qtpl(.go)`: `canonicalForm`, `toCrc32`, and the `String()`
printers it falls back to inside `[ … ]`), `crc32` (bitwise CRC-32/IEEE), `Combinator.withTag`
(`tlcrc32.go` + the assignment in `parseCombinator`).
-/
namespace TLVerif.Props.C23
open TLVerif.Syntax

/-- The bitwise CRC is CRC-32/IEEE: the standard check value. -/
theorem crc32_check_value : crc32 (strBytes "123456789") = 0xCBF43926 := by
  rw [strBytes_ofList]
  decide +kernel

/-- The example of `docs/TLPrimer.pdf`: `point x:int y:int = Point;` is `point#e3fe70f4`. -/
theorem crc32_doc_example : crc32 (strBytes "point x:int y:int = Point") = 0xe3fe70f4 := by
  rw [strBytes_ofList]
  decide +kernel

/-- **Every** combinator of **every** successfully parsed text (all lexer options): if it has no explicit tag,
its tag is the CRC32 of its canonical form. -/
theorem tag_is_crc_of_canonical (o : LexOpts) (text : Bytes) (tl : TL) (h : parseTLFile o text = .ok tl) :
    ∀ c ∈ tl.combinators, c.construct.explicit = false → c.construct.id = crc32 c.canonicalForm :=
  parseTLFile_all TagOK (fun _ _ _ _ _ hc => parseCombinator_tagOK hc) h

/-- Explicit tags are used verbatim, part 1: the id of an explicit constructor that the constructor parser returns is
the value of the hex digits of a `#xxxxxxxx` token (`strconv.ParseUint(val[1:], 16, 32)`). The proof exhibits the token
`checkToken` found in `ts`; the statement does not say where the token comes from. -/
theorem explicit_tag_verbatim (ts rest : List Token) (outer : Pos) (ab : Bool) (c : Constructor)
    (h : parseConstructor ts outer ab = .ok c rest) (he : c.explicit = true) :
    ∃ t : Token, t.ty = .crc32hash ∧ ∃ c0 digits v, t.val = c0 :: digits ∧ parseHex32 digits = some v ∧ c.id = UInt32.ofNat v := by
  revert h
  -- two branches of `parseConstructor` return `ok`: without a tag (not explicit), and with the value of the digits
  fun_cases parseConstructor ts outer ab <;> intro h <;> try contradiction
  · cases h; cases he
  · rename_i t r hc c0 digits hval v hv _ _ _  -- `hc`: the `checkToken` hit on `#`, `hval`, `hv`: its text and value
    cases h
    exact ⟨t, checkToken_hit hc, c0, digits, v, hval, hv, rfl⟩

/-- Explicit tags are used verbatim, part 2: every successful `parseCombinator` is the combinator parsed up to the
`;` with only the tag filled in (when not explicit) and the right-hand comment attached; an explicit constructor
is not touched. -/
theorem explicit_tag_kept (text : Bytes) (cs ts rest : List Token) (isF ab : Bool) (td : Combinator)
    (h : parseCombinator text cs ts isF ab = .ok td rest) :
    ∃ pre r8 cr, parseCombinatorPre text cs ts isF ab = .ok pre r8 ∧ td = { pre.withTag with cr := cr } ∧
      (pre.construct.explicit = true → td.construct = pre.construct) ∧ td.canonicalForm = pre.canonicalForm := by
  obtain ⟨pre, r8, cr, hp, rfl⟩ := parseCombinator_ok_inv h
  refine ⟨pre, r8, cr, hp, rfl, ?_, ?_⟩
  · intro he; have := (withTag_spec pre).2.2 he; simp only [this]
  · rw [← withTag_canonical pre]; rfl

/-- The canonical form (hence an implicit tag) does not depend on the tag itself, on comments or on the
newline flag: it is a function of names, template arguments, fields and the result only. -/
theorem canonical_ignores_tag_and_comments (c : Combinator) (id : UInt32) (ex : Bool) (cb cr : Bytes) :
    ({ c with construct := { c.construct with id := id, explicit := ex }, cb := cb, cr := cr } : Combinator).canonicalForm =
      c.canonicalForm := rfl

/-- Full-strength statement: the implementation's canonical form is the documented one (uniform rules, also inside
repetition brackets).  It is **false** (`canonical_as_documented_fails_at`). -/
def CanonicalAsDocumented : Prop := ∀ c : Combinator, c.canonicalForm = c.docCanonical

/-- Under the decidable guard "the contents of repetition brackets are plain" (no `!`, no arguments, no `%` on a
lower-case name, no masked nested repetition) the implementation's form is the documented one — for every
combinator, parsed or not. -/
theorem canonical_as_documented_partial (c : Combinator) (h : c.plainBrackets = true) :
    c.canonicalForm = c.docCanonical := by
  unfold Combinator.canonicalForm Combinator.docCanonical
  have : c.fields.map (fun f => f.crc ++ [cSpace]) = c.fields.map (fun f => docField f ++ [cSpace]) :=
    List.map_congr_left fun f hf => by rw [fieldCrc_doc f (List.all_eq_true.mp h f hf)]
  rw [this]

-- for writing `witness`: a name without namespace, a field `n:t` without mask
def bn (s : String) : Name := ⟨[], strBytes s⟩
def plainF (n : String) (t : TypeRef) : Field := .mk (strBytes n) none false (.type t) false [] []
/-- `foo n:# a:n*[x:%int y:(tuple int 1+2)] = Foo;` as a tree -/
def witness : Combinator :=
  { builtin := false, isFunction := false, mods := [], construct := ⟨bn "foo", 0, false⟩, targs := [],
    fields := [plainF "n" (.mk ⟨[], [cHash]⟩ [] false),
               .mk (strBytes "a") none false (.rep (some (.name (strBytes "n")))
                 [plainF "x" (.mk (bn "int") [] true),
                  plainF "y" (.mk (bn "tuple") [.type (.mk (bn "int") [] false), .arith ⟨[1, 2], 3⟩] false)]) false [] []],
    typeDecl := ⟨bn "Foo", []⟩, funcDecl := TypeRef.zero, cb := [], cr := [] }

/-- the implementation keeps `%int`, the parentheses and `1 + 2` inside the brackets … -/
theorem witness_canonical : witness.canonicalForm = strBytes "foo n:# a:n*[ x:%int y:(tuple int 1 + 2) ] = Foo" := by
  rw [strBytes_ofList]
  -- the printers recurse through the nested field lists, which the kernel does not unfold: their equations first
  simp only [witness, plainF, Combinator.canonicalForm, List.map_cons, List.map_nil, Field.crc, rwsCrc, repCrc, Field.str,
    FieldBody.str, TypeRef.str, AOT.str, argsStr, TypeRef.crc, argsCrc]
  decide +kernel
/-- … the documented rules give `int`, no parentheses and the value `3` -/
theorem witness_documented : witness.docCanonical = strBytes "foo n:# a:n*[ x:int y:tuple int 3 ] = Foo" := by
  rw [strBytes_ofList]
  simp only [witness, plainF, Combinator.docCanonical, List.map_cons, List.map_nil, docField, docBody, docRep, TypeRef.crc,
    AOT.crc, argsCrc]
  decide +kernel

theorem canonical_as_documented_fails_at : ¬ CanonicalAsDocumented := by
  intro h
  have := h witness
  rw [witness_canonical, witness_documented, strBytes_ofList, strBytes_ofList] at this
  exact absurd this (by decide +kernel)

/-- the guard is satisfiable by a combinator that does have bracket contents -/
example : ({ witness with fields := [.mk (strBytes "a") none false (.rep none [plainF "x" (.mk (bn "Int") [] true)]) false [] []] } :
    Combinator).plainBrackets = true := by
  simp [Combinator.plainBrackets, plainField, plainRep, plainType, plainF, bn]
  decide

/-- what the parser sees of a token stream. That two streams with the same `stripWS` parse to the same combinators up
to comments is tied and explored by the check, not stated or proved in Lean; below, the iterator primitives are shown
to be layout invariant. -/
def stripWS (ts : List Token) : List Token := ts.filter (fun t => !t.ty.isWS)

/-- what a primitive shows of the iterator, up to layout: the front token and the stripped tail -/
def viewWS (r : Option (Token × List Token)) : Option (Token × List Token) := r.map (fun p => (p.1, stripWS p.2))

theorem stripWS_wspre {a : List Token} {t : Token} {r : List Token} (h : WSPre a (t :: r)) (ht : t.ty.isWS = false) :
    stripWS a = t :: stripWS r := by
  obtain ⟨ws, rfl, hws⟩ := h
  have : ws.filter (fun t => !t.ty.isWS) = [] := List.filter_eq_nil_iff.mpr fun t ht => by simp [hws t ht]
  simp [stripWS, List.filter_append, this, ht]

theorem skipWS_none_stripped (ts : List Token) (h : skipWS ts = none) : stripWS ts = [] :=
  List.filter_eq_nil_iff.mpr fun t ht => by simp [(skipWS_spec ts).2 h t ht]

theorem skipWS_sees_stripped (ts : List Token) (t : Token) (r : List Token) (h : skipWS ts = some (t, r)) :
    stripWS ts = t :: stripWS r ∧ skipWS (stripWS ts) = some (t, stripWS r) := by
  obtain ⟨hws, hw⟩ := (skipWS_spec ts).1 t r h
  rw [stripWS_wspre hw hws]
  exact ⟨rfl, by simp [skipWS, hws]⟩

/-- The parser's window on the token stream only ever shows non-whitespace tokens: `skipWS` returns the first
token of the stripped stream, and stripping commutes with it. -/
theorem skipWS_view (ts : List Token) : viewWS (skipWS ts) = (match stripWS ts with | [] => none | t :: x => some (t, x)) := by
  cases h : skipWS ts with
  | none => rw [skipWS_none_stripped ts h]; rfl
  | some p => rw [(skipWS_sees_stripped ts p.1 p.2 h).1]; rfl

/-- `skipWS` is layout invariant: two iterators with the same non-whitespace tokens show the same front token and
equivalent tails. -/
theorem skipWS_layout_invariant (ts ts' : List Token) (h : stripWS ts = stripWS ts') :
    viewWS (skipWS ts) = viewWS (skipWS ts') := by
  rw [skipWS_view, skipWS_view, h]

theorem checkToken_view (ts : List Token) (ty : TT) :
    (checkToken ts ty).map (fun p => (p.1, p.2.1, stripWS p.2.2)) = (viewWS (skipWS ts)).map fun p => (p.1.ty == ty, p.1, p.2) := by
  unfold checkToken
  cases skipWS ts <;> rfl

/-- so are `checkToken` and `expect` (`expect_layout_invariant`) -/
theorem checkToken_layout_invariant (ts ts' : List Token) (ty : TT) (h : stripWS ts = stripWS ts') :
    (checkToken ts ty).map (fun p => (p.1, p.2.1, stripWS p.2.2)) = (checkToken ts' ty).map (fun p => (p.1, p.2.1, stripWS p.2.2)) := by
  rw [checkToken_view, checkToken_view, skipWS_layout_invariant ts ts' h]

/-- on a miss `expect` puts the front token back; it is not whitespace, so stripping keeps it in front -/
theorem expect_view (ts : List Token) (ty : TT) :
    (expect ts ty).map (fun p => (p.1, stripWS p.2)) =
      (viewWS (skipWS ts)).map fun p => if p.1.ty == ty then (true, p.2) else (false, p.1 :: p.2) := by
  unfold expect checkToken
  cases h : skipWS ts with
  | none => rfl
  | some p =>
    have hws := ((skipWS_spec ts).1 _ _ h).1
    simp only [viewWS, Option.map_some]
    cases p.1.ty == ty <;> simp [stripWS, hws]

theorem expect_layout_invariant (ts ts' : List Token) (ty : TT) (h : stripWS ts = stripWS ts') :
    (expect ts ty).map (fun p => (p.1, stripWS p.2)) = (expect ts' ty).map (fun p => (p.1, stripWS p.2)) := by
  rw [expect_view, expect_view, skipWS_layout_invariant ts ts' h]

end TLVerif.Props.C23
