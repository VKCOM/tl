import TLVerif.Codec.TL1Total
import TLVerif.Codec.TL1Example
/-!
# C08 (TL1 part) — the TL1 reader is total and bounded

Model: `TLVerif/Codec/TL1.lean`; predicates `TLVerif/Codec/TL1Wf.lean`.

* `tl1_read_total`: on a well-formed descriptor (`Desc.wf`, decidable: type indices in range, nat-argument
  references are parameters in range or earlier numeric fields, masks included, parameter counts of references
  match, dictionary keys primitive) the reader never answers `.error .desc`.
* `readTL1_fuel_mono`: an answer other than `.error .fuel` is the same with any larger fuel.
* `fuel_suffices`: with a rank certificate `rk` (`Desc.productive d rk`, decidable: every reference followed before
  any input was consumed goes to a strictly smaller rank — i.e. every cycle of references that consumes no
  input is broken) fuel `(|input| + 1) · (|d| + 1)` never runs out, hence (`tl1_fuel_irrelevant`) the answer does
  not depend on the fuel above that bound: "out of fuel" is not a hidden third answer.
  The bound `|input| + |d| + 1` suggested in DESIGN §4 C08 is **not** sufficient
  (`linear_fuel_bound_insufficient_at`), and without productivity no fuel suffices (`loop_never_answers`:
  a bare self-reference `loop x:%loop`, which in Go is unbounded recursion — lead L8).
* `alloc_bound_tl1`: with `--checkLengthSanity` every vector / dynamic tuple / dictionary the reader accepts has at
  most `|input| / 4` elements; `sanity_guard` is the guard lemma itself.
-/
namespace TLVerif.Props.CodecTL1Extra
open TLVerif.Prim TLVerif.Codec

/-- **C08a** no `.error .desc` on well-formed descriptors: the type exists and receives at least as many nat
arguments as it has parameters. -/
theorem tl1_read_total (cfg : Cfg) (d : Desc) (hwf : d.wf = true) (fuel ty : Nat) (bare : Bool) (params : List Nat)
    (bs : Bytes) (inst : Inst) (hg : d.get? ty = some inst) (hp : inst.nparams ≤ params.length) :
    readTL1 cfg d fuel ty bare params bs ≠ .error .desc :=
  (readTL1M_map (fun _ => true) cfg d fuel ▸ readTL1M_total .map _ cfg d hwf fuel) ty bare params bs ⟨inst, hg, hp⟩

/-- **C08b** -/
theorem readTL1_fuel_mono (cfg : Cfg) (d : Desc) (n m : Nat) (hnm : n ≤ m) (ty : Nat) (bare : Bool) (params : List Nat)
    (bs : Bytes) (h : readTL1 cfg d n ty bare params bs ≠ .error .fuel) :
    readTL1 cfg d m ty bare params bs = readTL1 cfg d n ty bare params bs :=
  Codec.readTL1_fuel_mono cfg d hnm ty bare params bs h

/-- **C08b** -/
theorem fuel_suffices (cfg : Cfg) (d : Desc) (rk : List Nat) (hp : d.productive rk = true)
    (fuel ty : Nat) (bare : Bool) (params : List Nat) (bs : Bytes)
    (hf : (bs.length + 1) * (d.insts.size + 1) ≤ fuel) :
    readTL1 cfg d fuel ty bare params bs ≠ .error .fuel := by
  rw [← readTL1M_map (fun _ => true)]
  apply readTL1M_fuel_suffices .map _ cfg d rk hp
  have := rkOf_le hp ty bare
  rw [Nat.add_mul, Nat.one_mul] at hf
  omega

theorem tl1_fuel_irrelevant (cfg : Cfg) (d : Desc) (rk : List Nat) (hp : d.productive rk = true)
    (f1 f2 ty : Nat) (bare : Bool) (params : List Nat) (bs : Bytes)
    (h1 : (bs.length + 1) * (d.insts.size + 1) ≤ f1) (h2 : (bs.length + 1) * (d.insts.size + 1) ≤ f2) :
    readTL1 cfg d f1 ty bare params bs = readTL1 cfg d f2 ty bare params bs := by
  have hb := fuel_suffices cfg d rk hp _ ty bare params bs (Nat.le_refl _)
  rw [readTL1_fuel_mono cfg d _ f1 h1 ty bare params bs hb, readTL1_fuel_mono cfg d _ f2 h2 ty bare params bs hb]

theorem tl1_rest_le (cfg : Cfg) (d : Desc) (fuel ty : Nat) (bare : Bool) (params : List Nat) (bs : Bytes) (v : Val)
    (rest : Bytes) (h : readTL1 cfg d fuel ty bare params bs = .ok (v, rest)) : rest.length ≤ bs.length :=
  (readTL1M_consuming .map (fun _ => true) cfg d fuel).shrinks (readTL1M_map _ cfg d fuel ▸ h)

/-- **C08c** the guard: an element count accepted by `CheckLengthSanity` is ≤ remaining input / 4 -/
theorem sanity_guard (bs : Bytes) (n : Nat) (h : sanityOk { sanity := true } bs n = true) : n ≤ bs.length / 4 :=
  sanityOk_bound rfl h

/-- **C08c** with the sanity check on, an accepted vector / dynamic tuple / dictionary has ≤ |input|/4 elements -/
theorem alloc_bound_tl1 (d : Desc) (fuel ty : Nat) (bare : Bool) (params : List Nat)
    (bs : Bytes) (v : Val) (rest : Bytes) (a : ArrayD)
    (hg : d.get? ty = some (.dict a) ∨ (d.get? ty = some (.array a) ∧ (a.isTuple = false ∨ a.dynamic = true)))
    (h : readTL1 { sanity := true } d fuel ty bare params bs = .ok (v, rest)) :
    ∃ vs, v = .arr vs ∧ vs.length ≤ bs.length / 4 :=
  readTL1M_alloc_bound .map (fun _ => true) (cfg := { sanity := true }) rfl d fuel ty bare params bs v rest a hg
    (readTL1M_map _ _ d fuel ▸ h)

/-- without the sanity check the count is not bounded by the input: 3 zero-size elements from 4 bytes
(and 2^32-1 of them just as well) -/
example : readTL1 { sanity := false } Ex.zeroSize 2 1 true [] [3, 0, 0, 0]
    = .ok (.arr [.struct [], .struct [], .struct []], []) := by rfl

theorem loop_get : Ex.loopD.get? 0 = some (.struct { tag := 0x5, nparams := 0, fields := [ Ex.fld "x" 0 ] }) := rfl

/-- `loop x:%loop`: no rank certificate exists … -/
theorem loop_not_productive (rk : List Nat) : Ex.loopD.productive rk = false := by
  have hsz : Ex.loopD.insts.size = 1 := rfl
  -- the only field refers to the struct itself, bare: its rank would have to be below itself
  simp only [Desc.productive, hsz, List.range_succ, List.range_zero, List.nil_append, Inst.productive, rkOf,
    List.all_cons, loop_get, Ex.fld, fieldsProductive, Nat.lt_irrefl, decide_false, Bool.or_self, Bool.and_true, List.all_nil,
    Bool.and_false]

/-- … and indeed the model reader answers `.error .fuel` for every fuel and every input (Go: unbounded recursion). -/
theorem loop_never_answers (cfg : Cfg) (fuel : Nat) (bs : Bytes) :
    readTL1 cfg Ex.loopD fuel 0 true [] bs = .error .fuel := by
  induction fuel with
  | zero => rfl
  | succ n ih =>
    simp only [readTL1, loop_get, if_true, readFieldsWith, fieldPresent, Ex.fld, natArgVals, ih]

/-- DESIGN's bound `|input| + |d| + 1` is too small: 28 bytes, 7 instances, fuel 36 runs out, fuel 38 answers. -/
theorem linear_fuel_bound_insufficient_at :
    readTL1 {} Ex.chainD (Ex.chainBytes.length + Ex.chainD.insts.size + 1) 0 false [] Ex.chainBytes = .error .fuel ∧
    (∃ v, readTL1 {} Ex.chainD 38 0 false [] Ex.chainBytes = .ok (v, [])) ∧
    Ex.chainD.productive [0, 0, 5, 4, 3, 2, 1] = true := by
  refine ⟨by rfl, ⟨_, by rfl⟩, by decide⟩

example : Ex.demo.wf = true ∧ Ex.demo.productive [0, 0, 0, 0, 1] = true := by decide
example : Ex.peanoD.wf = true ∧ Ex.peanoD.productive [0, 1, 0] = true := by decide
/-- bare recursion behind the mask word (`myNat` of goldmaster.tl) is productive -/
example : Ex.maskRecD.wf = true ∧ Ex.maskRecD.productive [0, 1] = true := by decide
example : Ex.tupD.wf = true ∧ Ex.optD.wf = true ∧ Ex.dictD.wf = true ∧ Ex.unionD.wf = true := by decide
example : Ex.demo.computeRanks = [0, 0, 0, 0, 1] := by decide
example (fuel : Nat) (h : 29 * 6 ≤ fuel) : readTL1 {} Ex.demo fuel 4 false [] Ex.demoBytes ≠ .error .fuel :=
  fuel_suffices {} Ex.demo [0, 0, 0, 0, 1] (by decide) fuel 4 false [] Ex.demoBytes h
example : readTL1 {} Ex.demo 200 4 false [] Ex.demoBytes ≠ .error .desc :=
  tl1_read_total {} Ex.demo (by decide) 200 4 false [] Ex.demoBytes _ rfl (Nat.le_refl _)

end TLVerif.Props.CodecTL1Extra
