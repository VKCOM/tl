import TLVerif.Generated.AlgoFacts
import TLVerif.Algo.AvlLemmas
import TLVerif.Algo.CircularLemmas
/-!
# C41 — Ordered tree map and circular slice match reference containers

All statements are about the models of `internal/vkgo/pkg/algo/tree_map.go` (`TLVerif/Algo/Avl.lean`) and
`circular_slice.go` (`TLVerif/Algo/Circular.lean`), with the new-leaf height constant extracted from the repository
on this run (`Generated/AlgoFacts.lean`). In the models `none` is a Go panic, so every `∃ t', op … = some t'` below
also says "does not panic".

## Tree map

Reference container: a key-sorted association list (`Entries`, `SortedKeys`) with `specInsert`, `specErase`,
`specLookup`, `head?`, `getLast?`; `spec_*` theorems show that these are the ordered-map operations.
Abstraction: `TreeMap.abs` = in-order contents. Invariant `TreeMap.Inv c`: keys strictly sorted (BST) and the
stored-height invariant `Tree.HInv c` that the code really maintains (`c` = height stored into a new leaf).

**Full-strength balance statement** ("while staying balanced", AVL sense): `AvlStrictAlways newLeafHeight`, i.e. after
every history every node's subtrees differ in *real* height by at most 1. It is FALSE for the unchanged code
(`newLeafHeight = 0`): `avl_strict_fails_at`, witness Set 1, Set 2, Set 3. What does hold is `avl_balance_partial`
(real heights differ by at most 2; height logarithmic). `avl_strict_after_fix` proves that storing 1 instead of 0
restores strict AVL balance, and `avl_strict_iff` ties the three together over the extracted constant.
-/
namespace TLVerif.Props.C41
open TLVerif.Algo TLVerif.Facts.Algo

/-- The height stored into a fresh leaf is 0 or 1 (hypothesis of every invariant theorem below). -/
theorem facts_ok : newLeafHeight ≤ 1 := by decide

/-- The census of explicit panic sites in the two files is the one the models account for:
`Front`/`Back` on an empty map, the internal `findMin`/`findMax`/`extractMin` nil guards, `validate`;
`Front`/`PopFront` on an empty slice, `IndexRef` (negative, out of range), and the two invariant guards. -/
theorem panic_sites_ok : panicSites =
    ["circular_slice.go:CircularSlice.Front:1", "circular_slice.go:CircularSlice.IndexRef:2",
     "circular_slice.go:CircularSlice.PopFront:1", "circular_slice.go:CircularSlice.PushBack:1",
     "circular_slice.go:CircularSlice.Reserve:1", "tree_map.go:Back:1", "tree_map.go:Front:1",
     "tree_map.go:TreeNode.findMax:1", "tree_map.go:TreeNode.findMin:1", "tree_map.go:extractMin:1",
     "tree_map.go:validate:2"] := rfl

theorem spec_insert_sorted (k : Int) (v : Nat) (l : Entries) (h : SortedKeys l) : SortedKeys (specInsert k v l) :=
  sorted_specInsert k v l h

theorem spec_erase_sorted (k : Int) (l : Entries) (h : SortedKeys l) : SortedKeys (specErase k l) :=
  sorted_specErase k l h

/-- After `Set k v`: the entry `(k, v)` plus every old entry with another key. -/
theorem spec_insert_is_map (k : Int) (v : Nat) (l : Entries) (h : SortedKeys l) (x : Int × Nat) :
    x ∈ specInsert k v l ↔ x = (k, v) ∨ (x ∈ l ∧ x.1 ≠ k) := mem_specInsert_iff k v l h x

/-- After `Delete k`: every old entry with another key. -/
theorem spec_erase_is_map (k : Int) (l : Entries) (h : SortedKeys l) (x : Int × Nat) :
    x ∈ specErase k l ↔ x ∈ l ∧ x.1 ≠ k := mem_specErase_iff k l h x

theorem spec_lookup_is_map (k : Int) (l : Entries) (h : SortedKeys l) (e : Int × Nat) :
    specLookup k l = some e ↔ e ∈ l ∧ e.1 = k := by
  constructor
  · clear h
    fun_induction specLookup k l with
    | case1 | case3 => nofun
    | case2 a b t _ ih => exact fun h => ⟨List.mem_cons_of_mem _ (ih h).1, (ih h).2⟩
    | case4 => rintro ⟨⟩; exact ⟨List.mem_cons_self .., by dsimp only; omega⟩
  · rintro ⟨hm, rfl⟩
    obtain ⟨xs, ys, rfl⟩ := List.append_of_mem hm
    rw [(spec_node (v := 0) h).2.2, if_neg (Int.lt_irrefl _), if_neg (Int.lt_irrefl _)]

theorem spec_head_smallest (l : Entries) (h : SortedKeys l) (e : Int × Nat) (he : l.head? = some e) :
    e ∈ l ∧ ∀ x ∈ l, e.1 ≤ x.1 := by
  cases l with
  | nil => cases he
  | cons a t =>
    simp at he; subst he
    refine ⟨by simp, fun x hx => ?_⟩
    rcases List.mem_cons.mp hx with hx | hx
    · subst hx; exact Int.le_refl _
    · exact Int.le_of_lt ((List.pairwise_cons.mp h).1 x hx)

theorem spec_last_largest (l : Entries) (h : SortedKeys l) (e : Int × Nat) (he : l.getLast? = some e) :
    e ∈ l ∧ ∀ x ∈ l, x.1 ≤ e.1 := by
  obtain ⟨ys, rfl⟩ := List.getLast?_eq_some_iff.mp he
  refine ⟨by simp, fun x hx => ?_⟩
  rcases List.mem_append.mp hx with hx | hx
  · exact Int.le_of_lt ((List.pairwise_append.mp h).2.2 x hx e (by simp))
  · simp at hx; subst hx; exact Int.le_refl _

theorem tree_empty : TreeMap.Inv newLeafHeight TreeMap.empty ∧ TreeMap.empty.abs = [] :=
  TreeMap.empty_inv _

/-- `Set` never panics, refines `specInsert`, keeps the invariant. -/
theorem tree_set_refines (t : TreeMap) (k : Int) (v : Nat) (hi : TreeMap.Inv newLeafHeight t) :
    ∃ t', t.set newLeafHeight k v = some t' ∧ t'.abs = specInsert k v t.abs ∧ TreeMap.Inv newLeafHeight t' :=
  TreeMap.set_refines _ facts_ok t k v hi

/-- `Delete` never panics, refines `specErase`, keeps the invariant. -/
theorem tree_delete_refines (t : TreeMap) (k : Int) (hi : TreeMap.Inv newLeafHeight t) :
    ∃ t', t.delete k = some t' ∧ t'.abs = specErase k t.abs ∧ TreeMap.Inv newLeafHeight t' :=
  TreeMap.delete_refines _ facts_ok t k hi

/-- `Get`/`GetPtr` return the value found by the reference lookup (absent ↦ not found). -/
theorem tree_get_refines (c : Nat) (t : TreeMap) (k : Int) (hi : TreeMap.Inv c t) :
    t.get k = (specLookup k t.abs).map (·.2) := by
  unfold TreeMap.get
  rw [Tree.find_eq k t.root hi.1]; rfl

/-- A store through the pointer returned by `GetPtr` replaces the value of a present key in place (and nothing
else); `GetPtr` is nil exactly for absent keys; the invariant is kept. -/
theorem tree_getptr_store_refines (c : Nat) (t : TreeMap) (k : Int) (v : Nat) (hi : TreeMap.Inv c t) :
    (t.update k v).1.abs = specUpdate k v t.abs ∧ (t.update k v).2 = (specLookup k t.abs).isSome ∧
    TreeMap.Inv c (t.update k v).1 := TreeMap.update_refines c t k v hi

/-- `Front` returns the first entry (smallest key) and panics exactly on the empty map. -/
theorem tree_front_refines (t : TreeMap) : t.front = t.abs.head? := Tree.findMin_eq t.root

/-- `Back` returns the last entry (largest key) and panics exactly on the empty map. -/
theorem tree_back_refines (t : TreeMap) : t.back = t.abs.getLast? := Tree.findMax_eq t.root

theorem tree_empty_refines (t : TreeMap) : t.isEmpty = t.abs.isEmpty := by
  unfold TreeMap.isEmpty TreeMap.abs
  cases t.root <;> simp [Tree.inorder]

theorem tree_lenMoreThan1_refines (t : TreeMap) : t.lenMoreThan1 = decide (1 < t.abs.length) := by
  unfold TreeMap.lenMoreThan1 TreeMap.abs
  cases t.root with
  | nil => simp [Tree.inorder]
  | node k v l r h =>
    cases l <;> cases r <;> simp [Tree.inorder] <;> omega

/-- `validate` returns normally exactly on search trees, hence on every state satisfying the invariant. -/
theorem tree_validate_ok (c : Nat) (t : TreeMap) (hi : TreeMap.Inv c t) : t.root.validate none none = true := by
  rw [Tree.validate_iff]
  exact ⟨hi.1, fun b hb => (by cases hb), fun b hb => (by cases hb)⟩

/-- Any sequence of `Set`/`Delete`/stores through `GetPtr` from the empty map: no panic, the contents are those of the reference map
after the same sequence, and the invariant (BST + stored heights) holds. -/
theorem tree_history_refines (ops : List MapOp) :
    ∃ t, TreeMap.run newLeafHeight TreeMap.empty ops = some t ∧ t.abs = specRun [] ops ∧
      TreeMap.Inv newLeafHeight t :=
  TreeMap.run_refines _ facts_ok ops TreeMap.empty (TreeMap.empty_inv _).1

/-- The property's "while staying balanced" in the AVL sense, for new-leaf constant `c`: after every history,
at every node the real heights of the two subtrees differ by at most 1. -/
def AvlStrictAlways (c : Nat) : Prop :=
  ∀ (ops : List MapOp) (t : TreeMap), TreeMap.run c TreeMap.empty ops = some t → t.root.maxRealBalance ≤ 1

/-- The witness: Set 1, Set 2, Set 3 with new leaves stored at height 0 yields the chain 1 → 2 → 3. -/
def witness : List MapOp := [.set 1 1, .set 2 2, .set 3 3]

theorem witness_chain :
    (TreeMap.run 0 TreeMap.empty witness).map (fun t => (t.root.realHeight, t.root.maxRealBalance)) = some (3, 2) := by
  decide

/-- Strict AVL balance FAILS when a new leaf is stored with height 0 (the unchanged code). -/
theorem avl_strict_fails_at : ¬ AvlStrictAlways 0 :=
  fun h => absurd (h witness _ rfl) (by decide)

/-- What the code really guarantees: after every history the real subtree heights differ by at most
`2 - newLeafHeight` at every node, the stored height lags the real one by at most `1 - newLeafHeight`, and the real
height is logarithmic in the number of entries (`fib (height+1) ≤ n+1`, hence `2^(height/2) ≤ n+1`). -/
theorem avl_balance_partial (ops : List MapOp) (t : TreeMap)
    (h : TreeMap.run newLeafHeight TreeMap.empty ops = some t) :
    t.root.maxRealBalance + newLeafHeight ≤ 2 ∧
    t.root.getHeight ≤ t.root.realHeight ∧ t.root.realHeight + newLeafHeight ≤ t.root.getHeight + 1 ∧
    fib (t.root.realHeight + 1 + newLeafHeight) ≤ t.abs.length + 1 ∧ 2 ^ (t.root.realHeight / 2) ≤ t.abs.length + 1 := by
  obtain ⟨t', ht', _, hi⟩ := tree_history_refines ops
  rw [h] at ht'; cases ht'
  obtain ⟨hstored, hbal, -⟩ := Tree.hinv_real _ facts_ok t.root hi.2
  have hlog := Tree.realHeight_log _ facts_ok t.root hi.2
  rw [Tree.size_eq_length] at hlog
  exact ⟨hbal, hstored.1, hstored.2, hlog.1, hlog.2⟩

/-- With the one-line fix (`n.height = 1` for a new leaf) strict AVL balance holds after every history. -/
theorem avl_strict_after_fix : AvlStrictAlways 1 := by
  intro ops t h
  obtain ⟨t', ht', _, hi⟩ := TreeMap.run_refines 1 (by decide) ops TreeMap.empty (TreeMap.empty_inv _).1
  rw [h] at ht'; cases ht'
  obtain ⟨-, hbal, -⟩ := Tree.hinv_real 1 (by decide) t.root hi.2
  omega

/-- Over the constant extracted from the source: strict AVL balance holds iff new leaves are stored with height 1. -/
theorem avl_strict_iff : AvlStrictAlways newLeafHeight ↔ newLeafHeight = 1 := by
  have h := facts_ok
  constructor
  · intro hs
    by_cases h0 : newLeafHeight = 0
    · rw [h0] at hs; exact absurd hs avl_strict_fails_at
    · omega
  · intro h1; rw [h1]; exact avl_strict_after_fix

/-- The invariant is satisfiable by non-trivial states (hypotheses are not vacuous). -/
example : ∃ t, TreeMap.run newLeafHeight TreeMap.empty [.set 5 1, .set 3 2, .set 9 3, .set 4 4, .delete 3] = some t ∧
    t.abs = [(4, 4), (5, 1), (9, 3)] := ⟨_, rfl, rfl⟩

/-! ## Circular slice

Reference container: a FIFO list (`CS.abs`, front first); for histories a pair of lists, because `Swap` and
`DeepAssign` take a second slice. Invariant `CS.Inv`: `0 ≤ read_pos ≤ write_pos ≤ read_pos + cap`,
`read_pos < cap` (or everything zero), and every cell outside the live window holds the empty value. -/

theorem circ_empty : CS.Inv CS.empty ∧ CS.abs CS.empty = [] := CS.empty_inv

/-- `PushBack` never panics, appends at the back, never shrinks the capacity. -/
theorem circ_push_refines (s : CS) (hi : CS.Inv s) (x : Nat) :
    ∃ s', s.pushBack x = some s' ∧ CS.Inv s' ∧ s'.abs = s.abs ++ [x] ∧ s.cap ≤ s'.cap :=
  CS.pushBack_spec s hi x

/-- `PopFront` panics exactly on the empty queue; otherwise returns the oldest element and removes it. -/
theorem circ_pop_refines (s : CS) (hi : CS.Inv s) :
    (s.abs = [] → s.popFront = none) ∧
    (∀ x xs, s.abs = x :: xs → ∃ s', s.popFront = some (x, s') ∧ CS.Inv s' ∧ s'.abs = xs ∧ s'.cap = s.cap) :=
  CS.popFront_spec s hi

/-- `Front` returns the oldest element and panics exactly on the empty queue. -/
theorem circ_front_refines (s : CS) (hi : CS.Inv s) : s.front = s.abs.head? := CS.front_spec s hi

/-- `Index`/`IndexRef`: element `pos` of the queue for `0 ≤ pos < Len()`; a negative position panics; a position
beyond the end panics or yields the empty value (never a live or stale element). -/
theorem circ_index_refines (s : CS) (hi : CS.Inv s) (pos : Int) :
    (pos < 0 → s.index pos = none) ∧
    (0 ≤ pos → pos < s.abs.length → s.index pos = s.abs[pos.toNat]?) ∧
    (s.abs.length ≤ pos → s.index pos = none ∨ s.index pos = some 0) := CS.index_spec s hi pos

/-- A store through `IndexRef(pos)` at a position inside the queue replaces exactly that element. -/
theorem circ_indexref_store_refines (s : CS) (hi : CS.Inv s) (pos : Int) (v : Nat) (h0 : 0 ≤ pos)
    (hl : pos < s.abs.length) :
    ∃ s', s.indexSet pos v = some s' ∧ CS.Inv s' ∧ s'.abs = s.abs.set pos.toNat v ∧ s'.cap = s.cap :=
  CS.indexSet_spec s hi pos v h0 hl

/-- `Len` is the queue length, `Cap` bounds it. -/
theorem circ_len_cap (s : CS) (hi : CS.Inv s) : s.len = s.abs.length ∧ (s.abs.length : Int) ≤ s.cap :=
  CS.len_cap_spec s hi

/-- `Slices` never panics and its two parts concatenated are the queue content. -/
theorem circ_slices_refines (s : CS) (hi : CS.Inv s) :
    ∃ s1 s2, s.slices = some (s1, s2) ∧ s1 ++ s2 = s.abs :=
  CS.slices_spec s hi

/-- `Reserve n` never panics, keeps the content, and makes the capacity `max cap n` (it never shrinks). -/
theorem circ_reserve_refines (s : CS) (hi : CS.Inv s) (n : Int) :
    ∃ s', s.reserve n = some s' ∧ CS.Inv s' ∧ s'.abs = s.abs ∧ s'.cap = max s.cap n :=
  CS.reserve_spec s hi n

/-- `Clear` never panics, empties the queue and keeps the capacity. -/
theorem circ_clear_refines (s : CS) (hi : CS.Inv s) :
    ∃ s', s.clear = some s' ∧ CS.Inv s' ∧ s'.abs = [] ∧ s'.cap = s.cap :=
  CS.clear_spec s hi

/-- `Swap` exchanges the two queues; `DeepAssign` makes the receiver a copy of the argument. -/
theorem circ_swap_deepAssign (s o : CS) :
    ((CS.swap s o).1.abs = o.abs ∧ (CS.swap s o).2.abs = s.abs) ∧ (CS.deepAssign s o).abs = o.abs ∧
    (CS.deepAssign s o).cap = o.cap := ⟨⟨rfl, rfl⟩, rfl, rfl⟩

/-- One step of any exported method on a pair of slices refines the pair-of-lists reference: invariants kept,
contents as in the reference, observation allowed by the reference. -/
theorem circ_step_refines (s o : CS) (hs : CS.Inv s) (ho : CS.Inv o) (op : QOp) (hok : QOp.ok s.abs op) :
    CS.Inv (CS.apply (s, o) op).1.1 ∧ CS.Inv (CS.apply (s, o) op).1.2 ∧
    ((CS.apply (s, o) op).1.1.abs, (CS.apply (s, o) op).1.2.abs) = specQ (s.abs, o.abs) op ∧
    QObsOk s.abs op (CS.apply (s, o) op).2 := CS.apply_refines s o hs ho op hok

/-- Any history of exported calls on two initially empty slices: invariants hold at the end, the contents are those
of the reference after the same history, and every observation along the way is allowed by the reference.
Guard `OpsOk` (decidable): no store through `IndexRef` is at a position beyond the end of the queue (negative
positions, which panic, are admitted). -/
theorem circ_history_refines (ops : List QOp) (hok : OpsOk ([], []) ops) :
    CS.Inv (CS.run (CS.empty, CS.empty) ops).1.1 ∧ CS.Inv (CS.run (CS.empty, CS.empty) ops).1.2 ∧
    ((CS.run (CS.empty, CS.empty) ops).1.1.abs, (CS.run (CS.empty, CS.empty) ops).1.2.abs) = ops.foldl specQ ([], []) ∧
    ObsListOk ([], []) ops (CS.run (CS.empty, CS.empty) ops).2 :=
  CS.run_refines ops CS.empty CS.empty CS.empty_inv.1 CS.empty_inv.1 hok

/-- Panics only on the documented misuse: `PopFront`/`Front` on an empty queue, `Index` outside `[0, Len())`. -/
theorem circ_panics_only_on_misuse (s o : CS) (hs : CS.Inv s) (ho : CS.Inv o) (op : QOp) (hok : QOp.ok s.abs op)
    (hp : (CS.apply (s, o) op).2 = .panic) :
    (op = .pop ∧ s.abs = []) ∨ (op = .front ∧ s.abs = []) ∨
    (∃ pos, (op = .index pos ∨ ∃ v, op = .indexSet pos v) ∧ (pos < 0 ∨ (s.abs.length : Int) ≤ pos)) := by
  obtain ⟨_, _, _, h⟩ := CS.apply_refines s o hs ho op hok
  rw [hp] at h
  have hempty : ∀ a : List Nat, QObs.panic = (match a.head? with | none => .panic | some x => .val x) → a = [] := by
    intro a ha
    cases a with
    | nil => rfl
    | cons x xs => cases ha
  have hout (pos : Int) (hin : 0 ≤ pos → pos < s.abs.length → False) : pos < 0 ∨ (s.abs.length : Int) ≤ pos := by
    by_cases h0 : 0 ≤ pos
    · exact .inr (Int.not_lt.mp (hin h0))
    · exact .inl (Int.not_le.mp h0)
  cases op with
  | indexSet pos v => exact .inr (.inr ⟨pos, .inr ⟨v, rfl⟩, hout pos fun h0 hl => nomatch h.2 h0 hl⟩)
  | index pos =>
    exact .inr (.inr ⟨pos, .inl rfl, hout pos fun h0 hl => by obtain ⟨x, _, hx⟩ := h.2.1 h0 hl; cases hx⟩)
  | push | reserve | clear | swap | deepAssign | len => cases h
  | cap => obtain ⟨c, hc, _⟩ := h; cases hc
  | slices => obtain ⟨a, b, hc, _⟩ := h; cases hc
  | pop => exact Or.inl ⟨rfl, hempty _ h⟩
  | front => exact Or.inr (Or.inl ⟨rfl, hempty _ h⟩)

/-- Capacity: `Reserve n` makes it at least `n`; no method of one slice shrinks its capacity or touches the other
slice (only `Swap`/`DeepAssign` exchange/copy whole slices). -/
theorem circ_capacity (s o : CS) (hs : CS.Inv s) (op : QOp) (h1 : op ≠ .swap) (h2 : op ≠ .deepAssign) :
    s.cap ≤ (CS.apply (s, o) op).1.1.cap ∧ (CS.apply (s, o) op).1.2 = o ∧
    (∀ n, op = .reserve n → n ≤ (CS.apply (s, o) op).1.1.cap) := by
  cases op with
  | push x =>
    obtain ⟨s', e, _, _, hl⟩ := CS.pushBack_spec s hs x
    simp only [CS.apply, e]
    exact ⟨hl, trivial, nofun⟩
  | pop =>
    obtain ⟨hp1, hp2⟩ := CS.popFront_spec s hs
    cases hab : s.abs with
    | nil =>
      simp only [CS.apply, hp1 hab]
      exact ⟨Int.le_refl _, trivial, nofun⟩
    | cons x xs =>
      obtain ⟨s', e, _, _, hl⟩ := hp2 x xs hab
      simp only [CS.apply, e]
      exact ⟨Int.le_of_eq hl.symm, trivial, nofun⟩
  | reserve n =>
    obtain ⟨s', e, _, _, hl⟩ := CS.reserve_spec s hs n
    simp only [CS.apply, e]
    exact ⟨by omega, trivial, fun m hm => by cases hm; omega⟩
  | clear =>
    obtain ⟨s', e, _, _, hl⟩ := CS.clear_spec s hs
    simp only [CS.apply, e]
    exact ⟨Int.le_of_eq hl.symm, trivial, nofun⟩
  | swap => exact absurd rfl h1
  | deepAssign => exact absurd rfl h2
  | indexSet pos v =>
    -- no guard on `pos` here: a store beyond the end of the queue but inside the array keeps the capacity too
    cases e : s.indexSet pos v with
    | none => simp only [CS.apply, e]; exact ⟨Int.le_refl _, trivial, nofun⟩
    | some s' =>
      simp only [CS.apply, e, CS.cap]
      exact ⟨by rw [CS.indexSet_length e]; exact Int.le_refl _, trivial, nofun⟩
  | front | index | len | cap | slices => exact ⟨Int.le_refl _, rfl, nofun⟩

/-- The invariant and the wrap-around are exercised by a non-trivial state (hypotheses are not vacuous). -/
example : (CS.run (CS.empty, CS.empty) [.reserve 3, .push 1, .push 2, .push 3, .pop, .pop, .push 4, .push 5]).1.1 =
    ⟨[4, 5, 3], 2, 5⟩ ∧ CS.abs ⟨[4, 5, 3], 2, 5⟩ = [3, 4, 5] ∧
    OpsOk ([], []) [.push 1, .indexSet 0 7, .indexSet (-1) 3, .pop] := by decide

end TLVerif.Props.C41
