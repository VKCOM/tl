import TLVerif.Syntax.PrinterLemmas
/-!
# C25 — Canonical schema listing is faithful to the schema

Statement (fixed): *The canonical listing output has one line per constructor and function carrying its effective
tag, and, once each line is terminated, it parses into combinators with the same names, tags, template arguments,
fields and result types as the input schema.*

Model: `TL.listingLines` / `Combinator.canonicalFormWithTag` (`qt_combined2tl.qtpl(.go)`: `Generate2TL`,
`canonicalFormWithTag`), fed by `gencanonical.Generate` with the combinators of the parsed files.

**Proved** (all schemas): the line count, the fixed five-line header, that every line contains `name#tag` with the
combinator's tag in a form the parser reads back as the same tag, that sorting the modifiers only permutes them
(a line prints `listingMods`: the sorted list, with `@any` prepended in one case).
**Not proved, and false in general** (known finding): a terminated line parses back to the same *fields* only when no
field type is an application — `toCrc32` flattens applications (`x:(pair int (pair int int))` and
`x:(pair int pair int int)` give the same line, `line_flattens_applications`), and drops `!` and `%` on lower-case
names.  The check evaluates the re-parse oracle under the corresponding decidable guard and replays a witness.
-/
namespace TLVerif.Props.C25
open TLVerif.Syntax

/-- one line per constructor/function (the five builtin names are replaced by the fixed header) -/
theorem listing_line_count (tl : TL) :
    tl.listingLines.length = 5 + (tl.combinators.filter (fun c => !listingSkipped c)).length := by
  simp [TL.listingLines, listingHeader]; omega

/-- the listing always starts with the five hard-coded builtin lines -/
theorem listing_header_fixed (tl : TL) : tl.listingLines.take 5 = listingHeader := by
  simp [TL.listingLines, listingHeader]

/-- every line contains `name#xxxxxxxx ` with the combinator's own (effective) tag (the witnesses are the `@mods` in front
and the rest behind; the statement does not constrain them) -/
theorem listing_line_has_tag (c : Combinator) :
    ∃ pre post, c.canonicalFormWithTag = pre ++ (c.construct.name.str ++ [cHash] ++ hex8 c.construct.id ++ [cSpace]) ++ post :=
  ⟨_, _, by simp only [Combinator.canonicalFormWithTag, List.append_assoc]; rfl⟩

/-- … and the eight hex digits are read back by the parser as that tag -/
theorem tag_print_parse (id : UInt32) : parseHex32 (hex8 id) = some id.toNat := parseHex32_hex8 id

theorem insertMod_perm (m : Bytes) (l : List Bytes) : (insertMod m l).Perm (m :: l) := by
  fun_induction insertMod m l with
  | case1 => exact .refl _
  | case2 => exact .refl _
  | case3 x xs _ ih => exact (ih.cons x).trans (.swap m x xs)

theorem foldl_insert_perm : ∀ (ms acc : List Bytes), (ms.foldl (fun a m => insertMod m a) acc).Perm (acc ++ ms)
  | [], acc => by simp
  | m :: ms, acc =>
    (foldl_insert_perm ms (insertMod m acc)).trans (((insertMod_perm m acc).append_right ms).trans List.perm_middle.symm)

/-- sorting by flag only reorders the combinator's modifiers -/
theorem sortMods_perm (ms : List Bytes) : (sortMods ms).Perm ms := foldl_insert_perm ms []

def tInt : TypeRef := .mk ⟨[], strBytes "int"⟩ [] false
def tPair (args : List AOT) : TypeRef := .mk ⟨[], strBytes "pair"⟩ args false

/-- **Finding.**  The listing form of a type flattens applications: two different field types give the same text,
so a line with an applied type cannot parse back to the field it came from (it parses to a plain `pair` followed
by further anonymous fields). -/
theorem line_flattens_applications :
    (tPair [.type tInt, .type (tPair [.type tInt, .type tInt])]).crc =
      (tPair [.type tInt, .type (tPair []), .type tInt, .type tInt]).crc ∧
    (tPair [.type tInt, .type (tPair [.type tInt, .type tInt])]).crc = strBytes "pair int pair int int" := by
  decide +kernel

end TLVerif.Props.C25
