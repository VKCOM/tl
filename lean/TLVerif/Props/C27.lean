import TLVerif.Tlomig.MigLemmas
/-!
C27 — TL1-to-TL2 migration preserves the TL2 wire format and JSON.

Full-strength statement (quantified over schemas): for every TL1 schema `s` and whitelist `w` that
`Kernel.Migration` accepts, the migrated schema compiles and every value of every migrated type has the same TL2
bytes and the same JSON under both schemas.  The migration itself is a text-to-text transformation of 700 lines on
top of the kernel's type resolution; it is *validated per run* (translation validation): for every migrated root the
check exports the descriptors `d₁` (original schema's TL2 view) and `d₂` (migrated schema) from the two compiled
kernels and evaluates the decidable certificate `tl2Equiv d₁ d₂` here.  What is proved once and for all is the
∀-values part: whenever the certificate holds, *all* values are written identically.
-/
namespace TLVerif.Props.C27
open TLVerif.Tlomig TLVerif.Prim

/-- Any relation closed under the local matching conditions (a bisimulation up to aliases) relates types that write
every value to the same TL2 bytes (for both settings of `optimizeEmpty`) and the same JSON text.  `none` (value does
not fit the type) is also preserved: the two types have the same values. -/
theorem consistent_same_tl2_and_json (d₁ d₂ : Desc) (R : Rel) (hR : consistent d₁ d₂ R = true)
    (i j : Nat) (hij : R.contains (i, j) = true) (v : Val) :
    (∀ opt, writeTL2 d₁ i opt v = writeTL2 d₂ j opt v) ∧ writeJson d₁ i v = writeJson d₂ j v :=
  same_val hR v i j hij

/-- C27, ∀-values part: if the certificate `tl2Equiv d₁ d₂` evaluates to `true` then every value has the same TL2
encoding and the same JSON under the migrated descriptor as under the original one. -/
theorem equiv_same_tl2_and_json (d₁ d₂ : Desc) (h : tl2Equiv d₁ d₂ = true) (v : Val) :
    (∀ opt, writeTL2 d₁ d₁.root opt v = writeTL2 d₂ d₂.root opt v) ∧
    writeJson d₁ d₁.root v = writeJson d₂ d₂.root v := by
  unfold tl2Equiv at h
  simp only [Bool.and_eq_true] at h
  exact consistent_same_tl2_and_json d₁ d₂ _ h.2 _ _ h.1 v

/-- a descriptor with a recursive struct, an alias, `true` fields, an array and a union -/
def exampleDesc : Desc :=
  ⟨0, [.struct false false false 0 [⟨"f", false, false, 1⟩, ⟨"a", true, false, 2⟩, ⟨"t", true, true, 3⟩, ⟨"next", true, false, 0⟩],
       .prim .u32, .struct true true false 0 [⟨"", false, false, 4⟩], .struct false false false 0 [],
       .array false false 0 5 false, .union [("a", 6), ("b", 7)],
       .struct false false true 0 [], .struct false true true 1 [⟨"", false, false, 1⟩]]⟩

/-- the migrated form of `exampleDesc`: the alias is gone, `true` became `bit` -/
def exampleDescMigrated : Desc :=
  ⟨3, [.prim .u32, .prim .bit, .array false false 0 5 false,
       .struct false false false 0 [⟨"f", false, false, 0⟩, ⟨"a", true, false, 2⟩, ⟨"t", true, true, 1⟩, ⟨"next", true, false, 3⟩],
       .bad, .union [("a", 6), ("b", 7)],
       .struct false false true 0 [], .struct false true true 1 [⟨"", false, false, 0⟩]]⟩

/-- hypotheses are satisfiable by a non-trivial (recursive, aliased, union-carrying) pair -/
example : tl2Equiv exampleDesc exampleDescMigrated = true := by decide +kernel

/-- and the certificate is not vacuous: changing a field name, an optional flag or the variant order is rejected -/
example : tl2Equiv exampleDesc
    ⟨3, [.prim .u32, .prim .bit, .array false false 0 5 false,
       .struct false false false 0 [⟨"f", false, false, 0⟩, ⟨"a", false, false, 2⟩, ⟨"t", true, true, 1⟩, ⟨"next", true, false, 3⟩],
       .bad, .union [("a", 6), ("b", 7)],
       .struct false false true 0 [], .struct false true true 1 [⟨"", false, false, 0⟩]]⟩ = false := by decide +kernel

example : tl2Equiv exampleDesc
    ⟨3, [.prim .u32, .prim .bit, .array false false 0 5 false,
       .struct false false false 0 [⟨"f", false, false, 0⟩, ⟨"a", true, false, 2⟩, ⟨"t", true, true, 1⟩, ⟨"next", true, false, 3⟩],
       .bad, .union [("b", 7), ("a", 6)],
       .struct false false true 0 [], .struct false true true 1 [⟨"", false, false, 0⟩]]⟩ = false := by decide +kernel

end TLVerif.Props.C27
