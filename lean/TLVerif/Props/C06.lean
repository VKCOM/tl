import TLVerif.Codec.JsonAlt
/-!
# C06 — the JSON reader accepts the documented alternative forms and rejects invalid ones

One lemma per rule of the JSON mapping (DESIGN Appendix B; its "dictionary as array of pairs" the generated code does not
accept: `dict_as_pairs_rejected`), about the model `readJson` of the generated `ReadJSONGeneral`
(`TLVerif/Codec/Json.lean`, tied to the generated Go code by `checks/C06.py`).  All statements hold for every schema
descriptor `d`, every type instance of the named kind and every JSON tree; the hypotheses only select the kind of the type.
`lg` is `JSONReadContext.LegacyTypeNames`, `pk` the re-lexer of non-string dictionary keys.
-/
namespace TLVerif.Props.C06
open TLVerif.Codec TLVerif.Prim

variable (d : Desc) (lg : Bool) (pk : Bytes → Option Json)

/-- **omitted_is_empty** (primitives): an omitted member reads exactly like the explicit empty value `0` / `""` / `false`. -/
theorem omitted_is_empty_prim (k : PrimK) (hk : k ≠ .bit) : readPrimJ k none = readPrimJ k (some (emptyPrimJ k)) := by
  cases k <;> first | rfl | exact absurd rfl hk

/-- **omitted_is_empty** (struct members): inside any struct object, an absent plain field (unmasked, no nat arguments, not
true-typed) may be given explicitly with a value `ej` that its reader maps to the zero value: the struct reader returns the same
result. `rj` is the field reader (`readJson d lg pk fuel` in `readJson`). -/
theorem omitted_is_empty_member (fuel : Nat) (rj : Rj) (s : StructD) (params : List Nat) (kvs : List (Bytes × Json))
    (k : Bytes) (ej : Json) (hc : countKey k kvs = 0) (hfield : (findField s k s.fields 0).isSome = true)
    (H : ∀ f ∈ s.fields, strBytes f.name = k → fieldOmitted s f = false → f.plain ∧ rj f.ty [] (some ej) = jzeroVal d fuel f.ty) :
    readStructJ d fuel rj s params kvs = readStructJ d fuel rj s params (kvs ++ [(k, ej)]) :=
  readStructJ_omitted_empty d fuel rj s params kvs k ej hc hfield H

/-- the explicit empty value of every primitive (`0`, `""`, `false`) is such an `ej` -/
theorem omitted_is_empty_prim_value (ty : Nat) (k : PrimK) (hd : d.get? ty = some (.prim k)) (hk : k ≠ .bit) :
    EmptyOf d ty (emptyPrimJ k) := by
  intro lg pk fuel
  cases fuel with
  | zero => rfl
  | succ fuel =>
    simp only [readJson, jzeroVal, hd]
    cases k <;> first | rfl | exact absurd rfl hk

/-- **omitted_is_empty** (structs): an omitted struct reads exactly like `{}`. -/
theorem omitted_is_empty_struct (fuel ty : Nat) (params : List Nat) (s : StructD) (hd : d.get? ty = some (.struct s))
    (ht : (s.isTypedef || s.isUnwrap) = false) :
    readJson d lg pk (fuel + 1) ty params none = readJson d lg pk (fuel + 1) ty params (some (.obj [])) := by
  simp only [readJson, hd, ht, Bool.false_eq_true, if_false]

/-- **omitted_is_empty** (Maybe): an omitted Maybe reads like `{}` (nothing). -/
theorem omitted_is_empty_maybe (fuel ty : Nat) (params : List Nat) (u : UnionD) (hd : d.get? ty = some (.union u))
    (hm : u.isMaybe = true) :
    readJson d lg pk (fuel + 1) ty params none = readJson d lg pk (fuel + 1) ty params (some (.obj [])) :=
  readJson_maybe_congr d lg pk ty u hd hm _ _ (maybeHead_nil.trans maybeHead_empty.symm) _ _

/-- an omitted tuple is accepted only when its size is 0 (so "omitted = empty" does not extend to non-empty tuples) -/
theorem omitted_tuple_nonzero_rejected (fuel ty : Nat) (params na : List Nat) (a : ArrayD) (hd : d.get? ty = some (.array a))
    (ht : a.isTuple = true) (n : Nat) (hn : (if a.dynamic then params[0]? else some a.count) = some n)
    (hna : natArgVals [] params a.elem.natArgs = some na) (hl : n ≠ 0) :
    readJson d lg pk (fuel + 1) ty params none = .error .rej := by
  simp only [readJson, hd, ht, hna, hn, if_true, List.length_nil, if_pos (Ne.symm hl)]

/-- **number_as_string**: an integer may be given as a string holding the same decimal text. -/
theorem number_as_string_int (signed : Bool) (bits : Nat) (t : List Char) (h : ∀ c ∈ t, c.toNat < 256) :
    readIntJ signed bits (some (.str (t.map (fun c => byteOf c.toNat)))) = readIntJ signed bits (some (.num t)) := by
  simp only [readIntJ, charsOfBytes_ascii t h]

/-- **number_as_string**: a float may be given as a string holding the same decimal text. -/
theorem number_as_string_float (f : FloatFmt) (t : List Char) (h : ∀ c ∈ t, c.toNat < 256) :
    readFloatJ f (some (.str (t.map (fun c => byteOf c.toNat)))) = readFloatJ f (some (.num t)) := by
  simp only [readFloatJ, charsOfBytes_ascii t h]

/-- **enum_as_object / union_as_string**: the bare type string and the object `{"type": t}` read the same, for every union. -/
theorem union_as_string (fuel ty : Nat) (params : List Nat) (u : UnionD) (hd : d.get? ty = some (.union u))
    (hm : u.isMaybe = false) (t : Bytes) :
    readJson d lg pk (fuel + 1) ty params (some (.str t)) =
      readJson d lg pk (fuel + 1) ty params (some (.obj [(kType, .str t)])) :=
  Codec.alt_equiv d lg pk (.unionAsString ty u t hd hm) _ _

/-- member order of a union object does not matter -/
theorem union_value_first (fuel ty : Nat) (params : List Nat) (u : UnionD) (hd : d.get? ty = some (.union u))
    (hm : u.isMaybe = false) (t : Bytes) (v : Json) :
    readJson d lg pk (fuel + 1) ty params (some (.obj [(kValue, v), (kType, .str t)])) =
      readJson d lg pk (fuel + 1) ty params (some (.obj [(kType, .str t), (kValue, v)])) :=
  Codec.alt_equiv d lg pk (.unionValueFirst ty u t v hd hm) _ _

/-- **maybe_forms**: the six-row table of `Json2ReadMaybe` (ok absent/true/false × value absent/present). -/
theorem maybe_forms (v : Json) :
    readMaybeHead (some (.obj [])) = .ok (false, none) ∧
    readMaybeHead (some (.obj [(kValue, v)])) = .ok (true, some v) ∧
    readMaybeHead (some (.obj [(kOk, .bool true)])) = .ok (true, none) ∧
    readMaybeHead (some (.obj [(kOk, .bool true), (kValue, v)])) = .ok (true, some v) ∧
    readMaybeHead (some (.obj [(kOk, .bool false)])) = .ok (false, none) ∧
    readMaybeHead (some (.obj [(kOk, .bool false), (kValue, v)])) = .error .rej :=
  ⟨rfl, rfl, rfl, rfl, rfl, rfl⟩

/-- the Maybe reader looks at nothing but that table: `{"value": v}` ≡ `{"ok":true,"value":v}` (either order), `{}` ≡ `{"ok":false}` -/
theorem maybe_without_ok (fuel ty : Nat) (params : List Nat) (u : UnionD) (hd : d.get? ty = some (.union u))
    (hm : u.isMaybe = true) (v : Json) :
    readJson d lg pk (fuel + 1) ty params (some (.obj [(kValue, v)])) =
      readJson d lg pk (fuel + 1) ty params (some (.obj [(kOk, .bool true), (kValue, v)])) ∧
    readJson d lg pk (fuel + 1) ty params (some (.obj [(kValue, v), (kOk, .bool true)])) =
      readJson d lg pk (fuel + 1) ty params (some (.obj [(kOk, .bool true), (kValue, v)])) ∧
    readJson d lg pk (fuel + 1) ty params (some (.obj [(kOk, .bool false)])) =
      readJson d lg pk (fuel + 1) ty params (some (.obj [])) :=
  ⟨Codec.alt_equiv d lg pk (.maybeWithoutOk ty u v hd hm) _ _, Codec.alt_equiv d lg pk (.maybeValueFirst ty u v hd hm) _ _,
   Codec.alt_equiv d lg pk (.maybeOkFalse ty u hd hm) _ _⟩

/-- **masked_field_sets_local_bits**: one step — a present field under local mask `a`, bit `bit` sets that bit and continues
with the mask field itself (which may be masked in turn): the propagation is recursive through ancestor masks. -/
theorem masked_field_sets_local_bits_step (s : StructD) (params : List Nat) (fuel : Nat) (cur anc : Field) (vals : List (Option Val))
    (a bit : Nat) (hm : cur.mask = some (.field a, bit)) (ha : s.fields[a]? = some anc) :
    propagateMask s params (fuel + 1) cur vals = propagateMask s params fuel anc (setNatField vals a bit) := by
  simp only [propagateMask, hm, ha]

/-- **masked_field_sets_local_bits**: whenever the propagation succeeds the bit is set in the mask field at the end, and no bit
that was set in any local mask field is ever cleared. -/
theorem masked_field_sets_local_bits (s : StructD) (params : List Nat) (fuel : Nat) (cur anc : Field) (vals vals' : List (Option Val))
    (a bit n : Nat) (hm : cur.mask = some (.field a, bit)) (ha : s.fields[a]? = some anc) (hn : natOf vals a = some n)
    (h : propagateMask s params (fuel + 1) cur vals = .ok vals') :
    (∃ m', natOf vals' a = some m' ∧ testBit m' bit = true) ∧
    (∀ i m b, natOf vals i = some m → testBit m b = true → ∃ m', natOf vals' i = some m' ∧ testBit m' b = true) := by
  refine ⟨?_, propagateMask_mono s params (fuel + 1) cur vals vals' h⟩
  rw [masked_field_sets_local_bits_step s params fuel cur anc vals a bit hm ha] at h
  refine propagateMask_mono s params fuel anc _ _ h a (setBit n bit) bit ?_ (testBit_setBit_self n bit)
  rw [natOf_setNatField, if_pos rfl, hn]
  rfl

/-- **external_mask_zero_rejected** (types generated without TL2): a present field whose mask is a nat parameter or a constant
with the bit clear is an error — at the end of the recursion through local masks as well. -/
theorem external_mask_zero_rejected (s : StructD) (params : List Nat) (fuel : Nat) (cur : Field) (vals : List (Option Val))
    (m : NatArg) (bit mv : Nat) (hm : cur.mask = some (m, bit)) (hext : ∀ a, m ≠ .field a) (ht : s.hasTL2 = false)
    (hv : natArgVal vals params m = some mv) (hb : testBit mv bit = false) :
    propagateMask s params (fuel + 1) cur vals = .error .rej := by
  cases m with
  | field a => exact absurd rfl (hext a)
  | _ => simp [propagateMask, hm, ht, hv, hb]

/-- for TL2-enabled types, or when the bit is set, the propagation stops there without error -/
theorem external_mask_accepted (s : StructD) (params : List Nat) (fuel : Nat) (cur : Field) (vals : List (Option Val))
    (m : NatArg) (bit mv : Nat) (hm : cur.mask = some (m, bit)) (hext : ∀ a, m ≠ .field a)
    (hv : natArgVal vals params m = some mv) (hb : s.hasTL2 = true ∨ testBit mv bit = true) :
    propagateMask s params (fuel + 1) cur vals = .ok vals := by
  cases m with
  | field a => exact absurd rfl (hext a)
  | _ => rcases hb with hb | hb <;> simp [propagateMask, hm, hv, hb]

/-- **true_false_with_bit_set_rejected** (only for types without TL2): a true-typed field given as `false` while its mask bit is
set (after all masks have their final values `vals1`) makes the struct reader fail. -/
theorem true_false_with_bit_set_rejected (fuel : Nat) (rj : Rj) (s : StructD) (params : List Nat)
    (kvs : List (Bytes × Json)) (slots : List Slot) (vals0 vals1 : List (Option Val))
    (h1 : rsPass1 d fuel rj s kvs s.fields = .ok (slots, vals0)) (h2 : rsProp s params slots vals0 = .ok vals1)
    (ht : s.hasTL2 = false) (f : Field) (hf : f ∈ s.fields) (hb : f.isBit = true)
    (hmem : memberOf s f kvs = some (.bool false)) (hm : presentOr f vals1 params = true) :
    readStructJ d fuel rj s params kvs = .error .rej := by
  obtain ⟨sl, hin, rfl, hp, hv⟩ := rsPass1_bit_slot d fuel rj s kvs s.fields slots vals0 h1 f hf hb false hmem
  have hbad : rsBadFalse s params vals1 slots = true := by
    simp only [rsBadFalse, ht, Bool.not_false, Bool.true_and, List.any_eq_true]
    exact ⟨sl, hin, by simp only [hb, hp, hv, hm, Bool.not_false, Bool.and_self]⟩
  unfold readStructJ
  split
  · rfl
  · simp only [h1, h2, hbad, if_true]

/-- **unknown_key_rejected**: an object with a member that is not a (non-omitted) field of the struct is rejected. -/
theorem unknown_key_rejected (fuel ty : Nat) (params : List Nat) (s : StructD) (hd : d.get? ty = some (.struct s))
    (ht : (s.isTypedef || s.isUnwrap) = false) (kvs : List (Bytes × Json)) (kv : Bytes × Json) (hm : kv ∈ kvs)
    (hu : findField s kv.1 s.fields 0 = none) :
    readJson d lg pk (fuel + 1) ty params (some (.obj kvs)) = .error .rej := by
  rw [readJson_struct_obj d lg pk fuel ty params s hd ht]
  exact readStructJ_rej_of_key d fuel _ s params kvs kv hm (.inl hu)

/-- **duplicate_key_rejected**: an object in which some key occurs twice is rejected (wherever the two occurrences are). -/
theorem duplicate_key_rejected (fuel ty : Nat) (params : List Nat) (s : StructD) (hd : d.get? ty = some (.struct s))
    (ht : (s.isTypedef || s.isUnwrap) = false) (k : Bytes) (a b c : List (Bytes × Json)) (j1 j2 : Json) :
    readJson d lg pk (fuel + 1) ty params (some (.obj (a ++ (k, j1) :: b ++ (k, j2) :: c))) = .error .rej := by
  rw [readJson_struct_obj d lg pk fuel ty params s hd ht]
  exact readStructJ_rej_of_key d fuel _ s params _ (k, j1) (by simp) (.inr (countKey_dup k a b c j1 j2))

/-- **array_len_must_match_nat**: a tuple whose JSON array length differs from its size parameter / constant is rejected. -/
theorem array_len_must_match_nat (fuel ty : Nat) (params na : List Nat) (a : ArrayD) (hd : d.get? ty = some (.array a))
    (ht : a.isTuple = true) (n : Nat) (hn : (if a.dynamic then params[0]? else some a.count) = some n)
    (hna : natArgVals [] params a.elem.natArgs = some na) (es : List Json) (hl : es.length ≠ n) :
    readJson d lg pk (fuel + 1) ty params (some (.arr es)) = .error .rej := by
  simp only [readJson, hd, ht, hna, hn, if_true, if_pos hl]

/-- **maybe_okfalse_value_rejected**: `{"ok":false,"value":…}` is an error for every Maybe type, in either member order. -/
theorem maybe_okfalse_value_rejected (fuel ty : Nat) (params vparams : List Nat) (u : UnionD) (hd : d.get? ty = some (.union u))
    (hm : u.isMaybe = true) (hp : natArgVals [] params u.elemNatArgs = some vparams) (v : Json) :
    readJson d lg pk (fuel + 1) ty params (some (.obj [(kOk, .bool false), (kValue, v)])) = .error .rej ∧
    readJson d lg pk (fuel + 1) ty params (some (.obj [(kValue, v), (kOk, .bool false)])) = .error .rej :=
  ⟨by simp only [readJson, hd, hm, hp, maybeHead_okFalse_value, if_true],
   by simp only [readJson, hd, hm, hp, maybeHead_value_okFalse, if_true]⟩

/-- **dict_as_pairs** — what the generated code does: a dictionary instance (`Dict` in the kernel) is read from a JSON object
only; the "array of {key,value} pairs" spelling is *rejected* (vectors of `dictionaryField`-like structs that the kernel does not
turn into `Dict` are ordinary arrays of objects and only have that spelling). -/
theorem dict_as_pairs_rejected (fuel ty : Nat) (params : List Nat) (a : ArrayD) (hd : d.get? ty = some (.dict a)) (es : List Json) :
    readJson d lg pk (fuel + 1) ty params (some (.arr es)) = .error .rej ∨
    readJson d lg pk (fuel + 1) ty params (some (.arr es)) = .error .desc := by
  simp only [readJson, hd]
  -- the dictionary arm looks at the tree last: `.desc` where the descriptor is not a dictionary's, else `.rej` for a non-object
  repeat' split
  all_goals first | exact .inl rfl | exact .inr rfl

/-- **alt_equiv**: `AltForm d ty j j'` is the inductive closure of the documented rewrites (numbers as decimal strings, enums as
objects / unions as type strings, member order of union objects, Maybe with or without `"ok"`, `{"ok":false}` ≡ `{}`, omitted
plain fields given explicitly as their empty value) under
reflexivity, symmetry, transitivity and every JSON context (typedef wrappers, array elements, struct members, union and Maybe
values). Related trees are read identically — same value or same error — for every schema, fuel and nat arguments. -/
theorem alt_equiv {ty : Nat} {j j' : Json} (h : AltForm d ty j j') :
    ∀ fuel params, readJson d lg pk fuel ty params (some j) = readJson d lg pk fuel ty params (some j') :=
  Codec.alt_equiv d lg pk h

theorem struct_member_congruence (fuel : Nat) (rj : Rj) (s : StructD) (params : List Nat)
    (a b : List (Bytes × Json)) (k : Bytes) (v v' : Json)
    (H : ∀ f ∈ s.fields, strBytes f.name = k → f.isBit = false ∧ ∀ na, rj f.ty na (some v) = rj f.ty na (some v')) :
    readStructJ d fuel rj s params (a ++ (k, v) :: b) = readStructJ d fuel rj s params (a ++ (k, v') :: b) :=
  readStructJ_member_congr d fuel rj s params a b k v v' H

/-- the hypotheses above are satisfiable by a non-trivial instance: a struct `x:float y:# = T` read from `{"y":"5","z":1}` is
rejected because of the unknown key, and `{"y":"5"}` is accepted with `y = 5` given as a string. -/
def dEx : Desc :=
  { insts := #[.prim .f32, .prim .u32,
      .struct { tag := 1, nparams := 0, fields := [{ name := "x", ty := 0, bare := true, mask := none, tl2bit := none, isBit := false, natArgs := [] },
                                                   { name := "y", ty := 1, bare := true, mask := none, tl2bit := none, isBit := false, natArgs := [] }] }],
    tlnames := #["float", "nat", "t"] }

/-- `AltForm` is inhabited non-trivially: inside the struct, member `y` given as the string "5" instead of the number 5 -/
example : AltForm dEx 2 (.obj [(strBytes "y", .num ['5'])]) (.obj [(strBytes "y", .str (asciiBytes ['5']))]) :=
  .member 2 _ [] [] (strBytes "y") _ _ rfl rfl
    (by intro f hf hk; simp at hf; rcases hf with rfl | rfl <;> first | rfl | (exact absurd hk (by decide)))
    (by
      intro f hf hk
      simp at hf
      rcases hf with rfl | rfl
      · exact absurd hk (by decide)
      · exact .numberAsString 1 .u32 ['5'] rfl rfl (by decide))

/-- omitted field `x:float` given explicitly as `0` -/
example : AltForm dEx 2 (.obj [(strBytes "y", .num ['5'])]) (.obj ([(strBytes "y", .num ['5'])] ++ [(strBytes "x", .num ['0'])])) :=
  .omittedEmpty 2 _ _ (strBytes "x") _ rfl rfl rfl rfl
    (by
      intro f hf hk _
      simp at hf
      rcases hf with rfl | rfl
      · exact ⟨⟨rfl, rfl, rfl, rfl⟩, omitted_is_empty_prim_value dEx 0 .f32 rfl (by decide)⟩
      · exact absurd hk (by decide))

example : readJson dEx false parseJson 4 2 [] (some (.obj [(strBytes "y", .str (strBytes "5")), (strBytes "z", .num ['1'])])) = .error .rej := by rfl
example : readJson dEx false parseJson 4 2 [] (some (.obj [(strBytes "y", .str (strBytes "5"))])) = .ok (.struct [some (.nat 0), some (.nat 5)]) := by rfl

end TLVerif.Props.C06
