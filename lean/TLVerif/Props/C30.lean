import TLVerif.Lint.CoreLemmas
import TLVerif.Lint.Examples
import TLVerif.Props.C28
/-! C30 — the linter rejects documented unsafe schema evolutions, wherever in the schema the edit occurs.
Statements are about `lintCore` (model of `CheckBackwardCompatibility`, tied by `checks/C30.py`).
`lintCore old new ≠ .ok` = "the new schema is not accepted" (an error is returned, or — see `fewer_args_panics` —
the Go code panics). Position independence is explicit: combinators are found through `∈ typeCombs …`/`∈ funcCombs …`
(any position in the schema), fields through an index, nodes of a type through a path.

FULL-STRENGTH STATEMENT (as in the property): every edit of the listed kinds is rejected wherever it occurs.
It FAILS on the real code for four kinds of position (defects, proved below: `union_statement_fails`,
`union_in_repeat_accepted`/`repeat_changes_accepted`, `bare_change_statement_fails`, `fewer_args_panics`):
  * a bare use that is not on the "first non-arithmetic argument" spine of a reference (`checkBoxUsage`),
  * anything inside `[ ]` repeats (never visited by `checkAllTypeRefs`, never compared by `compareTypes`),
  * the bare flag `%` of a reference (never compared),
  * a reference that loses an argument (index panic instead of an error).
The `_partial` theorems hold under the exact guards that exclude those. -/
namespace TLVerif.Props.C30
open TLVerif.Lint

/-- general form: an old constructor without a same-named constructor in the same type of the new schema. -/
theorem rejects_missing_constructor {old new : Schema} {T : String} {c : Comb} (hc : c ∈ typeCombs old T)
    (hmiss : ∀ d ∈ typeCombs new T, d.name ≠ c.name) : lintCore old new ≠ .ok := by
  intro h
  obtain ⟨d, hl, _⟩ := checkComb_ok_of_cons h hc
  obtain ⟨hd, hn⟩ := findLast_some hl
  exact hmiss d hd (by simpa using hn)

/-- removes a constructor (anywhere). -/
theorem rejects_removed_constructor (pre post : Schema) (c : Comb) (hc : isTypeComb c = true)
    (hd : consDistinct (pre ++ c :: post)) : lintCore (pre ++ c :: post) (pre ++ post) ≠ .ok :=
  rejects_missing_constructor (T := c.tyName) (mem_typeCombs.mpr ⟨by simp, hc, rfl⟩)
    (fun _ hd' => name_ne_of_nodup_insert hc hd (List.mem_filter.mp hd').1)

/-- removes a function (anywhere). -/
theorem rejects_removed_function (pre post : Schema) (o : Comb) (ho : o.isFunc = true)
    (hd : funcDistinct (pre ++ o :: post)) : lintCore (pre ++ o :: post) (pre ++ post) ≠ .ok := by
  intro h
  obtain ⟨f, hl, _⟩ := checkComb_ok_of_func h (List.mem_filter.mpr ⟨by simp, ho⟩) hd
  obtain ⟨hf, hn⟩ := findLast_some hl
  exact name_ne_of_nodup_insert (p := (·.isFunc)) ho hd hf (by simpa using hn)

/-- removes a field or a template argument of a constructor (the edited constructor `c'` is wherever it is). -/
theorem rejects_fewer_fields_or_targs {old new : Schema} {T : String} {c c' : Comb}
    (hc : c ∈ typeCombs old T) (hc' : c' ∈ typeCombs new T) (hname : c'.name = c.name) (hd : consDistinct new)
    (hless : c'.fields.length < c.fields.length ∨ c'.targs.length < c.targs.length) : lintCore old new ≠ .ok := by
  intro h
  obtain ⟨h1, h2, _⟩ := cons_pair_of_ok h hc hc' hname hd
  exact hless.elim h1 h2

theorem rejects_fewer_fields_function {old new : Schema} {o f : Comb}
    (ho : o ∈ funcCombs old) (hf : f ∈ funcCombs new) (hname : f.name = o.name)
    (hdo : funcDistinct old) (hdn : funcDistinct new)
    (hless : f.fields.length < o.fields.length) : lintCore old new ≠ .ok := by
  intro h
  obtain ⟨g, hl, hok⟩ := checkComb_ok_of_func h ho hdo
  rw [← hname, findFunc_of_mem hdn hf] at hl
  cases hl
  exact (checkComb_eq_ok.mp hok).1 hless

/-- what `compareTypes` guarantees when it accepts: at EVERY path of the old type tree the new tree has a node
of the same kind, with the same constant, resp. a head name that is "the same" (equal, or a local name mapped to
the same field / template argument index). Contrapositive: a change of a head name, a constant, or of the kind of
an argument at any depth (1st, 2nd, 3rd … argument, nested) is rejected. -/
theorem compare_accepts_only_same_nodes {nm om : String → Option Int} {t' t : TypeRef}
    (h : cmpType nm om t' t = .ok) (p : List Nat) : nodeOk nm om (nodeAt t' p) (nodeAt t p) :=
  (cmpType_spec nm om t' t).2 h p

/-- changes the type of an existing field: if at some path the old tree has head `n` and the new tree has no node,
a constant, or a head `n'` that is not the same (`headBad`), the edit is rejected — for a field at any index `i` of
a constructor at any position. -/
theorem rejects_changed_field_type_partial {old new : Schema} {T : String} {c c' : Comb}
    (hc : c ∈ typeCombs old T) (hc' : c' ∈ typeCombs new T) (hname : c'.name = c.name) (hd : consDistinct new)
    {i : Nat} (hi : i < c.fields.length) (p : List Nat)
    (hdiff : ∀ nf, c'.fields[i]? = some nf →
      ¬ nodeOk (mapping c') (mapping c) (nodeAt nf.ty p) (nodeAt (c.fields[i]).ty p)) :
    lintCore old new ≠ .ok := by
  intro h
  obtain ⟨nf, hnf, hok⟩ := (cons_pair_of_ok h hc hc' hname hd).2.2.1 i hi
  exact hdiff nf hnf (compare_accepts_only_same_nodes (fieldCheck_eq_ok.mp hok).1 p)

/-- changes the mask reference or the mask bit of an existing field, adds a mask to it or removes its mask. -/
theorem rejects_changed_mask {old new : Schema} {T : String} {c c' : Comb}
    (hc : c ∈ typeCombs old T) (hc' : c' ∈ typeCombs new T) (hname : c'.name = c.name) (hd : consDistinct new)
    {i : Nat} (hi : i < c.fields.length)
    (hdiff : ∀ nf, c'.fields[i]? = some nf →
      (nf.mask.isSome ≠ (c.fields[i]).mask.isSome) ∨
      (∃ a b, nf.mask = some a ∧ (c.fields[i]).mask = some b ∧
        (a.bit ≠ b.bit ∨ ((mapping c') a.name).getD 0 ≠ ((mapping c) b.name).getD 0))) :
    lintCore old new ≠ .ok := by
  intro h
  obtain ⟨nf, hnf, hok⟩ := (cons_pair_of_ok h hc hc' hname hd).2.2.1 i hi
  obtain ⟨h1, h2⟩ := maskCheck_eq_ok.mp (fieldCheck_eq_ok.mp hok).2
  rcases hdiff nf hnf with h | ⟨a, b, ha, hb, h⟩
  · exact h h1
  · exact h.elim (· (h2 a b ha hb).2) (· (h2 a b ha hb).1)

/-- appends an unmasked field to a constructor (one of possibly several appended fields, at any of the new indices). -/
theorem rejects_appended_unmasked_field {old new : Schema} {T : String} {c c' : Comb}
    (hc : c ∈ typeCombs old T) (hc' : c' ∈ typeCombs new T) (hname : c'.name = c.name) (hd : consDistinct new)
    {f : Field} (hmem : f ∈ c'.fields.drop c.fields.length) (hm : f.mask = none) : lintCore old new ≠ .ok := by
  intro h
  obtain ⟨m, hm', _⟩ := (cons_pair_of_ok h hc hc' hname hd).2.2.2 f hmem
  rw [hm] at hm'
  cases hm'

/-- reuses a mask bit already given meaning: an appended field guarded by bit `m.bit` of the local `#` field
`m.name` (index `k`) while an existing later field of the constructor is guarded by the same bit. -/
theorem rejects_reused_mask_bit {old new : Schema} {T : String} {c c' : Comb}
    (hc : c ∈ typeCombs old T) (hc' : c' ∈ typeCombs new T) (hname : c'.name = c.name)
    (hdo : allDistinct old) (hdn : consDistinct new)
    {f : Field} (hmem : f ∈ c'.fields.drop c.fields.length) {m : Mask} (hm : f.mask = some m)
    (hnt : firstIdx (fun a : TArg => a.name == m.name) c'.targs = none)
    {k : Nat} (hk : firstIdx (fun g : Field => g.name == m.name) c'.fields = some k)
    {fm : Field} (hfm : c.fields[k]? = some fm) (hty : fm.ty.name = "#")
    (hbit : m.bit ∈ directBits c k fm.name) : lintCore old new ≠ .ok := by
  intro h
  obtain ⟨m', hm', this⟩ := (cons_pair_of_ok h hc hc' hname hdn).2.2.2 f hmem
  rw [hm] at hm'
  cases hm'
  have hmem := mem_typeCombs.mp hc
  simp [bitAvailable, mkCtx, usedBits_local hdo ((mem_natCombs hdo.func).mpr ⟨hmem.1, .inl hmem.2.1⟩) hname hnt hk hfm hty,
    hbit] at this

/-- full-strength statement for this kind: whenever a single-constructor type that is used bare ANYWHERE
(`usedBareSomewhere`: any node of any reference, repeats included) gets more constructors, the linter rejects. -/
def UnionStatement : Prop :=
  ∀ (old new : Schema) (T : String) (c : Comb), typeCombs old T = [c] → (typeCombs new T).length > 1 →
    usedBareSomewhere old c = true → lintCore old new ≠ .ok

/-- partial: the bare use (`%T` or the constructor name) is a node on the first-non-arithmetic-argument spine of a
field type or function result that is not inside a repeat. -/
theorem rejects_bare_type_to_union_partial {old new : Schema} {T : String} {c d : Comb}
    (hone : typeCombs old T = [c]) (hmany : (typeCombs new T).length > 1) (hd : d ∈ old)
    {t : TypeRef} (ht : t = d.result ∨ ∃ f ∈ d.fields, t = f.ty)
    {p : List Nat} {n : String} {b : Bool} (hnode : nodeAt t p = some (.ty n b)) (hspine : onFirstSpine t p = true)
    (huse : ((n == c.tyName && b) || n == c.name) = true) : lintCore old new ≠ .ok := by
  have hb := boxUsage_of_spine c.tyName c.name t p n b hnode hspine huse
  intro h
  have hc : c ∈ typeCombs old T := by simp [hone]
  have hbox := allR_eq_ok.mp
    ((typeCheck_eq_ok.mp ((lintCore_eq_ok.mp h).2.1 T (mem_typeOrder_of_mem_typeCombs hc))).2.2 c hone hmany) d hd
  rw [R.andThen_eq_ok, rejIf_eq_ok, allR_eq_ok] at hbox
  rcases ht with rfl | ⟨f, hf, rfl⟩
  · rw [hb] at hbox
    cases hbox.1
  · have := rejIf_eq_ok.mp (hbox.2 f hf)
    rw [hb] at this
    cases this

open TLVerif.Lint.Ex in
/-- L5: the bare use in the SECOND argument of `(pair int %Foo)` is not seen: the statement fails. -/
theorem union_statement_fails : ¬ UnionStatement := by
  intro h
  exact h l5Old l5New "Foo" foo rfl (by decide) (by decide) C28.witnesses_accepted_not_compat.2.1.1

open TLVerif.Lint.Ex in
/-- L5, inside a repeat `n*[%Foo]`. -/
theorem union_in_repeat_accepted : lintCore l5rOld l5rNew = .ok ∧ usedBareSomewhere l5rOld foo = true := by decide +kernel

/-- full-strength statement: any change of a field's type (here: of its bare flag) is rejected. -/
def BareChangeStatement : Prop :=
  ∀ (old new : Schema) (T : String) (c c' : Comb), c ∈ typeCombs old T → c' ∈ typeCombs new T → c'.name = c.name →
    consDistinct new → (∃ (i : Nat) (nf of : Field), c'.fields[i]? = some nf ∧ c.fields[i]? = some of ∧ nf.ty.bare ≠ of.ty.bare) →
    lintCore old new ≠ .ok

open TLVerif.Lint.Ex in
/-- L7: `p:%Foo` → `p:Foo` is accepted. -/
theorem bare_change_statement_fails : ¬ BareChangeStatement := by
  intro h
  refine h l7Old l7New "Bar" (cons "bar" 3 "Bar" [] [fld "p" (bref "Foo")]) (cons "bar" 3 "Bar" [] [fld "p" (ref "Foo")])
    (mem_typeCombs.mpr ⟨by simp [l7Old], by decide, rfl⟩) (mem_typeCombs.mpr ⟨by simp [l7New], by decide, rfl⟩)
    rfl (by decide) ⟨0, _, _, rfl, rfl, by decide⟩ C28.witnesses_accepted_not_compat.1.1

/-- the general reason: the verdict of `compareTypes` does not depend on any `%` flag, at any position. -/
theorem compare_ignores_bare (nm om : String → Option Int) (t' t : TypeRef) :
    cmpType nm om (eraseBare t') (eraseBare t) = cmpType nm om t' t := (cmpType_spec nm om t' t).1

open TLVerif.Lint.Ex in
/-- the element type and the scale of a `[ ]` repeat are never compared. -/
theorem repeat_changes_accepted : lintCore repOld repElNew = .ok ∧ lintCore repOld repScNew = .ok := by decide +kernel

open TLVerif.Lint.Ex in
/-- a reference that loses a type argument: the Go code panics (index out of range) instead of returning an error. -/
theorem fewer_args_panics : lintCore fewOld fewNew = .panic := by decide +kernel

open TLVerif.Lint.Ex in
/-- `obj m:# a:m.0?int b:long` → new field `c:m.0?int` reuses bit 0. -/
example : lintCore base (prelude ++ [foo, { obj with fields := obj.fields ++ [mfld "c" "m" 0 (ref "int")] }, getF]) ≠ .ok :=
  rejects_reused_mask_bit (T := "Obj") (c := obj) (c' := { obj with fields := obj.fields ++ [mfld "c" "m" 0 (ref "int")] })
    (mem_typeCombs.mpr ⟨by simp [base], by decide, rfl⟩) (mem_typeCombs.mpr ⟨by simp, by decide, rfl⟩)
    rfl (by decide +kernel) (by decide +kernel) (f := mfld "c" "m" 0 (ref "int")) (by simp [obj]) (m := ⟨"m", 0⟩) rfl
    (by decide) (k := 0) (by decide) (fm := fld "m" (ref "#")) rfl (by decide) (by decide)

open TLVerif.Lint.Ex in
/-- `bar p:(pair %Foo int)` (first argument): seen, rejected. -/
example : lintCore (prelude ++ [pair, foo, cons "bar" 3 "Bar" [] [fld "p" (.mk "pair" false (.ty (bref "Foo") (.ty (ref "int") .nil)))]])
    (prelude ++ [pair, foo, foo2, cons "bar" 3 "Bar" [] [fld "p" (.mk "pair" false (.ty (bref "Foo") (.ty (ref "int") .nil)))]]) ≠ .ok :=
  rejects_bare_type_to_union_partial (T := "Foo") (c := foo)
    (d := cons "bar" 3 "Bar" [] [fld "p" (.mk "pair" false (.ty (bref "Foo") (.ty (ref "int") .nil)))])
    rfl (by decide) (by simp [prelude])
    (t := .mk "pair" false (.ty (bref "Foo") (.ty (ref "int") .nil))) (Or.inr ⟨_, List.mem_cons_self, rfl⟩)
    (p := [0]) (n := "Foo") (b := true) (by decide) (by decide) (by decide)

end TLVerif.Props.C30
