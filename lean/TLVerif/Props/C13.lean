import TLVerif.Codec.TL2Evolution
/-!
# C13 — TL2 readers tolerate schema evolution and non-minimal encodings

Per-rule theorems about the reader model `readTL2` (`Codec/TL2.lean`, tied to the generated Go readers by
`checks/C13.py`).  Each admissible re-encoding rule is a theorem; the evolution theorems are stated for one object body,
for **any** number of known and appended fields (so across every mask-byte boundary), and for arbitrary field codecs that
round trip (`FieldCodecs`) — `model_codecs` shows the model's own codecs qualify on the values covered by C03.
What is *not* a single theorem: the closure of the rules over whole nested encodings (a rewrite deep inside a value); the
check explores it (nested re-encodings with all rules mixed) on every run.
-/
namespace TLVerif.Props.C13
open TLVerif.Prim TLVerif.Codec

/-- Non-minimal size: the huge form `FF` + 8 little-endian bytes is accepted for every size below 2^63. -/
theorem huge_size_accepted (n : Nat) (rest : Bytes) (h : n < 2 ^ 63) :
    parseSize (255 :: (le64 n ++ rest)) = .ok (n, rest) ∧ parseSize (tl2WriteSize n ++ rest) = .ok (n, rest) :=
  ⟨parseSize_huge n rest h, parseSize_write n rest h⟩

/-- Re-encoding rule "huge-form size of an object": every sized type (struct, union, array, dictionary) decodes an object
framed with the huge size form exactly as the minimally framed one (same value or same error, same rest). -/
theorem reenc_huge_object (d : Desc) (fuel ty : Nat) (c : Bool) (body rest : Bytes)
    (ho : objectLike d ty = true) (h : body.length < 2 ^ 63) :
    readTL2 d (fuel + 1) ty c (255 :: (le64 body.length ++ (body ++ rest))) =
      readTL2 d (fuel + 1) ty c (tl2WriteSize body.length ++ (body ++ rest)) :=
  (readTL2_slice d fuel ty c _ ho).1 _ (sliceBody_huge body rest h)

/-- An object whose declared size exceeds the remaining input is rejected. -/
theorem oversize_rejected (d : Desc) (fuel ty : Nat) (c : Bool) (bs r : Bytes) (sz : Nat)
    (ho : objectLike d ty = true) (hp : parseSize bs = .ok (sz, r)) (h : r.length < sz) :
    readTL2 d (fuel + 1) ty c bs = .error .rej :=
  (readTL2_slice d fuel ty c bs ho).2 _ (sliceBody_oversize bs r sz hp h)

/-- `sliceBody` cuts a framed object into its body and the bytes after it, whatever those are (readers of sized types see their
input only through `sliceBody`: `readTL2_slice`). -/
theorem slice_ignores_rest (body rest : Bytes) (h : body.length < 2 ^ 63) :
    sliceBody (tl2WriteSize body.length ++ (body ++ rest)) = .ok (body, rest) :=
  sliceBody_obj body rest h

/-- An explicitly written zero primitive decodes to the zero value (what an omitted field is reset to). -/
theorem explicit_zero_prim (k : PrimK) (hk : k ≠ .bit) (c : Bool) (rest : Bytes) :
    ∃ b, primTL2 k (zeroPrim k) = .ok b ∧ readPrim2 k c (b ++ rest) = .ok (zeroPrim k, rest) :=
  Codec.explicit_zero_prim k hk c rest

/-- Fields missing at the end of a body (it ended before them) are empty. -/
theorem missing_tail_is_empty (rd : Rd2) (skip : Nat → Bool → Bytes → Except CErr Bytes) (z : Nat → Val) (isTrue : Nat → Bool)
    (gs : List Field) (hwf : ∀ g ∈ gs, g.isBit = true → fieldOptional g = true)
    (i : Nat) (block : UInt8) (hA : BlockAgree i block 0) :
    readFields2With rd skip z isTrue i block gs [] = .ok (zeroFieldsWith z gs) :=
  fields_missing_tail rd skip z isTrue gs (fun g hg hb => by rw [hwf g hg hb]; rfl) i block 0 hA

/-- Explicit zero mask bytes (any number of them) decode like the truncated body. -/
theorem padded_mask_same (rd : Rd2) (skip : Nat → Bool → Bytes → Except CErr Bytes) (z : Nat → Val) (isTrue : Nat → Bool)
    (gs : List Field) (hwf : ∀ g ∈ gs, g.isBit = true → fieldOptional g = true)
    (i : Nat) (block : UInt8) (n : Nat) (hA : BlockAgree i block 0) :
    readFields2With rd skip z isTrue i block gs (List.replicate n 0) = readFields2With rd skip z isTrue i block gs [] :=
  (fields_missing_tail rd skip z isTrue gs (fun g hg hb => by rw [hwf g hg hb]; rfl) i block n hA).trans
    (missing_tail_is_empty rd skip z isTrue gs hwf i block hA).symm

/-- **New bytes, old reader** (field loop): a body written for `fs` followed by any appended fields is read with `fs` as
the values of `fs`. -/
theorem unknown_tail_skipped {good : Nat → Bool → Val → Prop} {enc : Enc} {rd : Rd2} {z : Nat → Val}
    {skip : Nat → Bool → Bytes → Except CErr Bytes} {plainTrue isTrue : Nat → Bool}
    (H : FieldCodecs good enc rd z)
    (HT : ∀ ty r, plainTrue ty = true → enc ty true (z ty) = .ok r → r = none)
    (Hpt : ∀ ty, plainTrue ty = true → isTrue ty = true) (ss : List (Option Bytes))
    (fs : List Field) (vs : List (Option Val)) (rs : List (Option Bytes))
    (hg : GoodFields good z plainTrue isTrue fs vs) (he : encFieldsWith enc fs vs = .ok rs)
    (i : Nat) (block : UInt8) (hA : BlockAgree i block (bodyLoop i (rs ++ ss)).1) :
    readFields2With rd skip z isTrue i block fs (bodyLoop i (rs ++ ss)).2 = .ok vs := by
  have := (fields_roundtrip_append H HT Hpt fs vs rs hg he).2 skip ss [] [] (fun _ _ _ => rfl) i block hA
  rwa [List.append_nil, List.append_nil] at this

/-- **Old bytes, new reader** (field loop): a body written for `fs` is read with `fs ++ gs` as the values of `fs` followed
by empty appended fields. -/
theorem fields_ignore_tail {good : Nat → Bool → Val → Prop} {enc : Enc} {rd : Rd2} {z : Nat → Val}
    {skip : Nat → Bool → Bytes → Except CErr Bytes} {plainTrue isTrue : Nat → Bool}
    (H : FieldCodecs good enc rd z)
    (HT : ∀ ty r, plainTrue ty = true → enc ty true (z ty) = .ok r → r = none)
    (Hpt : ∀ ty, plainTrue ty = true → isTrue ty = true)
    (gs : List Field) (hwf : ∀ g ∈ gs, g.isBit = true → fieldOptional g = true)
    (fs : List Field) (vs : List (Option Val)) (rs : List (Option Bytes))
    (hg : GoodFields good z plainTrue isTrue fs vs) (he : encFieldsWith enc fs vs = .ok rs)
    (i : Nat) (block : UInt8) (hA : BlockAgree i block (bodyLoop i rs).1) :
    readFields2With rd skip z isTrue i block (fs ++ gs) (bodyLoop i rs).2 = .ok (vs ++ zeroFieldsWith z gs) :=
  by
  have := (fields_roundtrip_append H HT Hpt fs vs rs hg he).2 skip [] gs (zeroFieldsWith z gs)
    (missing_tail_is_empty rd skip z isTrue gs hwf) i block
  rw [List.append_nil] at this
  exact this hA

/-- **New bytes, old reader**, whole object including size, first mask byte and variant index. -/
theorem struct_unknown_tail_skipped {good : Nat → Bool → Val → Prop} {enc : Enc} {rd : Rd2} {z : Nat → Val}
    {skip : Nat → Bool → Bytes → Except CErr Bytes} {plainTrue isTrue : Nat → Bool}
    (H : FieldCodecs good enc rd z)
    (HT : ∀ ty r, plainTrue ty = true → enc ty true (z ty) = .ok r → r = none)
    (Hpt : ∀ ty, plainTrue ty = true → isTrue ty = true)
    (ui : Nat) (hui : ui < 2 ^ 63) (fs : List Field) (vs : List (Option Val)) (rs ss : List (Option Bytes))
    (hg : GoodFields good z plainTrue isTrue fs vs) (he : encFieldsWith enc fs vs = .ok rs)
    (hne : bodyTL2 ui (rs ++ ss) ≠ []) (hlen : (bodyTL2 ui (rs ++ ss)).length < 2 ^ 63) (rest : Bytes) :
    readStructObj rd skip z isTrue fs ui (tl2WriteSize (bodyTL2 ui (rs ++ ss)).length ++ (bodyTL2 ui (rs ++ ss) ++ rest)) =
      .ok (vs, rest) := by
  obtain ⟨block, cur1, hh, _, hfs⟩ := body_roundtrip_ext (skip := skip) H HT Hpt ui hui fs vs rs _ hg he
    (List.prefix_append rs ss) hne
  unfold readStructObj
  rw [sliceBody_obj _ _ hlen]
  simp [hne, hh, hfs]

/-- The model's own field codecs satisfy the hypotheses of the evolution theorems on the values covered by C03. -/
theorem model_codecs (d : Desc) (fuel : Nat) :
    FieldCodecs (Good d fuel) (encTL2 d fuel) (readTL2 d fuel) (zeroVal d fuel) ∧
    (∀ ty r, isPlainTrue d ty = true → encTL2 d fuel ty true (zeroVal d fuel ty) = .ok r → r = none) ∧
    (∀ ty, isPlainTrue d ty = true → isTrueTy d ty = true) :=
  ⟨⟨tl2_roundtrip_gen d fuel, enc_false_some d fuel⟩, plainTrue_enc d fuel, isPlainTrue_isTrue d⟩

/-- an instance of the hypothesis `BlockAgree` of the evolution theorems -/
example : BlockAgree 0 (2 : UInt8) 2 := by
  intro _ k h1 h2
  rfl

end TLVerif.Props.C13
