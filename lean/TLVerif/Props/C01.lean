import TLVerif.Codec.TL1RoundTrip
import TLVerif.Props.C02
import TLVerif.Codec.TL1Example
/-!
# C01 — TL1 round trip

Model: `TLVerif/Codec/TL1.lean`, tied to the generated Go code by `checks/C01.py`.
Predicates: `TLVerif/Codec/TL1Wf.lean`.

Full-strength statement `TL1RoundTripStatement cfg d`: every successfully written value reads back
(leaving any suffix untouched) to a value that re-encodes to the same bytes.  It is **false**:

* with `--checkLengthSanity` (`cfg.sanity = true`) when array elements occupy 0 bytes
  (`tl1_roundtrip_fails_with_sanity_at`: `holder xs:(vector true)` with 3 elements writes `03000000`, which the
  reader refuses with EOF because `CheckLengthSanity` wants 12 more bytes) — a genuine finding about the code;
* for values that no reader/setter produces, e.g. a `#` field that is masked out but non-zero and used as an
  array size (`tl1_roundtrip_fails_without_normal_at`); Go's generated setters keep such objects consistent.

Proved (`tl1_roundtrip_partial`): for descriptors with `Desc.rtOk` (tags fit 32 bits, references point to earlier
fields, union tags select their variant), for `cfg.sanity = false` or under `Desc.elemMin4` (every vector / dynamic
tuple / dictionary element type encodes to ≥ 4 bytes, by the sound lower bound `minSize`), every `Normal` value
that the writer accepts reads back **exactly** (`v' = v`), with any suffix left untouched.
`tl1_roundtrip_partial_on` is the same with the guards required only on a reference-closed set `S` of instances
(`Desc.closed`, e.g. `d.reach ty`): a zero-size element type somewhere in the schema (the real `cases.tl` has one)
does not spoil the theorem for the types that cannot reach it.
-/
namespace TLVerif.Props.C01
open TLVerif.Prim TLVerif.Codec

def TL1RoundTripStatement (cfg : Cfg) (d : Desc) : Prop :=
  ∀ (fuel ty : Nat) (bare : Bool) (params : List Nat) (v : Val) (bs : Bytes),
    writeTL1 d fuel ty bare params v = .ok bs →
    ∀ rest, ∃ v', readTL1 cfg d fuel ty bare params (bs ++ rest) = .ok (v', rest) ∧
      writeTL1 d fuel ty bare params v' = .ok bs

/-- `Normal`: the value is "as a reader produces it" (decidable: `normalTL1` is a `Bool` function) -/
def Normal (d : Desc) (fuel ty : Nat) (bare : Bool) (params : List Nat) (v : Val) : Prop :=
  normalTL1 d fuel ty bare params v = true

instance (d : Desc) (fuel ty : Nat) (bare : Bool) (params : List Nat) (v : Val) :
    Decidable (Normal d fuel ty bare params v) := by unfold Normal; infer_instance

/-- **C01** on a reference-closed set `S` of instances -/
theorem tl1_roundtrip_partial_on (cfg : Cfg) (d : Desc) (S : Nat → Bool) (hcl : d.closed S = true)
    (hrt : d.allOn S (Inst.rtOk d) = true)
    (hs : cfg.sanity = false ∨ d.allOn S (Inst.elemMin4 d) = true)
    (fuel ty : Nat) (bare : Bool) (params : List Nat) (v : Val) (bs : Bytes) (hS : S ty = true)
    (hn : Normal d fuel ty bare params v) (hw : writeTL1 d fuel ty bare params v = .ok bs) :
    ∀ rest, readTL1 cfg d fuel ty bare params (bs ++ rest) = .ok (v, rest) :=
  fun rest => (readTL1M_map (fun _ => true) cfg d fuel ▸ writeTL1_readM .map _ cfg d S hcl hrt hs fuel) rest hS hn hw

/-- **C01** -/
theorem tl1_roundtrip_partial (cfg : Cfg) (d : Desc) (hrt : d.rtOk = true)
    (hs : cfg.sanity = false ∨ d.elemMin4 = true)
    (fuel ty : Nat) (bare : Bool) (params : List Nat) (v : Val) (bs : Bytes)
    (hn : Normal d fuel ty bare params v) (hw : writeTL1 d fuel ty bare params v = .ok bs) :
    ∀ rest, readTL1 cfg d fuel ty bare params (bs ++ rest) = .ok (v, rest) :=
  tl1_roundtrip_partial_on cfg d allInsts (Desc.closed_all d) (Desc.allOn_all hrt _)
    (hs.elim Or.inl (fun h => Or.inr (Desc.allOn_all h _))) fuel ty bare params v bs rfl hn hw

/-- the same in the shape of `TL1RoundTripStatement` -/
theorem tl1_roundtrip_partial_exists (cfg : Cfg) (d : Desc) (hrt : d.rtOk = true)
    (hs : cfg.sanity = false ∨ d.elemMin4 = true)
    (fuel ty : Nat) (bare : Bool) (params : List Nat) (v : Val) (bs : Bytes)
    (hn : Normal d fuel ty bare params v) (hw : writeTL1 d fuel ty bare params v = .ok bs) :
    ∀ rest, ∃ v', readTL1 cfg d fuel ty bare params (bs ++ rest) = .ok (v', rest) ∧
      writeTL1 d fuel ty bare params v' = .ok bs :=
  fun rest => ⟨v, tl1_roundtrip_partial cfg d hrt hs fuel ty bare params v bs hn hw rest, hw⟩

/-- `Normal` is met by decoded values: on a reference-closed set without dictionaries and `bit`,
whatever the reader returns is `Normal`. -/
theorem tl1_read_normal_on (cfg : Cfg) (d : Desc) (S : Nat → Bool) (hcl : d.closed S = true)
    (hnd : d.allOn S (fun i => !i.isDict) = true) (hnb : d.allOn S (fun i => !i.isBitPrim) = true)
    (fuel ty : Nat) (bare : Bool) (params : List Nat) (bs : Bytes) (v : Val) (rest : Bytes)
    (hS : S ty = true) (h : readTL1 cfg d fuel ty bare params bs = .ok (v, rest)) :
    Normal d fuel ty bare params v := by
  obtain ⟨_, _, _, hc⟩ := readTL1M_canonNm ByteRel.eq .map (fun _ => true) cfg d S hcl hnb (Or.inl hnd) fuel
    (readTL1M_map _ cfg d fuel ▸ h)
  exact (hc hS).2 hnd

/-- C01 ∘ C02: what was decoded from `pre ++ rest` is re-encoded as `pre` and decodes again to the same value in front of
any other suffix. -/
theorem tl1_decode_stable_on (cfg : Cfg) (d : Desc) (S : Nat → Bool) (hcl : d.closed S = true)
    (hnd : d.allOn S (fun i => !i.isDict) = true) (hnb : d.allOn S (fun i => !i.isBitPrim) = true)
    (hrt : d.allOn S (Inst.rtOk d) = true)
    (hs : cfg.sanity = false ∨ d.allOn S (Inst.elemMin4 d) = true)
    (fuel ty : Nat) (bare : Bool) (params : List Nat) (bs : Bytes) (v : Val) (rest : Bytes)
    (hS : S ty = true) (h : readTL1 cfg d fuel ty bare params bs = .ok (v, rest)) :
    ∃ pre, bs = pre ++ rest ∧ writeTL1 d fuel ty bare params v = .ok pre ∧
      ∀ rest', readTL1 cfg d fuel ty bare params (pre ++ rest') = .ok (v, rest') := by
  obtain ⟨pre, e, hw⟩ := C02.tl1_canonical_on cfg d S hcl hnd hnb fuel ty bare params bs v rest hS h
  exact ⟨pre, e, hw, tl1_roundtrip_partial_on cfg d S hcl hrt hs fuel ty bare params v pre hS
    (tl1_read_normal_on cfg d S hcl hnd hnb fuel ty bare params bs v rest hS h) hw⟩

/-- for any two fuels -/
theorem minSize_sound (d : Desc) (g fuel ty : Nat) (bare : Bool) (params : List Nat) (v : Val) (bs : Bytes)
    (hw : writeTL1 d fuel ty bare params v = .ok bs) : minSize d g ty bare ≤ bs.length :=
  Codec.minSize_sound d g fuel ty bare params v bs hw

/-- `holder xs:(vector true)`, 3 elements: written as tag ++ `03000000`; the reader answers EOF. -/
theorem tl1_roundtrip_fails_with_sanity_at : ¬ TL1RoundTripStatement { sanity := true } Ex.zeroSize := by
  intro h
  obtain ⟨v', hr, _⟩ := h 3 2 false [] Ex.zeroSizeVal _ rfl []
  cases hr

example : writeTL1 Ex.zeroSize 2 1 true [] (.arr [.struct [], .struct [], .struct []]) = .ok [3, 0, 0, 0] := by rfl
example : readTL1 { sanity := true } Ex.zeroSize 2 1 true [] [3, 0, 0, 0] = .error .eof := by rfl
example : readTL1 { sanity := false } Ex.zeroSize 2 1 true [] [3, 0, 0, 0]
    = .ok (.arr [.struct [], .struct [], .struct []], []) := by rfl
example : Ex.zeroSize.elemMin4 = false ∧ Ex.zeroSize.rtOk = true := by decide

/-- `opt m:# n:m.0?# xs:n*[int]` with `m = 0` but `n = 2` stored: the writer emits 2 elements,
the reader (seeing `n` masked out, hence 0) reads none. Not `Normal`; fails even without the sanity check. -/
theorem tl1_roundtrip_fails_without_normal_at : ¬ TL1RoundTripStatement { sanity := false } Ex.optD := by
  intro h
  obtain ⟨v', hr, _⟩ := h 3 3 true [] (.struct [some (.nat 0), some (.nat 2), some (.arr [.nat 1, .nat 2])]) _ rfl []
  -- twelve bytes written, four read: the rest is not empty
  cases hr

example : ¬ Normal Ex.optD 3 3 true [] (.struct [some (.nat 0), some (.nat 2), some (.arr [.nat 1, .nat 2])]) := by
  decide

/-- a tuple whose length differs from its size (constant, or nat parameter 0) is never written -/
theorem tl1_write_rejects_bad_sizes (d : Desc) (fuel ty : Nat) (bare : Bool) (params : List Nat) (a : ArrayD)
    (es : List Val) (na : List Nat) (n : Nat)
    (hg : d.get? ty = some (.array a)) (ht : a.isTuple = true)
    (hna : natArgVals [] params a.elem.natArgs = some na)
    (hn : (if a.dynamic then params[0]? else some a.count) = some n)
    (hl : es.length ≠ n) :
    writeTL1 d (fuel + 1) ty bare params (.arr es) = .error .shape := by
  rw [writeTL1_tuple hg ht hna hn, if_pos hl]

/-- whatever the descriptor says about nat arguments, bytes are never produced for such a value -/
theorem tl1_write_rejects_bad_sizes_never_bytes (d : Desc) (fuel ty : Nat) (bare : Bool) (params : List Nat)
    (a : ArrayD) (es : List Val) (n : Nat)
    (hg : d.get? ty = some (.array a)) (ht : a.isTuple = true)
    (hn : (if a.dynamic then params[0]? else some a.count) = some n)
    (hl : es.length ≠ n) (bs : Bytes) :
    writeTL1 d fuel ty bare params (.arr es) ≠ .ok bs := by
  intro h
  cases fuel with
  | zero => cases h
  | succ fuel =>
    obtain ⟨es', na, b, e, hna, _⟩ := writeTL1_array_ok hg h
    cases e
    rw [tl1_write_rejects_bad_sizes d fuel ty bare params a es na n hg ht hna hn hl] at h
    cases h

/-- at the level of the enclosing struct: `tup n:# xs:n*[int]` with `n = 3` and two elements -/
example : writeTL1 Ex.tupD 3 3 false [] (.struct [some (.nat 3), some (.arr [.nat 1, .nat 2])]) = .error .shape := by rfl
example : writeTL1 Ex.tupD 3 3 false [] (.struct [some (.nat 2), some (.arr [.nat 1, .nat 2])])
    = .ok [2, 0, 0, 0,  2, 0, 0, 0,  1, 0, 0, 0,  2, 0, 0, 0] := by rfl

example : Ex.demo.rtOk = true ∧ Ex.demo.elemMin4 = true := by decide
example : Normal Ex.demo 3 4 false [] Ex.demoVal := by decide
example : ∀ rest, readTL1 { sanity := true } Ex.demo 3 4 false [] (Ex.demoBytes ++ rest) = .ok (Ex.demoVal, rest) :=
  tl1_roundtrip_partial _ Ex.demo (by decide) (Or.inr (by decide)) 3 4 false [] _ _ (by decide) (by rfl)
/-- `zeroSize` is not `elemMin4`, but its instance 0 (`true`) reaches no array: the theorem applies there with sanity on -/
example : Ex.zeroSize.closed (Ex.zeroSize.reach 0) = true ∧
    Ex.zeroSize.allOn (Ex.zeroSize.reach 0) (Inst.elemMin4 Ex.zeroSize) = true := by decide
example : Ex.unionD.rtOk = true ∧ Ex.tupD.rtOk = true ∧ Ex.optD.rtOk = true ∧ Ex.dictD.rtOk = true := by decide
example : Normal Ex.unionD 2 3 false [] (.union 1 (.struct [])) := by decide
example : Normal Ex.dictD 3 2 true [] (.arr [.struct [some (.nat 1), some (.nat 3)], .struct [some (.nat 2), some (.nat 0)]]) := by
  decide

end TLVerif.Props.C01
