import TLVerif.Codec.TL1Lemmas
import TLVerif.Codec.TL1Canon
import TLVerif.Props.C33
/-!
# C11 — wire formats match an independent reference codec (TL1 part)

The reference implementation of the documented TL1 format **is** the Lean codec `TLVerif/Codec/TL1.lean`
(`readTL1` / `writeTL1` over a schema descriptor).  In the check `checks/C11.py` it is driven by the descriptor
that the random schema generator `checks/schemagen.py` computes from its own AST (never by the kernel's type
resolution) and compared, byte for byte and on the accepted set, with the code `tl2gen` generates.

This file makes the reference's conformance to the documents reviewable: each lemma states one rule of
`docs/tldoc.ru.md` outright, as an equation about `readTL1`/`writeTL1` (so whatever else the model does, it
does *this*):

* numbers are little-endian, 4 or 8 bytes (`nat_little_endian`, `long_little_endian`, `read_nat_little_endian`);
* strings shorter than 2^24 bytes: 1-byte / `0xfe`+3 length header, the bytes, zero padding to 4 (`string_layout`, from C33;
  the `0xff`+7 header of longer ones is `Props.C33.string_header_layout`);
* boxed = constructor tag ++ bare (`boxed_is_tag_then_bare`, `boxed_read_is_tag_then_bare`);
* a constructor body is its fields in order (`struct_is_fields_in_order`); a field under a mask is present iff
  the bit of the mask value is set and otherwise occupies no bytes (`field_present_iff_mask_bit`,
  `field_absent_writes_nothing`, `read_field_skipped_iff_bit_clear`);
* `vector` / `# [T]` = 32-bit count ++ elements; `n*[T]` / `tuple` = elements only, count supplied from outside
  (`vector_is_count_then_elements`, `tuple_is_elements_only`, …);
* a union value = tag of the variant's constructor ++ its fields; an unknown tag is rejected
  (`union_is_variant_tag_then_fields`, `union_read_selects_by_tag`, `union_read_rejects_unknown_tag`);
* `Bool` = one of its two constructor tags (`bool_is_tag`, `bool_read_only_its_tags`);
* dictionaries = count ++ `{key,value}` elements (`dict_is_count_then_pairs`); `Maybe` (`maybe_layout`);
* the worked examples of the document evaluate to the documented bytes (`int_example`, `point_example`,
  `masked_point_example`, `string_example`).

TL2: the check also ties generated TL2 code against `Codec/TL2.lean` driven by the generator's descriptor
(`checks/C11.py`, sparse values over wide constructors). The TL2 shape rules (varlen sizes, per-object presence masks with the
variant-index bit, packed bit arrays, counted arrays, key/value dictionaries; DESIGN Appendix A) are not stated as lemmas in this
file; `Props/C33.lean` has the varlen size lemmas, `Props/C03.lean`/`C13.lean` the round-trip / evolution theorems.
-/
namespace TLVerif.Props.C11
open TLVerif.Prim TLVerif.Codec

/-- 32-bit numbers (`#`, `int`, `float` bit pattern): four bytes, least significant first. -/
theorem nat_little_endian (n : Nat) :
    (u32le n).map UInt8.toNat = [n % 256, n / 256 % 256, n / 65536 % 256, n / 16777216 % 256] := by
  simp [u32le, byteOf, Nat.shiftRight_eq_div_pow]

/-- 64-bit numbers (`long`, `double` bit pattern): eight bytes, least significant first. -/
theorem long_little_endian (n : Nat) :
    (u64le n).map UInt8.toNat = [n % 256, n / 256 % 256, n / 65536 % 256, n / 16777216 % 256,
      n / 4294967296 % 256, n / 1099511627776 % 256, n / 281474976710656 % 256, n / 72057594037927936 % 256] := by
  simp only [u64le, u32le, byteOf, Nat.shiftRight_eq_div_pow, List.map_cons, List.map_nil,
    UInt8.toNat_ofNat', Nat.reducePow, List.cons_append, List.nil_append, Nat.div_div_eq_div_mul, Nat.reduceMul]

/-- the writer of a 32-bit primitive emits exactly those four bytes, bare (a primitive has no boxed form of its own) -/
theorem nat_write (d : Desc) (fuel ty : Nat) (bare : Bool) (params : List Nat) (n : Nat) (k : PrimK)
    (hk : k = .u32 ∨ k = .i32 ∨ k = .f32) (h : d.get? ty = some (.prim k)) :
    writeTL1 d (fuel + 1) ty bare params (.nat n) = .ok (u32le n) := by
  rw [writeTL1_prim h]
  rcases hk with rfl | rfl | rfl <;> rfl

theorem long_write (d : Desc) (fuel ty : Nat) (bare : Bool) (params : List Nat) (n : Nat) (k : PrimK)
    (hk : k = .u64 ∨ k = .i64 ∨ k = .f64) (h : d.get? ty = some (.prim k)) :
    writeTL1 d (fuel + 1) ty bare params (.nat n) = .ok (u64le n) := by
  rw [writeTL1_prim h]
  rcases hk with rfl | rfl | rfl <;> rfl

/-- reading a 32-bit number: four bytes, least significant first; fewer than four bytes is an unexpected EOF -/
theorem read_nat_little_endian (cfg : Cfg) (d : Desc) (fuel ty : Nat) (bare : Bool) (params : List Nat)
    (h : d.get? ty = some (.prim .u32)) :
    (∀ a b c e rest, readTL1 cfg d (fuel + 1) ty bare params (a :: b :: c :: e :: rest) =
        .ok (.nat (a.toNat + 256 * b.toNat + 65536 * c.toNat + 16777216 * e.toNat), rest)) ∧
    (∀ bs, bs.length < 4 → readTL1 cfg d (fuel + 1) ty bare params bs = .error .eof) := by
  refine ⟨fun a b c e rest => ?_, fun bs hl => ?_⟩
  · simp only [readTL1, h, readPrim, readU32, Nat.shiftLeft_eq, Nat.reducePow, Except.map]
    rw [Nat.mul_comm b.toNat, Nat.mul_comm c.toNat, Nat.mul_comm e.toNat]
  · simp only [readTL1, h, readPrim]
    match bs, hl with
    | [], _ | [_], _ | [_, _], _ | [_, _, _], _ => rfl
    | _ :: _ :: _ :: _ :: _, hl => exact absurd hl (by simp)

/-- strings: the writer of the model is `basictl.StringWrite`, whose layout is the documented one
(`Props.C33.string_header_layout`): header, the bytes, then zero bytes up to a multiple of four. -/
theorem string_layout (d : Desc) (fuel ty : Nat) (bare : Bool) (params : List Nat) (s : Bytes)
    (h : d.get? ty = some (.prim .str)) (hl : s.length < 2 ^ 24) :
    ∃ hdr pad, writeTL1 d (fuel + 1) ty bare params (.str s) = .ok (hdr ++ s ++ zeros pad) ∧
      (hdr ++ s ++ zeros pad).length % 4 = 0 ∧ pad < 4 ∧
      (s.length ≤ 253 → hdr = [byteOf s.length]) ∧
      (253 < s.length → hdr = [254, byteOf s.length, byteOf (s.length >>> 8), byteOf (s.length >>> 16)]) := by
  obtain ⟨h1, h2, _⟩ := Props.C33.string_header_layout s.length
  obtain ⟨hdr, q, e, hh⟩ : ∃ hdr q, stringWriteLen s.length = some (hdr, q % 4) ∧
      (s.length ≤ 253 → hdr = [byteOf s.length]) ∧
      (253 < s.length → hdr = [254, byteOf s.length, byteOf (s.length >>> 8), byteOf (s.length >>> 16)]) := by
    by_cases c : s.length ≤ 253
    · exact ⟨_, _, h1 c, fun _ => rfl, fun c' => by omega⟩
    · exact ⟨_, _, h2 (by omega) hl, fun c' => absurd c' c, fun _ => rfl⟩
  have hs : stringWrite s = some (hdr ++ s ++ zeros (paddingLen q)) := by simp only [stringWrite, e, writePadding_zeros]
  exact ⟨hdr, _, by simp only [writeTL1, h, writePrim, hs], string_write_aligned s _ hs, Nat.mod_lt _ (by decide), hh⟩

/-- `Bool` is written as the tag of `boolTrue` or of `boolFalse` -/
theorem bool_is_tag (d : Desc) (fuel ty : Nat) (bare : Bool) (params : List Nat) (f t : Nat) (b : Bool)
    (h : d.get? ty = some (.prim (.bool f t))) :
    writeTL1 d (fuel + 1) ty bare params (.bool b) = .ok (u32le (if b then t else f)) :=
  writeTL1_prim h _

/-- …and the reader accepts exactly these two words -/
theorem bool_read_only_its_tags (cfg : Cfg) (d : Desc) (fuel ty : Nat) (bare : Bool) (params : List Nat) (f t w : Nat) (rest : Bytes)
    (h : d.get? ty = some (.prim (.bool f t))) (hw : w < 4294967296) :
    readTL1 cfg d (fuel + 1) ty bare params (u32le w ++ rest) =
      if w = f then .ok (.bool false, rest) else if w = t then .ok (.bool true, rest) else .error .rej := by
  simp only [readTL1, h, readPrim, readU32_u32le_lt hw]

/-- boxed form of a constructor = its 32-bit tag, then the bare form -/
theorem boxed_is_tag_then_bare (d : Desc) (fuel ty : Nat) (s : StructD) (params : List Nat) (v : Val) (b : Bytes)
    (hg : d.get? ty = some (.struct s)) (h : writeTL1 d fuel ty true params v = .ok b) :
    writeTL1 d fuel ty false params v = .ok (u32le s.tag ++ b) :=
  writeTL1_boxed_of_bare hg h

/-- reading boxed = reading exactly the tag, then reading bare; another first word is rejected, not skipped -/
theorem boxed_read_is_tag_then_bare (cfg : Cfg) (d : Desc) (fuel ty : Nat) (s : StructD) (params : List Nat) (bs : Bytes)
    (hg : d.get? ty = some (.struct s)) (ht : s.tag < 4294967296) :
    readTL1 cfg d (fuel + 1) ty false params (u32le s.tag ++ bs) = readTL1 cfg d (fuel + 1) ty true params bs ∧
    ∀ w, w < 4294967296 → w ≠ s.tag → readTL1 cfg d (fuel + 1) ty false params (u32le w ++ bs) = .error .rej := by
  constructor
  · simp only [readTL1, hg, Bool.false_eq_true, if_false, if_true, readExactTag_ok ht]
  · intro w hw hne
    have : w % 4294967296 ≠ s.tag := by rw [Nat.mod_eq_of_lt hw]; exact hne
    simp only [readTL1, hg, Bool.false_eq_true, if_false, readExactTag_wrong this]

/-- a field is present iff the bit of its mask value is set (`m.b?T`: bit `b` of `m`, i.e. `m / 2^b` is odd);
a field without a mask is always present -/
theorem field_present_iff_mask_bit (f : Field) (acc : List (Option Val)) (params : List Nat) :
    (f.mask = none → fieldPresent f acc params = some true) ∧
    (∀ a bit m, f.mask = some (a, bit) → natArgVal acc params a = some m →
      fieldPresent f acc params = some (m / 2 ^ bit % 2 == 1)) := by
  constructor
  · intro h; simp [fieldPresent, h]
  · intro a bit m h hm
    simp [fieldPresent, h, hm, testBit]

/-- the mask value is: a constant, the value of the earlier `#` field (0 when that field is itself absent), or the
nat parameter handed in from outside -/
theorem mask_value_sources (acc : List (Option Val)) (params : List Nat) :
    (∀ n, natArgVal acc params (.num n) = some n) ∧
    (∀ i, natArgVal acc params (.param i) = params[i]?) ∧
    (∀ i n, acc[i]? = some (some (.nat n)) → natArgVal acc params (.field i) = some n) ∧
    (∀ i, acc[i]? = some none → natArgVal acc params (.field i) = some 0) := by
  refine ⟨fun _ => rfl, fun _ => rfl, fun i n h => ?_, fun i h => ?_⟩ <;> simp [natArgVal, h]

/-- writer: a field whose bit is clear occupies no bytes -/
theorem field_absent_writes_nothing (wr : Wr) (params : List Nat) (all : List (Option Val)) (f : Field) (fs : List Field)
    (v : Option Val) (vs : List (Option Val)) (na : List Nat)
    (hp : fieldPresent f all params = some false) (hn : natArgVals all params f.natArgs = some na) :
    writeFieldsWith wr params all (f :: fs) (v :: vs) = writeFieldsWith wr params all fs vs := by
  simp only [writeFieldsWith, hp, hn]

/-- writer: a constructor body is the encodings of its present fields, in declaration order, with the nat arguments
of each field evaluated from the constants / earlier `#` fields / outer parameters -/
theorem struct_is_fields_in_order (wr : Wr) (params : List Nat) (all : List (Option Val)) (f : Field) (fs : List Field)
    (x : Val) (vs : List (Option Val)) (na : List Nat) (b bs : Bytes)
    (hp : fieldPresent f all params = some true) (hn : natArgVals all params f.natArgs = some na)
    (h1 : wr f.ty f.bare na x = .ok b) (h2 : writeFieldsWith wr params all fs vs = .ok bs) :
    writeFieldsWith wr params all (f :: fs) (some x :: vs) = .ok (b ++ bs) := by
  simp only [writeFieldsWith, hp, hn, h1, h2]

/-- the struct writer is the field loop over all fields, after the tag when boxed -/
theorem struct_write_unfold (d : Desc) (fuel ty : Nat) (s : StructD) (bare : Bool) (params : List Nat) (fs : List (Option Val)) (b : Bytes)
    (hg : d.get? ty = some (.struct s)) (h : writeFieldsWith (writeTL1 d fuel) params fs s.fields fs = .ok b) :
    writeTL1 d (fuel + 1) ty bare params (.struct fs) = .ok ((if bare then [] else u32le s.tag) ++ b) := by
  rw [writeTL1_struct hg, h]; rfl

/-- reader: a field whose bit is clear consumes nothing and is recorded as absent; a present field is read by the
reader of its type with its nat arguments, and reading continues after it -/
theorem read_field_skipped_iff_bit_clear (rd : Rd) (params : List Nat) (f : Field) (fs : List Field)
    (acc : List (Option Val)) (bs : Bytes) (na : List Nat) (hn : natArgVals acc params f.natArgs = some na) :
    (fieldPresent f acc params = some false →
      readFieldsWith rd params (f :: fs) acc bs = readFieldsWith rd params fs (acc ++ [none]) bs) ∧
    (fieldPresent f acc params = some true → ∀ v bs', rd f.ty f.bare na bs = .ok (v, bs') →
      readFieldsWith rd params (f :: fs) acc bs = readFieldsWith rd params fs (acc ++ [some v]) bs') := by
  constructor
  · intro hp; simp only [readFieldsWith, hp, hn]
  · intro hp v bs' h; simp only [readFieldsWith, hp, hn, h]

theorem elements_concatenate (wr : Wr) (f : Field) (na : List Nat) (v : Val) (vs : List Val) (b bs : Bytes)
    (h1 : wr f.ty f.bare na v = .ok b) (h2 : writeElemsWith wr f na vs = .ok bs) :
    writeElemsWith wr f na (v :: vs) = .ok (b ++ bs) ∧ writeElemsWith wr f na [] = .ok [] := by
  simp only [writeElemsWith, h1, h2, and_self]

/-- `vector T` / `# [T]`: 32-bit element count, then the elements -/
theorem vector_is_count_then_elements (d : Desc) (fuel ty : Nat) (a : ArrayD) (bare : Bool) (params na : List Nat) (es : List Val) (b : Bytes)
    (hg : d.get? ty = some (.array a)) (ht : a.isTuple = false) (hn : natArgVals [] params a.elem.natArgs = some na)
    (hl : es.length < 2 ^ 32) (h : writeElemsWith (writeTL1 d fuel) a.elem na es = .ok b) :
    writeTL1 d (fuel + 1) ty bare params (.arr es) = .ok (u32le es.length ++ b) := by
  rw [writeTL1_vector hg ht hn, if_neg (Nat.not_le.mpr hl), h]; rfl

/-- reading a vector: the count word, then exactly that many elements (with `--checkLengthSanity` a count larger than a
quarter of the remaining input is reported as unexpected EOF before anything is allocated) -/
theorem vector_read_is_count_then_elements (cfg : Cfg) (d : Desc) (fuel ty : Nat) (a : ArrayD) (bare : Bool) (params na : List Nat)
    (n : Nat) (bs : Bytes) (hg : d.get? ty = some (.array a)) (ht : a.isTuple = false)
    (hn : natArgVals [] params a.elem.natArgs = some na) (hl : n < 4294967296) :
    readTL1 cfg d (fuel + 1) ty bare params (u32le n ++ bs) =
      if sanityOk cfg bs n then (readElemsWith (readTL1 cfg d fuel) a.elem na n bs).map (fun (vs, r) => (.arr vs, r))
      else .error .eof := by
  simp only [readTL1, hg, hn, ht, Bool.false_eq_true, if_false, readU32_u32le_lt hl]
  by_cases c : sanityOk cfg bs n <;> simp [c]

/-- `n*[T]` / `tuple T n`: the elements only — the count is not on the wire, it is the constant, the `#` field or the
nat parameter the schema names -/
theorem tuple_is_elements_only (d : Desc) (fuel ty : Nat) (a : ArrayD) (bare : Bool) (params na : List Nat) (es : List Val) (n : Nat)
    (hg : d.get? ty = some (.array a)) (ht : a.isTuple = true) (hn : natArgVals [] params a.elem.natArgs = some na)
    (hc : (if a.dynamic then params[0]? else some a.count) = some n) (hl : es.length = n) :
    writeTL1 d (fuel + 1) ty bare params (.arr es) = writeElemsWith (writeTL1 d fuel) a.elem na es := by
  rw [writeTL1_tuple hg ht hn hc, if_neg (fun c => c hl)]

/-- a value whose length differs from the count the schema supplies is refused by the writer (never written short or long) -/
theorem tuple_write_needs_exact_count (d : Desc) (fuel ty : Nat) (a : ArrayD) (bare : Bool) (params na : List Nat) (es : List Val) (n : Nat)
    (hg : d.get? ty = some (.array a)) (ht : a.isTuple = true) (hn : natArgVals [] params a.elem.natArgs = some na)
    (hc : (if a.dynamic then params[0]? else some a.count) = some n) (hl : es.length ≠ n) :
    writeTL1 d (fuel + 1) ty bare params (.arr es) = .error .shape := by
  rw [writeTL1_tuple hg ht hn hc, if_pos hl]

/-- reading a fixed tuple: exactly `count` elements, no count word -/
theorem tuple_read_is_elements_only (cfg : Cfg) (d : Desc) (fuel ty : Nat) (a : ArrayD) (bare : Bool) (params na : List Nat) (bs : Bytes)
    (hg : d.get? ty = some (.array a)) (ht : a.isTuple = true) (hd : a.dynamic = false)
    (hn : natArgVals [] params a.elem.natArgs = some na) :
    readTL1 cfg d (fuel + 1) ty bare params bs =
      (readElemsWith (readTL1 cfg d fuel) a.elem na a.count bs).map (fun (vs, r) => (.arr vs, r)) := by
  simp only [readTL1, hg, ht, hd, hn, if_true, Bool.false_eq_true, if_false, Bool.false_and]

/-- map-backed dictionaries travel as a vector of `{key,value}` elements: count, then the pairs -/
theorem dict_is_count_then_pairs (d : Desc) (fuel ty : Nat) (a : ArrayD) (bare : Bool) (params na : List Nat) (es : List Val) (b : Bytes)
    (hg : d.get? ty = some (.dict a)) (hn : natArgVals [] params a.elem.natArgs = some na)
    (hl : es.length < 2 ^ 32) (h : writeElemsWith (writeTL1 d fuel) a.elem na es = .ok b) :
    writeTL1 d (fuel + 1) ty bare params (.arr es) = .ok (u32le es.length ++ b) := by
  rw [writeTL1_dict hg hn, if_neg (Nat.not_le.mpr hl), h]; rfl

/-- a union value is the *boxed* form of the chosen constructor: its tag, then its fields (a union has no bare form:
the `bare` flag of the reference is irrelevant) -/
theorem union_is_variant_tag_then_fields (d : Desc) (fuel ty : Nat) (u : UnionD) (s : StructD) (bare : Bool) (params na : List Nat)
    (i vi : Nat) (nm : String) (x : Val) (b : Bytes)
    (hg : d.get? ty = some (.union u)) (hv : u.variants[i]? = some (vi, nm)) (hs : d.get? vi = some (.struct s))
    (hn : natArgVals [] params u.elemNatArgs = some na) (h : writeTL1 d fuel vi true na x = .ok b) :
    writeTL1 d (fuel + 1) ty bare params (.union i x) = .ok (u32le s.tag ++ b) := by
  rw [writeTL1_union hg hv hn]
  exact writeTL1_boxed_of_bare hs h

/-- reading a union: the first word selects the constructor whose tag it is, whose fields follow -/
theorem union_read_selects_by_tag (cfg : Cfg) (d : Desc) (fuel ty : Nat) (u : UnionD) (bare : Bool) (params na : List Nat)
    (w i vi : Nat) (bs : Bytes) (hg : d.get? ty = some (.union u)) (hw : w < 4294967296)
    (hf : findVariant d w u.variants 0 = some (i, vi)) (hn : natArgVals [] params u.elemNatArgs = some na) :
    readTL1 cfg d (fuel + 1) ty bare params (u32le w ++ bs) =
      (readTL1 cfg d fuel vi true na bs).map (fun (v, r) => (.union i v, r)) := by
  simp only [readTL1, hg, readU32_u32le_lt hw, hf, hn]
  cases readTL1 cfg d fuel vi true na bs with
  | error e => rfl
  | ok p => rfl

theorem union_read_rejects_unknown_tag (cfg : Cfg) (d : Desc) (fuel ty : Nat) (u : UnionD) (bare : Bool) (params : List Nat)
    (w : Nat) (bs : Bytes) (hg : d.get? ty = some (.union u)) (hw : w < 4294967296)
    (hf : findVariant d w u.variants 0 = none) :
    readTL1 cfg d (fuel + 1) ty bare params (u32le w ++ bs) = .error .rej := by
  simp only [readTL1, hg, readU32_u32le_lt hw, hf]

def fld (name : String) (ty : Nat) (bare : Bool := true) (mask : Option (NatArg × Nat) := none)
    (natArgs : List NatArg := []) : Field :=
  { name, ty, bare, mask, tl2bit := none, isBit := false, natArgs }

/-- 0 `int`, 1 `Int` (`int#a8509bda ? = Int`), 2 `point#e3fe70f4 x:int y:int = Point`,
3 `pointB#e3fe70f5 x:Int y:Int = PointB`, 4 `#`, 5 `point fields_mask:# x:fields_mask.0?int y:fields_mask.1?int z:fields_mask.2?int`,
6 `string`, 7 `resultFalse#27930a7b`, 8 `resultTrue#3f9c8ef8 int`, 9 `Maybe int`, 10 `vector int`, 11 `Vector int` (#1cb5c415),
12 `3*[point]`, 13 `triangle color:int a:3*[point]` -/
def docD : Desc := { insts := #[
  .prim .i32,
  .struct { tag := 0xa8509bda, nparams := 0, fields := [fld "" 0] },
  .struct { tag := 0xe3fe70f4, nparams := 0, fields := [fld "x" 0, fld "y" 0] },
  .struct { tag := 0xe3fe70f5, nparams := 0, fields := [fld "x" 1 (bare := false), fld "y" 1 (bare := false)] },
  .prim .u32,
  .struct { tag := 0x1, nparams := 0, fields := [fld "fields_mask" 4, fld "x" 0 (mask := some (.field 0, 0)),
    fld "y" 0 (mask := some (.field 0, 1)), fld "z" 0 (mask := some (.field 0, 2))] },
  .prim .str,
  .struct { tag := 0x27930a7b, nparams := 0, fields := [], isUnionElement := true },
  .struct { tag := 0x3f9c8ef8, nparams := 0, fields := [fld "" 0], isUnionElement := true, unionIndex := 1 },
  .union { variants := [(7, "resultFalse"), (8, "resultTrue")], elemNatArgs := [], nparams := 0, isEnum := false, isMaybe := true, hasTL2 := false },
  .array { isTuple := false, dynamic := false, count := 0, nparams := 0, elem := fld "" 0, hasTL2 := false },
  .struct { tag := 0x1cb5c415, nparams := 0, fields := [fld "" 10] },
  .array { isTuple := true, dynamic := false, count := 3, nparams := 0, elem := fld "" 2, hasTL2 := false },
  .struct { tag := 0x2, nparams := 0, fields := [fld "color" 0, fld "a" 12] } ] }

/-- «При сериализации int 5 получится [05 00 00 00]», «Int 5 → [da 9b 50 a8] [05 00 00 00]» -/
theorem int_example :
    writeTL1 docD 5 0 true [] (.nat 5) = .ok [5, 0, 0, 0] ∧
    writeTL1 docD 5 1 false [] (.struct [some (.nat 5)]) = .ok [0xda, 0x9b, 0x50, 0xa8, 5, 0, 0, 0] := by
  constructor <;> rfl

/-- «point 5 0 → [05 00 00 00] [00 00 00 00]», «Point 5 0 → [f4 70 fe e3] …», «PointB 5 0 → [f5 70 fe e3] [da 9b 50 a8] [05 …] [da 9b 50 a8] [00 …]»,
and the reader inverts each of them -/
theorem point_example :
    writeTL1 docD 5 2 true [] (.struct [some (.nat 5), some (.nat 0)]) = .ok [5, 0, 0, 0, 0, 0, 0, 0] ∧
    writeTL1 docD 5 2 false [] (.struct [some (.nat 5), some (.nat 0)]) = .ok [0xf4, 0x70, 0xfe, 0xe3, 5, 0, 0, 0, 0, 0, 0, 0] ∧
    writeTL1 docD 5 3 false [] (.struct [some (.struct [some (.nat 5)]), some (.struct [some (.nat 0)])]) =
      .ok [0xf5, 0x70, 0xfe, 0xe3, 0xda, 0x9b, 0x50, 0xa8, 5, 0, 0, 0, 0xda, 0x9b, 0x50, 0xa8, 0, 0, 0, 0] ∧
    readTL1 {} docD 5 2 false [] [0xf4, 0x70, 0xfe, 0xe3, 5, 0, 0, 0, 0, 0, 0, 0, 9] = .ok (.struct [some (.nat 5), some (.nat 0)], [9]) := by
  refine ⟨?_, ?_, ?_, ?_⟩ <;> rfl

/-- «point 7 5 0 2 → [07 …] [05 …] [00 …] [02 …]», «point 1 5 0 0 → [01 00 00 00] [05 00 00 00]», «point 0 … → [00 00 00 00]»:
absent fields occupy no bytes; the reader leaves them absent -/
theorem masked_point_example :
    writeTL1 docD 5 5 true [] (.struct [some (.nat 7), some (.nat 5), some (.nat 0), some (.nat 2)]) =
      .ok [7, 0, 0, 0, 5, 0, 0, 0, 0, 0, 0, 0, 2, 0, 0, 0] ∧
    writeTL1 docD 5 5 true [] (.struct [some (.nat 1), some (.nat 5), none, none]) = .ok [1, 0, 0, 0, 5, 0, 0, 0] ∧
    writeTL1 docD 5 5 true [] (.struct [some (.nat 0), none, none, none]) = .ok [0, 0, 0, 0] ∧
    readTL1 {} docD 5 5 true [] [5, 0, 0, 0, 8, 0, 0, 0, 9, 0, 0, 0] = .ok (.struct [some (.nat 5), some (.nat 8), none, some (.nat 9)], []) := by
  refine ⟨?_, ?_, ?_, ?_⟩ <;> rfl

/-- «[04 k e y] [s 00 00 00]» — a 4-byte string: one length byte, the bytes, padding to a multiple of four -/
theorem string_example :
    writeTL1 docD 5 6 true [] (.str [0x6b, 0x65, 0x79, 0x73]) = .ok [4, 0x6b, 0x65, 0x79, 0x73, 0, 0, 0] ∧
    writeTL1 docD 5 6 true [] (.str []) = .ok [0, 0, 0, 0] ∧
    readTL1 {} docD 5 6 true [] [3, 0x6b, 0x65, 0x79] = .ok (.str [0x6b, 0x65, 0x79], []) ∧
    readTL1 {} docD 5 6 true [] [2, 0x6b, 0x65, 1] = .error .rej := by
  refine ⟨?_, ?_, ?_, ?_⟩ <;> rfl

/-- `Maybe int`: `resultFalse` is its tag alone, `resultTrue x` is its tag then `x`; «vector int [5, 0] → [02 …] [05 …] [00 …]»,
«Vector int [5, 0] → [15 c4 b5 1c] [02 …] …»; «triangle 127 [(point 5 0) (point 1 3) (point 6 4)]» has no count on the wire -/
theorem maybe_layout :
    writeTL1 docD 5 9 false [] (.union 0 (.struct [])) = .ok [0x7b, 0x0a, 0x93, 0x27] ∧
    writeTL1 docD 5 9 false [] (.union 1 (.struct [some (.nat 5)])) = .ok [0xf8, 0x8e, 0x9c, 0x3f, 5, 0, 0, 0] ∧
    readTL1 {} docD 5 9 false [] [0xf8, 0x8e, 0x9c, 0x3f, 5, 0, 0, 0] = .ok (.union 1 (.struct [some (.nat 5)]), []) ∧
    readTL1 {} docD 5 9 false [] [0xf9, 0x8e, 0x9c, 0x3f, 5, 0, 0, 0] = .error .rej ∧
    writeTL1 docD 5 10 true [] (.arr [.nat 5, .nat 0]) = .ok [2, 0, 0, 0, 5, 0, 0, 0, 0, 0, 0, 0] ∧
    writeTL1 docD 5 11 false [] (.struct [some (.arr [.nat 5, .nat 0])]) = .ok [0x15, 0xc4, 0xb5, 0x1c, 2, 0, 0, 0, 5, 0, 0, 0, 0, 0, 0, 0] ∧
    writeTL1 docD 5 13 true [] (.struct [some (.nat 127), some (.arr [.struct [some (.nat 5), some (.nat 0)],
        .struct [some (.nat 1), some (.nat 3)], .struct [some (.nat 6), some (.nat 4)]])]) =
      .ok [0x7f, 0, 0, 0, 5, 0, 0, 0, 0, 0, 0, 0, 1, 0, 0, 0, 3, 0, 0, 0, 6, 0, 0, 0, 4, 0, 0, 0] := by
  refine ⟨?_, ?_, ?_, ?_, ?_, ?_, ?_⟩ <;> rfl

end TLVerif.Props.C11
