import TLVerif.Tlomig.GenTloLemmas
import TLVerif.Tlomig.TlsLemmas
/-!
C26 — TLO output describes the schema faithfully.

Full-strength statement: for every accepted TL1 schema `cs` (the combinators `Kernel.TL1()` hands to `GenerateTLO`)
and timestamp, the produced TLO lists every constructor and every function exactly once with its tag and name, every
type exactly once with arity, parameter kinds, constructor count and name = XOR of its constructor tags, and the
bytes decode back to the same description.

Two parts of it fail on the unchanged code (both reproduced by the check on every run, see known_findings.json):
* a builtin wrapper declared with a non-standard tag (`int#deadbeef ? = Int;`, accepted by the kernel) is listed
  with the hard-coded tag: `builtin_tag_fails_at`;
* a user type named `Type` (accepted by the kernel) is merged into the predeclared pseudo-type entry, whose name
  starts at `typeTag`: `type_name_xor_fails_for_Type`.
The theorems below are therefore stated under the exact decidable guards `builtinsStandard` / `T ≠ "#", "Type"`;
without the guards the weaker, still exact, forms `constructors_listed_once` / `types_listed_once` hold.
-/
namespace TLVerif.Props.C26
open TLVerif.Tlomig TLVerif.Prim

theorem generateTLO_ok (ts now : UInt32) (cs : Schema) (out : SchemaV4) (h : generateTLO ts now cs = .ok out) :
    ∃ k f, convAll ⟨cs, buildTypes cs⟩ cs = .ok (k, f) ∧
      out = { version := ts, date := if ts = 0 then now else ts,
              typesNum := u32 (sortedTypes (buildTypes cs)).length, types := sortedTypes (buildTypes cs),
              constructorNum := u32 k.length, constructors := k,
              functionsNum := u32 (sortBy (fun a b => bytesLt a.id b.id) f).length,
              functions := sortBy (fun a b => bytesLt a.id b.id) f } ∧
      hasDup ((sortedTypes (buildTypes cs)).map (·.name)) = false := by
  unfold generateTLO at h
  simp only at h
  split at h
  · contradiction
  · rename_i k f hc
    split at h
    · contradiction
    · rename_i hd
      simp only [Except.ok.injEq] at h
      exact ⟨k, f, hc, h.symm, by simpa using hd⟩

/-- counts equal the list lengths; version and date are the requested timestamp -/
theorem counts_and_timestamps (ts now : UInt32) (cs : Schema) (out : SchemaV4)
    (h : generateTLO ts now cs = .ok out) :
    out.typesNum = u32 out.types.length ∧ out.constructorNum = u32 out.constructors.length ∧
    out.functionsNum = u32 out.functions.length ∧ out.version = ts ∧ (ts ≠ 0 → out.date = ts) := by
  obtain ⟨k, f, _, ho, _⟩ := generateTLO_ok ts now cs out h
  subst ho
  refine ⟨rfl, rfl, rfl, rfl, ?_⟩
  intro hne
  simp [hne]

/-- Constructors: the list of (tag, name) headers is, in declaration order, exactly the list of the schema's
constructors (and builtin-named combinators, listed under the builtin tag): none missing, none twice, none invented. -/
theorem constructors_listed_once (ts now : UInt32) (cs : Schema) (out : SchemaV4)
    (h : generateTLO ts now cs = .ok out) :
    out.constructors.map hdr = cs.filterMap ctorEntry := by
  obtain ⟨k, f, hc, ho, _⟩ := generateTLO_ok ts now cs out h
  subst ho
  exact (convAll_hdrs _ cs k f hc).1

/-- Functions: the headers are a permutation of the schema's functions (each exactly once). -/
theorem functions_listed_once (ts now : UInt32) (cs : Schema) (out : SchemaV4)
    (h : generateTLO ts now cs = .ok out) :
    (out.functions.map hdr).Perm (cs.filterMap funEntry) := by
  obtain ⟨k, f, hc, ho, _⟩ := generateTLO_ok ts now cs out h
  subst ho
  rw [← (convAll_hdrs _ cs k f hc).2]
  exact (sortBy_spec _ f).1.map hdr

/-- Functions are sorted by id (byte-wise, as Go compares strings): no later id is smaller than an earlier one. -/
theorem functions_sorted (ts now : UInt32) (cs : Schema) (out : SchemaV4)
    (h : generateTLO ts now cs = .ok out) :
    out.functions.Pairwise (fun a b => bytesLt b.id a.id = false) := by
  obtain ⟨k, f, _, ho, _⟩ := generateTLO_ok ts now cs out h
  subst ho
  exact (sortBy_spec (fun a b => bytesLt a.id b.id) f).2 (fun a b => bytesLt_asymm a.id b.id)
    (fun a b c => bytesLt_trans a.id b.id c.id)

/-- guard: builtin wrappers carry the tags `GenerateTLO` hard-codes, and no function is named like a builtin -/
def builtinsStandard (cs : Schema) : Bool :=
  cs.all (fun c => match builtinTag c.name with
    | some t => t == c.tag && !c.isFunction
    | none => true)

theorem filterMap_standard (cs : Schema) (h : builtinsStandard cs = true) :
    cs.filterMap ctorEntry = (cs.filter (fun c => !c.isFunction)).map combHdr ∧
    cs.filterMap funEntry = (cs.filter (fun c => c.isFunction)).map combHdr := by
  induction cs with
  | nil => simp
  | cons c cs ih =>
    simp only [builtinsStandard, List.all_cons, Bool.and_eq_true] at h
    obtain ⟨hc, hrest⟩ := h
    obtain ⟨i1, i2⟩ := ih (by simpa [builtinsStandard] using hrest)
    simp only [List.filterMap_cons, List.filter_cons, ctorEntry, funEntry]
    split at hc
    · rename_i t ht
      simp only [Bool.and_eq_true, beq_iff_eq, Bool.not_eq_true'] at hc
      obtain ⟨h1, h2⟩ := hc
      subst h1
      simp [ht, h2, combHdr, i1, i2]
    · rename_i hn
      cases hf : c.isFunction <;> simp [hn, i1, i2]

/-- C26 (constructors and functions), under the guard: every constructor of the schema is listed exactly once
with *its* tag and name, in declaration order, and the functions are a permutation of the schema's functions. -/
theorem constructor_tag_name (ts now : UInt32) (cs : Schema) (out : SchemaV4)
    (h : generateTLO ts now cs = .ok out) (hb : builtinsStandard cs = true) :
    out.constructors.map hdr = (cs.filter (fun c => !c.isFunction)).map combHdr ∧
    (out.functions.map hdr).Perm ((cs.filter (fun c => c.isFunction)).map combHdr) := by
  obtain ⟨e1, e2⟩ := filterMap_standard cs hb
  exact ⟨e1 ▸ constructors_listed_once ts now cs out h, e2 ▸ functions_listed_once ts now cs out h⟩

/-- Types are listed exactly once: the type list is a permutation of the values of a map with pairwise distinct
keys, each entry carries its key as id, and the keys are `#`, `Type` and the declared type names. -/
theorem types_listed_once (ts now : UInt32) (cs : Schema) (out : SchemaV4)
    (h : generateTLO ts now cs = .ok out) :
    out.types.Perm ((buildTypes cs).map (·.2)) ∧ (keys (buildTypes cs)).Nodup ∧
    (∀ T, T ∈ keys (buildTypes cs) ↔ (T = "#" ∨ T = "Type" ∨ ∃ c ∈ cs, c.isFunction = false ∧ c.typeName = T)) := by
  obtain ⟨k, f, _, ho, _⟩ := generateTLO_ok ts now cs out h
  subst ho
  refine ⟨(sortBy_spec _ _).1.map _, keys_fold_nodup cs initTypes (by decide), fun T => ?_⟩
  rw [buildTypes, mem_keys_fold]
  simp [initTypes, keys, or_assoc]

/-- the entry of a declared type `T` (other than the two predeclared pseudo-types): it is in the list, carries id `T`,
constructor count, the arity and parameter kinds of its first constructor, and name = XOR of its constructor tags -/
theorem type_entry_faithful (ts now : UInt32) (cs : Schema) (out : SchemaV4)
    (h : generateTLO ts now cs = .ok out) (T : String) (h1 : T ≠ "#") (h2 : T ≠ "Type")
    (c : Comb) (rest : List Comb) (hc : ctorsOf cs T = c :: rest) :
    ∃ t, lookupType (buildTypes cs) T = some t ∧ t ∈ out.types ∧ t.id = strBytes T ∧
      t.name = xorTags (ctorsOf cs T) ∧ t.constructorsNum = u32 (ctorsOf cs T).length ∧
      t.arity = u32 c.typeArgs.length ∧ t.paramsType = paramsTypeOf c.targs 0 := by
  obtain ⟨k, f, _, ho, _⟩ := generateTLO_ok ts now cs out h
  subst ho
  have hinit : lookupType initTypes T = none := (lookup_none_iff _ T).mpr (by simp [keys, initTypes, h1, h2])
  have hl : lookupType (buildTypes cs) T = some (applyAll (c :: rest) (freshType c)) := by
    unfold buildTypes
    rw [lookup_fold, hinit, hc]
  have hT : c.typeName = T := by
    have : c ∈ ctorsOf cs T := by rw [hc]; exact List.mem_cons_self
    simp only [ctorsOf, isCtorOf, List.mem_filter, Bool.and_eq_true, beq_iff_eq] at this
    exact this.2.2
  obtain ⟨hn, hk, hi, ha, hp⟩ := applyAll_spec (c :: rest) (freshType c)
  refine ⟨_, hl, ?_, ?_, ?_, ?_, ?_, ?_⟩
  · have hm := lookup_mem _ _ _ hl
    exact ((sortBy_spec _ _).1.map (·.2)).mem_iff.mpr (List.mem_map.mpr ⟨_, hm, rfl⟩)
  · rw [hi]; simp [freshType, hT]
  · rw [hn, hc]; rfl
  · rw [hk, hc]; simp [freshType]
  · rw [ha]; rfl
  · rw [hp]; rfl

/-- C26 (parameter kinds): in the entry of a declared type, bit `i` (`i < 64`) of `params_type` is set iff the
`i`-th template argument of the type's first constructor exists and is a `#` -/
theorem type_param_kinds (ts now : UInt32) (cs : Schema) (out : SchemaV4)
    (h : generateTLO ts now cs = .ok out) (T : String) (h1 : T ≠ "#") (h2 : T ≠ "Type")
    (c : Comb) (rest : List Comb) (hc : ctorsOf cs T = c :: rest) (i : Nat) (hi : i < 64) :
    ∃ t ∈ out.types, t.id = strBytes T ∧
      t.paramsType.toNat.testBit i = ((c.targs[i]?).map (·.isNat)).getD false := by
  obtain ⟨t, _, hin, hid, _, _, _, hp⟩ := type_entry_faithful ts now cs out h T h1 h2 c rest hc
  refine ⟨t, hin, hid, ?_⟩
  rw [hp, paramsTypeOf_testBit c.targs 0 i hi]
  simp

/-- C26 (types): the name of every declared type is the XOR of its constructor tags -/
theorem type_name_is_xor_of_tags (ts now : UInt32) (cs : Schema) (out : SchemaV4)
    (h : generateTLO ts now cs = .ok out) (T : String) (h1 : T ≠ "#") (h2 : T ≠ "Type")
    (c : Comb) (hm : c ∈ cs) (hf : c.isFunction = false) (ht : c.typeName = T) :
    ∃ t ∈ out.types, t.id = strBytes T ∧ t.name = (ctorsOf cs T).foldl (fun a c => a ^^^ c.tag) 0 := by
  have hmem : c ∈ ctorsOf cs T := by simp [ctorsOf, isCtorOf, hm, hf, ht]
  cases hc : ctorsOf cs T with
  | nil => rw [hc] at hmem; cases hmem
  | cons c0 rest =>
    obtain ⟨t, _, hin, hid, hname, _⟩ := type_entry_faithful ts now cs out h T h1 h2 c0 rest hc
    exact ⟨t, hin, hid, by rw [hname, hc]; rfl⟩

/-- C26 (bytes): for every `tls.schema_v4` value whose conditional `tls.arg` fields are zero when their flag bit is
clear, the reader applied to the writer's output (followed by anything) returns the value and leaves the rest. -/
theorem tlo_roundtrip (s : SchemaV4) (bs rest : Bytes) (h : encSchema s = some bs) (hw : wfSchema s = true) :
    decodeSchema (bs ++ rest) = .ok (s, rest) :=
  decSchema_roundtrip s bs _ h hw (by simp only [List.length_append]; omega) rest

/-- type entries alone (no side condition): name, id, constructor count, flags, arity and parameter kinds of every
listed type survive the byte encoding -/
theorem tlo_types_decode_back (ts : List TlsType) (bs rest : Bytes) (h : encTypes ts = some bs) :
    decTypes ts.length (bs ++ rest) = .ok (ts, rest) :=
  (spec_types ts bs h).2 rest

/-- the TLO bytes of a well-formed description decode back to it. `wfSchema out` is a hypothesis: it is decidable and is
evaluated by the model driver on every generated schema of a run (`GenerateTLO` sets `VarNum`/`ExistVarNum` only
together with their flag bits; that `generateTLO` yields `wfSchema` is not a theorem, and the proof does not use `_h`) -/
theorem tlo_bytes_decode_back (ts now : UInt32) (cs : Schema) (out : SchemaV4) (bs : Bytes)
    (_h : generateTLO ts now cs = .ok out) (hw : wfSchema out = true) (he : encSchema out = some bs) :
    decodeSchema bs = .ok (out, []) := by
  simpa using tlo_roundtrip out bs [] he hw

def mkCtor (name : String) (tag : UInt32) (typeName : String) : Comb :=
  { isFunction := false, name := name, tag := tag, modifiers := [], targs := [], fields := [],
    typeName := typeName, typeArgs := [], funcDecl := .mk "" false [] }

/-- `foo = Type;` (accepted by the kernel) -/
def typeNamedType : Schema := [mkCtor "foo" 240305603 "Type"]

/-- full-strength type statement without the guard `T ≠ "Type"`: every listed entry of a declared type has
name = XOR of its constructor tags -/
def TypeNameIsXor (cs : Schema) : Prop :=
  ∀ T c, c ∈ cs → c.isFunction = false → c.typeName = T →
    (lookupType (buildTypes cs) T).map (·.name) = some ((ctorsOf cs T).foldl (fun a c => a ^^^ c.tag) 0)

/-- it fails for a user type named `Type`: the entry's name is `typeTag ^ tag(foo)`, not `tag(foo)` -/
theorem type_name_xor_fails_for_Type : ¬ TypeNameIsXor typeNamedType :=
  fun h => absurd (h "Type" (mkCtor "foo" 240305603 "Type") List.mem_cons_self rfl rfl) (by decide)

/-- `int#deadbeef ? = Int;` (accepted by the kernel) -/
def nonStandardInt : Schema := [mkCtor "int" 3735928559 "Int"]

/-- full-strength constructor statement without the guard: the listed tags are the declared tags -/
def ConstructorTagsAreDeclared (cs : Schema) : Prop :=
  (cs.filterMap ctorEntry).map (·.1) = (cs.filter (fun c => !c.isFunction)).map (·.tag)

/-- it fails for a builtin wrapper with a non-standard tag: the hard-coded tag is listed -/
theorem builtin_tag_fails_at : ¬ ConstructorTagsAreDeclared nonStandardInt := by
  unfold ConstructorTagsAreDeclared
  decide

/-- the guards are satisfiable by a non-trivial schema (builtin, union, function) -/
def exampleSchema : Schema :=
  [mkCtor "int" 2823855066 "Int", mkCtor "a.x" 1 "a.T", mkCtor "a.y" 2 "a.T",
   { mkCtor "f.get" 7 "" with isFunction := true, funcDecl := .mk "a.T" false [] }]

example : builtinsStandard exampleSchema = true := by decide +kernel
example : (lookupType (buildTypes exampleSchema) "a.T").map (fun t => (t.name, t.constructorsNum)) = some (3, 2) := by decide +kernel
example : (exampleSchema.filterMap funEntry).map (·.1) = [7] := by decide +kernel

end TLVerif.Props.C26
