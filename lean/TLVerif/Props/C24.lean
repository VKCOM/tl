import TLVerif.Tool.TagsLemmas
import TLVerif.Generated.ToolFacts
/-!
# C24 — Accepted schemas have unique non-zero constructor tags

Statement (fixed): every schema accepted by either generator has pairwise distinct, non-zero tags over all
TL1 constructors and functions and all explicit TL2 magics, and every schema that violates this is rejected.

The theorems are about the model `TLVerif/Tool/Tags.lean` of
`internal/pure/kernel.go checkTagCollisions`, `internal/tlcodegen/tlgen.go checkTagCollisions` and of the magic
rules of the TL2 parser.  They hold for *all* tag lists.  The `*_calls_*` facts (regenerated from the source on
every run) say that the checks are still invoked, before any instantiation / generation.
-/
namespace TLVerif.Props.C24
open TLVerif.Tool TLVerif.Facts.Tool

/-- Legacy generator (`tlgen`): accepted ⇔ all TL1 tags non-zero and pairwise distinct. -/
theorem legacy_check_iff (l : List Tag) :
    legacyCheckTags l = .ok () ↔ (∀ t ∈ l, t ≠ 0) ∧ l.Nodup := by
  have : legacyCheckTags l = .ok () ↔ ∃ s, tl1Loop [] 0 l = .ok s := by
    unfold legacyCheckTags; cases tl1Loop [] 0 l <;> simp
  simp [this, (tl1Loop_spec l [] 0).1]

/-- Kernel (`tl2gen`): accepted ⇔ all TL1 tags non-zero and the TL1 tags together with the *non-zero* TL2
magics are pairwise distinct.  (A zero `Magic` field means "no magic written"; see `schema_verdict_iff`.) -/
theorem kernel_check_iff (tl1 tl2 : List Tag) :
    kernelCheckTags tl1 tl2 = .ok () ↔ (∀ t ∈ tl1, t ≠ 0) ∧ (tl1 ++ tl2.filter (· ≠ 0)).Nodup := by
  rw [kernelCheckTags_eq, legacy_check_iff]
  exact and_congr_left fun _ => ⟨fun h t ht => h t (List.mem_append_left _ ht),
    fun h => List.forall_mem_append.mpr ⟨h, fun t ht => by simpa using (List.mem_filter.mp ht).2⟩⟩

theorem kernel_eq_legacy_on_tl1 (l : List Tag) : kernelCheckTags l [] = legacyCheckTags l := by
  rw [kernelCheckTags_eq, List.filter_nil, List.append_nil]

theorem parseTL2Magic_ok_iff (idx : Nat) (d : TL2Decl) (m : Tag) :
    parseTL2Magic idx d = .ok m ↔
      d.magic ≠ some 0 ∧ (d.isFunction = true → d.magic.isSome = true) ∧ m = d.magic.getD 0 := by
  rcases d with ⟨f, _ | x⟩
  · cases f <;> simp [parseTL2Magic, eq_comm]
  · by_cases hx : x = 0 <;> simp [parseTL2Magic, hx, eq_comm]

theorem parseTL2Magics_ok_iff (tl2 : List TL2Decl) : ∀ (idx : Nat) (ms : List Tag),
    parseTL2Magics idx tl2 = .ok ms ↔
      (∀ d ∈ tl2, d.magic ≠ some 0) ∧ (∀ d ∈ tl2, d.isFunction = true → d.magic.isSome = true) ∧
      ms = tl2.map (fun d => d.magic.getD 0) := by
  induction tl2 with
  | nil => intro idx ms; simp [parseTL2Magics]
  | cons d rest ih =>
    intro idx ms
    have hcons : parseTL2Magics idx (d :: rest) = .ok ms ↔
        ∃ m ms', parseTL2Magic idx d = .ok m ∧ parseTL2Magics (idx + 1) rest = .ok ms' ∧ ms = m :: ms' := by
      rw [parseTL2Magics]
      cases parseTL2Magic idx d <;> cases parseTL2Magics (idx + 1) rest <;> simp [eq_comm]
    simp only [hcons, parseTL2Magic_ok_iff, ih, List.forall_mem_cons, List.map_cons]
    constructor
    · rintro ⟨m, ms', ⟨a, b, rfl⟩, ⟨a', b', rfl⟩, rfl⟩; exact ⟨⟨a, a'⟩, ⟨b, b'⟩, rfl⟩
    · rintro ⟨⟨a, a'⟩, ⟨b, b'⟩, rfl⟩; exact ⟨_, _, ⟨a, b, rfl⟩, ⟨a', b', rfl⟩, rfl⟩

theorem filter_magics (tl2 : List TL2Decl) (h : ∀ d ∈ tl2, d.magic ≠ some 0) :
    (tl2.map (fun d => d.magic.getD 0)).filter (· ≠ 0) = explicitMagics tl2 := by
  induction tl2 with
  | nil => rfl
  | cons d rest ih =>
    have ih' := ih (fun d hd => h d (List.mem_cons_of_mem _ hd))
    have hd := h d (by simp)
    unfold explicitMagics at *
    rcases d with ⟨f, m⟩
    cases m with
    | none => simpa using ih'
    | some m =>
      have : m ≠ 0 := fun e => hd (by simp [e])
      simp [this]; simpa using ih'

theorem explicitMagics_nonzero_iff (tl2 : List TL2Decl) :
    (∀ m ∈ explicitMagics tl2, m ≠ 0) ↔ (∀ d ∈ tl2, d.magic ≠ some 0) := by
  unfold explicitMagics
  simp only [List.mem_filterMap, forall_exists_index, and_imp]
  constructor
  · intro h d hd e; exact h 0 d hd e rfl
  · intro h m d hd e em; subst em; exact h d hd e

/-- **C24, full strength, for the kernel path (`tl2gen`, every language).**  A schema set whose TL1 combinators
have effective tags `tl1` and whose TL2 combinators are `tl2` passes the tag rules iff
all TL1 tags are non-zero, no explicit TL2 magic is zero, every TL2 function has a magic, and the TL1 tags together with
all explicit TL2 magics are pairwise distinct. -/
theorem schema_verdict_iff (tl1 : List Tag) (tl2 : List TL2Decl) :
    schemaVerdict tl1 tl2 = .ok () ↔
      (∀ t ∈ tl1, t ≠ 0) ∧ (∀ m ∈ explicitMagics tl2, m ≠ 0) ∧
      (∀ d ∈ tl2, d.isFunction = true → d.magic.isSome = true) ∧ (tl1 ++ explicitMagics tl2).Nodup := by
  have hz := explicitMagics_nonzero_iff tl2
  unfold schemaVerdict
  cases hp : parseTL2Magics 0 tl2 with
  | error e =>
    simp only [reduceCtorEq, false_iff]
    rintro ⟨_, h2, h3, _⟩
    have := (parseTL2Magics_ok_iff tl2 0 _).mpr ⟨hz.mp h2, h3, rfl⟩
    rw [hp] at this; cases this
  | ok ms =>
    obtain ⟨h1, h2, h3⟩ := (parseTL2Magics_ok_iff tl2 0 ms).mp hp
    simp only []
    rw [kernel_check_iff, h3, filter_magics tl2 h1]
    constructor
    · rintro ⟨a, b⟩; exact ⟨a, hz.mpr h1, h2, b⟩
    · rintro ⟨a, _, _, b⟩; exact ⟨a, b⟩

/-- the two halves of the property are contrapositives of each other, for any verdict -/
theorem rejected_of_accepted {x : Except TagErr Unit} {l : List Tag} (hacc : x = .ok () → (∀ t ∈ l, t ≠ 0) ∧ l.Nodup)
    (h : (0 : Tag) ∈ l ∨ ¬ l.Nodup) : ∃ e, x = .error e := by
  cases x with
  | error e => exact ⟨e, rfl⟩
  | ok u => exact (h.elim (fun h0 => (hacc rfl).1 0 h0 rfl) (fun hn => hn (hacc rfl).2)).elim

/-- First half of the property: an accepted schema has pairwise distinct non-zero tags over all TL1
combinators and all explicit TL2 magics. -/
theorem accepted_tags_distinct_nonzero (tl1 : List Tag) (tl2 : List TL2Decl)
    (h : schemaVerdict tl1 tl2 = .ok ()) :
    (∀ t ∈ tl1 ++ explicitMagics tl2, t ≠ 0) ∧ (tl1 ++ explicitMagics tl2).Pairwise (· ≠ ·) := by
  obtain ⟨h1, h2, _, h4⟩ := (schema_verdict_iff tl1 tl2).mp h
  exact ⟨List.forall_mem_append.mpr ⟨h1, h2⟩, h4⟩

/-- Second half: a zero tag or any repeated tag (TL1/TL1, TL1/TL2 or TL2/TL2) is rejected with an error. -/
theorem violating_rejected (tl1 : List Tag) (tl2 : List TL2Decl)
    (h : (0 : Tag) ∈ tl1 ++ explicitMagics tl2 ∨ ¬ (tl1 ++ explicitMagics tl2).Nodup) :
    ∃ e, schemaVerdict tl1 tl2 = .error e :=
  rejected_of_accepted (accepted_tags_distinct_nonzero tl1 tl2) h

theorem legacy_accepted_tags_distinct_nonzero (l : List Tag) (h : legacyCheckTags l = .ok ()) :
    (∀ t ∈ l, t ≠ 0) ∧ l.Pairwise (· ≠ ·) := (legacy_check_iff l).mp h

theorem legacy_violating_rejected (l : List Tag) (h : (0 : Tag) ∈ l ∨ ¬ l.Nodup) :
    ∃ e, legacyCheckTags l = .error e :=
  rejected_of_accepted (legacy_check_iff l).mp h

/-- The error that is reported names a real defect of the list: a zero tag at the reported index, or a
non-zero tag that occurs at least twice. -/
theorem legacy_error_sound (l : List Tag) (e : TagErr) (h : legacyCheckTags l = .error e) :
    (∃ i, e = .zero i ∧ l[i]? = some 0) ∨ (∃ t, e = .dup t ∧ t ≠ 0 ∧ 2 ≤ l.count t) := by
  unfold legacyCheckTags at h
  cases hl : tl1Loop [] 0 l with
  | ok s => rw [hl] at h; cases h
  | error e' =>
    rw [hl] at h; cases h
    rcases (tl1Loop_spec l [] 0).2 e hl with ⟨i, he, hz⟩ | ⟨t, he, h0, hc⟩
    · exact .inl ⟨i, by rw [he, Nat.zero_add], hz⟩
    · exact .inr ⟨t, he, h0, hc⟩

/-! ### Legacy generator fed TL2 files — the property FAILS there (known finding)

Full-strength statement kept visible; it is false because `tlcodegen.checkTagCollisions` never looks at TL2 magics. -/

/-- what C24 demands of the legacy generator when `.tl2` files are passed to it -/
def LegacyFullStrength : Prop :=
  ∀ (tl1 : List Tag) (tl2 : List TL2Decl), legacySchemaVerdict tl1 tl2 = .ok () →
    (∀ t ∈ tl1 ++ explicitMagics tl2, t ≠ 0) ∧ (tl1 ++ explicitMagics tl2).Nodup

/-- counter-example: `a#00000001 = A;` together with the TL2 type `b#00000001 = ;` is accepted -/
theorem legacy_full_fails_at : ¬ LegacyFullStrength := by
  intro h
  have := (h [1] [⟨false, some 1⟩] (by rfl)).2
  exact absurd this (by decide)

/-- what does hold: everything accepted has non-zero tags, distinct among the TL1 combinators … -/
theorem legacy_schema_partial_nonzero (tl1 : List Tag) (tl2 : List TL2Decl)
    (h : legacySchemaVerdict tl1 tl2 = .ok ()) :
    (∀ t ∈ tl1 ++ explicitMagics tl2, t ≠ 0) ∧ tl1.Nodup := by
  unfold legacySchemaVerdict at h
  cases hp : parseTL2Magics 0 tl2 with
  | error e => rw [hp] at h; cases h
  | ok ms =>
    rw [hp] at h; simp only [] at h
    obtain ⟨h1, _, _⟩ := (parseTL2Magics_ok_iff tl2 0 ms).mp hp
    obtain ⟨a, b⟩ := (legacy_check_iff tl1).mp h
    exact ⟨List.forall_mem_append.mpr ⟨a, (explicitMagics_nonzero_iff tl2).mpr h1⟩, b⟩

/-- … and the full statement under the exact guard "no TL2 combinator carries an explicit magic". -/
theorem legacy_schema_partial (tl1 : List Tag) (tl2 : List TL2Decl) (guard : explicitMagics tl2 = [])
    (h : legacySchemaVerdict tl1 tl2 = .ok ()) :
    (∀ t ∈ tl1 ++ explicitMagics tl2, t ≠ 0) ∧ (tl1 ++ explicitMagics tl2).Nodup := by
  obtain ⟨a, b⟩ := legacy_schema_partial_nonzero tl1 tl2 h
  rw [guard] at *
  simpa using ⟨by simpa using a, b⟩

/-- the guard is satisfiable by a non-trivial schema -/
example : explicitMagics [⟨false, none⟩, ⟨false, none⟩] = [] ∧
    legacySchemaVerdict [5, 6] [⟨false, none⟩, ⟨false, none⟩] = .ok () := ⟨rfl, rfl⟩

/-- hypotheses are satisfiable by non-trivial values, and the error branches are reachable -/
example : schemaVerdict [0x11111111, 0x22222222] [⟨false, none⟩, ⟨true, some 0x33333333⟩, ⟨false, none⟩] = .ok () := by rfl
example : schemaVerdict [0x11111111, 0x22222222] [⟨false, some 0x11111111⟩] = .error (.dup 0x11111111) := by rfl
example : schemaVerdict [0x11111111, 0] [] = .error (.zero 1) := by rfl
example : schemaVerdict [] [⟨true, none⟩] = .error (.tl2nomagic 0) := by rfl
example : schemaVerdict [] [⟨false, some 5⟩, ⟨false, some 0⟩] = .error (.tl2zero 1) := by rfl
example : legacyCheckTags [3, 4, 3] = .error (.dup 3) := by rfl

/-! ## T1 facts: the checks are still called, and before anything is instantiated or generated -/

theorem kernel_calls_check : "checkTagCollisions" ∈ kernelCompileCalls ∧
    kernelCompileCalls.idxOf "checkTagCollisions" < kernelCompileCalls.idxOf "getInstance" := by decide +kernel

theorem legacy_calls_check : "checkTagCollisions" ∈ legacyGenerateCodeCalls ∧
    legacyGenerateCodeCalls.idxOf "checkTagCollisions" < legacyGenerateCodeCalls.idxOf "buildMapDescriptors" := by decide +kernel

/-- every `tl2gen` output language compiles the kernel first (`Compile` precedes all generation calls) -/
theorem generators_compile_first :
    gengoGenerateCalls.head? = some "Compile" ∧ gentloGenerateCalls.head? = some "Compile" ∧
    gencanonicalGenerateCalls.head? = some "Compile" ∧ gentljsonhtmlGenerateCalls.head? = some "Compile" ∧
    genphpGenerateCalls.idxOf "Compile" < genphpGenerateCalls.idxOf "generateCode" := by decide +kernel

end TLVerif.Props.C24
