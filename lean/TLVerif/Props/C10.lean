import TLVerif.Codec.TL1RoundTrip
import TLVerif.Codec.KeyOrder
import TLVerif.Codec.TL1Example
/-!
# C10 — `[]byte` variants behave like string variants (TL1)

Model: `TLVerif/Codec/BytesVariant.lean` (`readTL1M`: the TL1 reader with the storage discipline of
dictionaries as a parameter; `.map` = string variant, `.slice` = `[]byte` variant, in which the dictionary
instances selected by `sl` — those that have a bytes version — are slices; the agreement theorems hold for every `sl`, the two
`…canonical…` theorems take `sl := fun _ => true`, every dictionary a slice).  The writer is shared
(`writeTL1` writes the element list in order; a map's element list is kept sorted by `dictNormalize`).

* `readTL1M_map_eq` — the `.map` instance *is* `readTL1`, the model every C01/C02/C08 theorem is about;
* `strict_accepts_example` / `canonical_example` — the hypothesis of `bytes_variant_agrees_on_canonical` is met by a concrete
  non-trivial input (a two-entry dictionary) and the conclusion computed on it.

The tie (`checks/C10.py`): `codec.x1m` runs `readTL1M .slice` against `CreateObjectBytes()` on *all* explored
inputs (canonical or not) and `readTL1M .strict` on the canonical ones (every output of a string-variant writer
must be accepted: the hypothesis of the theorem is met by what the property calls canonical).
-/
namespace TLVerif.Props.C10
open TLVerif.Prim TLVerif.Codec

theorem readTL1M_map_eq (sl : Nat → Bool) (cfg : Cfg) (d : Desc) : ∀ fuel, readTL1M .map sl cfg d fuel = readTL1 cfg d fuel :=
  readTL1M_map sl cfg d

/-- a dictionary whose keys are strictly ascending is stored unchanged by the map-backed variant -/
theorem dictNormalize_of_ascending (k : PrimK) (vs : List Val) (h : dictAscending k vs = true) :
    dictNormalize k vs = vs :=
  dictNormalize_sorted (dictAscending_eq_sorted k vs ▸ h)

theorem dictStore_strict {m : DictMode} {b b' : Bool} {k : PrimK} {vs vs' : List Val}
    (h : dictStore .strict b k vs = .ok vs') : dictStore m b' k vs = .ok vs' := by
  simp only [dictStore] at h
  split at h
  · rename_i ha
    cases h
    exact dictStore_sorted m b' (dictAscending_eq_sorted k vs ▸ ha)
  · cases h

/-- `RdBelow (fun _ => True) r1 r2` read on the successful answers: the shape `strict_le` is stated in -/
def RdLe (r1 r2 : Rd) : Prop :=
  ∀ ty bare na bs v rest, r1 ty bare na bs = .ok (v, rest) → r2 ty bare na bs = .ok (v, rest)

/-- the strict reader is below the reader of mode `m`, as soon as an accepted dictionary is stored alike -/
theorem strict_le (m : DictMode) (sl sl' : Nat → Bool)
    (hm : ∀ b b' k vs vs', dictStore .strict b k vs = .ok vs' → dictStore m b' k vs = .ok vs')
    (cfg : Cfg) (d : Desc) : ∀ fuel, RdLe (readTL1M .strict sl cfg d fuel) (readTL1M m sl' cfg d fuel) := by
  intro fuel ty bare na bs v rest h
  have hst : ∀ ty k vs, Below (fun _ => True) (dictStore .strict (sl ty) k vs) (dictStore m (sl' ty) k vs) := by
    intro ty k vs hne
    cases hs : dictStore .strict (sl ty) k vs with
    | error e => exact absurd hs (hne e trivial)
    | ok vs' => exact hm _ _ _ _ _ hs
  rw [readTL1M_below (E := fun _ => True) trivial hst cfg d (Nat.le_refl fuel) ty bare na bs
    (fun e _ c => by rw [h] at c; cases c), h]

/-- **C10 (TL1 read)**: on canonical input — accepted by the strict reader, i.e. every dictionary at every
depth has strictly ascending keys — the string variant (`readTL1`) and the `[]byte` variant
(`readTL1M .slice`) decode the same value and leave the same rest. -/
theorem bytes_variant_agrees_on_canonical (sl sl' : Nat → Bool) (cfg : Cfg) (d : Desc) (fuel ty : Nat) (bare : Bool)
    (params : List Nat) (bs : Bytes) (v : Val) (rest : Bytes)
    (h : readTL1M .strict sl cfg d fuel ty bare params bs = .ok (v, rest)) :
    readTL1 cfg d fuel ty bare params bs = .ok (v, rest) ∧
    readTL1M .slice sl' cfg d fuel ty bare params bs = .ok (v, rest) := by
  constructor
  · rw [← readTL1M_map_eq sl]
    exact strict_le .map sl sl (fun _ _ _ _ _ => dictStore_strict) cfg d fuel _ _ _ _ _ _ h
  · exact strict_le .slice sl sl' (fun _ _ _ _ _ => dictStore_strict) cfg d fuel _ _ _ _ _ _ h

/-- consequently the shared writer returns the same result on the values the two variants decode from a canonical input -/
theorem bytes_variant_rewrites_equal (sl sl' : Nat → Bool) (cfg : Cfg) (d : Desc) (fuel ty : Nat) (bare : Bool)
    (params : List Nat) (bs : Bytes) (v : Val) (rest : Bytes)
    (h : readTL1M .strict sl cfg d fuel ty bare params bs = .ok (v, rest)) :
    ∃ v1 v2 r1 r2, readTL1 cfg d fuel ty bare params bs = .ok (v1, r1) ∧
      readTL1M .slice sl' cfg d fuel ty bare params bs = .ok (v2, r2) ∧ r1 = r2 ∧
      ∀ bare', writeTL1 d fuel ty bare' params v1 = writeTL1 d fuel ty bare' params v2 := by
  obtain ⟨h1, h2⟩ := bytes_variant_agrees_on_canonical sl sl' cfg d fuel ty bare params bs v rest h
  exact ⟨v, v, rest, rest, h1, h2, rfl, fun _ => rfl⟩

/-- **C10 (the `[]byte` variant is canonical, dictionaries included)**: on a reference-closed set of instances without the
TL2 `bit` primitive, whatever the reader with every dictionary a slice (`sl := fun _ => true`) accepts is, byte for byte,
the shared writer's output for the decoded value followed by the unread rest — for *every* input, also with repeated or
descending keys (contrast `C02.tl1_canonical_fails_at_dict` for the map-backed string variant). -/
theorem bytes_variant_canonical (cfg : Cfg) (d : Desc) (S : Nat → Bool) (hcl : d.closed S = true)
    (hnb : d.allOn S (fun i => !i.isBitPrim) = true)
    (fuel ty : Nat) (bare : Bool) (params : List Nat) (bs : Bytes) (v : Val) (rest : Bytes) (hS : S ty = true)
    (h : readTL1M .slice (fun _ => true) cfg d fuel ty bare params bs = .ok (v, rest)) :
    ∃ pre, bs = pre ++ rest ∧ writeTL1 d fuel ty bare params v = .ok pre := by
  obtain ⟨pre, e, _, hc⟩ := readTL1M_canonNm ByteRel.eq .slice _ cfg d S hcl hnb
    (Or.inr (StoreCanon.slice ByteRel.eq)) fuel h
  obtain ⟨⟨w, hw, r⟩, _⟩ := hc hS
  exact ⟨pre, e, by rw [hw, r]⟩

/-- consequence for the *string* variant: on canonical input (strict reader accepts) it is canonical too, dictionaries
included — it decodes the value the `[]byte` variant decodes, and the shared writer gives back the consumed bytes. This is
C02's statement extended to dictionary-bearing types, under exactly the property's "canonical input" hypothesis. -/
theorem string_variant_canonical_on_canonical_input (cfg : Cfg) (d : Desc) (S : Nat → Bool) (hcl : d.closed S = true)
    (hnb : d.allOn S (fun i => !i.isBitPrim) = true)
    (fuel ty : Nat) (bare : Bool) (params : List Nat) (bs : Bytes) (v : Val) (rest : Bytes) (hS : S ty = true)
    (h : readTL1M .strict (fun _ => true) cfg d fuel ty bare params bs = .ok (v, rest)) :
    readTL1 cfg d fuel ty bare params bs = .ok (v, rest) ∧
    ∃ pre, bs = pre ++ rest ∧ writeTL1 d fuel ty bare params v = .ok pre := by
  obtain ⟨h1, h2⟩ := bytes_variant_agrees_on_canonical (fun _ => true) (fun _ => true) cfg d fuel ty bare params bs v rest h
  exact ⟨h1, bytes_variant_canonical cfg d S hcl hnb fuel ty bare params bs v rest hS h2⟩

/-- the order in which the string variant writes keys is asymmetric for every key kind (signed and unsigned integers,
byte strings, booleans) … -/
theorem key_order_asymm (k : PrimK) (a b : Val) (h : keyLt k a b = true) : keyLt k b a = false := keyLt_asymm k a b h

/-- … so the strict reader's guard — the "canonical input" hypothesis of the theorems above — is nothing more than
"every key strictly below every later key" -/
theorem canonical_guard_is_strict_ascent (k : PrimK) (vs : List Val) : dictAscending k vs = dictPairwiseLt k vs := by
  -- the converse comparison in `dictAscending` is redundant (`keyBelowAll_eq`, by asymmetry)
  induction vs with
  | nil => rfl
  | cons x xs ih => simp only [dictAscending, dictPairwiseLt, ih, keyBelowAll_eq]

/-- the hypothesis is satisfiable: a two-entry `dictionary<int,int>` with ascending keys 1 < 2 -/
theorem strict_accepts_example :
    readTL1M .strict (fun _ => true) {} Ex.dictD 3 2 true [] [2,0,0,0, 1,0,0,0, 7,0,0,0, 2,0,0,0, 3,0,0,0]
      = .ok (.arr [.struct [some (.nat 1), some (.nat 7)], .struct [some (.nat 2), some (.nat 3)]], []) := by rfl

theorem canonical_example :
    readTL1 {} Ex.dictD 3 2 true [] [2,0,0,0, 1,0,0,0, 7,0,0,0, 2,0,0,0, 3,0,0,0]
      = readTL1M .slice (fun _ => true) {} Ex.dictD 3 2 true [] [2,0,0,0, 1,0,0,0, 7,0,0,0, 2,0,0,0, 3,0,0,0] := by
  obtain ⟨h1, h2⟩ := bytes_variant_agrees_on_canonical _ (fun _ => true) _ _ _ _ _ _ _ _ _ strict_accepts_example
  rw [h1, h2]

/-- the hypothesis is needed: with a repeated key the map keeps the last entry, the slice keeps both,
and the strict reader rejects — exactly the inputs the property excludes. -/
theorem variants_differ_on_duplicate_key :
    readTL1 {} Ex.dictD 3 2 true [] [2,0,0,0, 1,0,0,0, 2,0,0,0, 1,0,0,0, 3,0,0,0]
      = .ok (.arr [.struct [some (.nat 1), some (.nat 3)]], []) ∧
    readTL1M .slice (fun _ => true) {} Ex.dictD 3 2 true [] [2,0,0,0, 1,0,0,0, 2,0,0,0, 1,0,0,0, 3,0,0,0]
      = .ok (.arr [.struct [some (.nat 1), some (.nat 2)], .struct [some (.nat 1), some (.nat 3)]], []) ∧
    readTL1M .strict (fun _ => true) {} Ex.dictD 3 2 true [] [2,0,0,0, 1,0,0,0, 2,0,0,0, 1,0,0,0, 3,0,0,0] = .error .rej := by
  refine ⟨by rfl, by rfl, by rfl⟩

/-- same for keys out of order: accepted by both variants, stored differently -/
theorem variants_differ_on_unsorted_keys :
    readTL1 {} Ex.dictD 3 2 true [] [2,0,0,0, 5,0,0,0, 2,0,0,0, 1,0,0,0, 3,0,0,0]
      = .ok (.arr [.struct [some (.nat 1), some (.nat 3)], .struct [some (.nat 5), some (.nat 2)]], []) ∧
    readTL1M .slice (fun _ => true) {} Ex.dictD 3 2 true [] [2,0,0,0, 5,0,0,0, 2,0,0,0, 1,0,0,0, 3,0,0,0]
      = .ok (.arr [.struct [some (.nat 5), some (.nat 2)], .struct [some (.nat 1), some (.nat 3)]], []) := by
  refine ⟨by rfl, by rfl⟩

/-- `bytes_variant_canonical` at work on the repeated-key input the map-backed variant cannot re-encode: the slice value
(both entries kept) is written back to exactly the bytes read -/
theorem bytes_variant_canonical_example :
    ∃ pre, ([2,0,0,0, 1,0,0,0, 2,0,0,0, 1,0,0,0, 3,0,0,0] : Bytes) = pre ++ [] ∧
      writeTL1 Ex.dictD 3 2 true []
        (.arr [.struct [some (.nat 1), some (.nat 2)], .struct [some (.nat 1), some (.nat 3)]]) = .ok pre :=
  bytes_variant_canonical {} Ex.dictD allInsts (by decide) (by decide) 3 2 true [] _ _ _ rfl
    variants_differ_on_duplicate_key.2.1

/-- `bytes_variant_canonical` applies to the dictionary descriptor: closed, no `bit` -/
example : Ex.dictD.closed allInsts = true ∧ Ex.dictD.allOn allInsts (fun i => !i.isBitPrim) = true := by decide

end TLVerif.Props.C10
