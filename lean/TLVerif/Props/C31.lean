import TLVerif.Cpp.MaskedLemmas
/-!
# C31 — C++ generated serializers agree with the Go serializers

The property itself ("the C++ code generated for the schema reads the TL1 bytes written by the Go
code and writes back identical bytes, and rejects byte strings the Go code rejects") is about two
implementations; it is decided by translation validation (`checks/C31.py`: both generated codes are
driven on the same inputs). No theorem here speaks about C++ or Go code.

What is proved is the reference behaviour the two are compared against on the *flat* fragment
(`TLVerif.Cpp.Flat` + `TLVerif.Cpp.Masked`: structs whose fields are 4/8-byte scalars, TL1 strings,
`Bool`, exact tags, vectors and tuples of those, fields under a field mask of an earlier `#` field,
tuples sized by an earlier `#` field; strings through the proved `TLVerif.Prim` model), for **all**
descriptors and **all** byte strings. The third voice of the check (`tlmodel`, `cpp.r1 … DESC`)
executes exactly these definitions, so on this fragment "C++ = model" and "Go = model" are each tied
to the theorems:

* the only observation `ok out n` a correct reader/writer pair can give on input `bs` is
  `out = ` the consumed prefix of `bs` and `n = ` the number of unread bytes (`r1_ok_is_prefix`) —
  this is what "writes back identical bytes" means for arbitrary, not only Go-written, input;
* everything a writer produced is accepted with exactly that observation, whatever follows
  (`flat_written_roundtrip`), i.e. Go-written bytes are never rejected by a reader that follows the model;
* every strict prefix of the consumed part is rejected (`flat_truncation_rejected`).
-/
namespace TLVerif.Props.C31
open TLVerif.Prim TLVerif.Cpp

/-- Whatever the reader accepts is byte-for-byte the writer's output for the decoded value followed
by the unread rest: writing back what was read reproduces the consumed input exactly. -/
theorem flat_readback_is_consumed_prefix (d : MDesc) (bs : Bytes) (vs : List MVal) (rest : Bytes)
    (h : readM [] d bs = .ok (vs, rest)) : ∃ out, writeM [] d vs = some out ∧ bs = out ++ rest :=
  readM_canonical d [] bs vs rest h

/-- Everything the (typed) writer produces is accepted by the reader, yields the written value and
leaves exactly the bytes that followed. -/
theorem flat_accepts_written (d : MDesc) (vs : List MVal) (out rest : Bytes)
    (h : writeM [] d vs = some out) : readM [] d (out ++ rest) = .ok (vs, rest) :=
  readM_written d [] vs out rest h

/-- The driver observation on written bytes: same bytes back, unread = what followed. -/
theorem flat_written_roundtrip (d : MDesc) (vs : List MVal) (out rest : Bytes)
    (h : writeM [] d vs = some out) : r1m d (out ++ rest) = .ok out rest.length := by
  unfold r1m
  rw [readM_written d [] vs out rest h]
  simp [h]

/-- The driver observation on *any* input: if it is `ok out n` then `out` is the prefix of the input
of length `bs.length - n`; `werr` never happens after a successful read. -/
theorem r1_ok_is_prefix (d : MDesc) (bs : Bytes) :
    (∀ out n, r1m d bs = .ok out n → bs = out ++ bs.drop out.length ∧ n + out.length = bs.length) ∧
    r1m d bs ≠ .werr := by
  unfold r1m
  cases hr : readM [] d bs with
  | error e => simp
  | ok t =>
    obtain ⟨vs, rest⟩ := t
    obtain ⟨o, hw, hb⟩ := readM_canonical d [] bs vs rest hr
    simp only [hw]
    refine ⟨?_, by simp⟩
    intro out n h
    injection h with h1 h2
    subst h1; subst h2
    subst hb
    simp [Nat.add_comm]

/-- The result of reading depends only on the consumed prefix: replacing the unread rest by any
other bytes gives the same value and leaves the new rest. -/
theorem flat_read_prefix_independent (d : MDesc) (bs : Bytes) (vs : List MVal) (rest : Bytes)
    (h : readM [] d bs = .ok (vs, rest)) :
    ∃ out, bs = out ++ rest ∧ ∀ rest', readM [] d (out ++ rest') = .ok (vs, rest') := by
  obtain ⟨o, hw, hb⟩ := readM_canonical d [] bs vs rest h
  exact ⟨o, hb, fun rest' => readM_written d [] vs o rest' hw⟩

theorem flat_truncation_rejected (d : MDesc) (bs : Bytes) (vs : List MVal) (rest : Bytes)
    (h : readM [] d bs = .ok (vs, rest)) (n : Nat) (hn : n + rest.length < bs.length) :
    ∃ e, readM [] d (bs.take n) = .error e := by
  cases hr : readM [] d (bs.take n) with
  | error e => exact ⟨e, rfl⟩
  | ok t =>
    exfalso
    obtain ⟨o', hb', hall⟩ := flat_read_prefix_independent d _ t.1 t.2 hr
    -- the same prefix `o'` in front of the whole remainder: the read of `bs` leaves at least `bs.drop n`
    have h2 := hall (t.2 ++ bs.drop n)
    rw [← List.append_assoc, ← hb', List.take_append_drop, h] at h2
    cases h2
    rw [List.length_append, List.length_drop] at hn
    omega

/-- A descriptor without masks and nat-sized tuples behaves as the plain flat codec
(`readS` of `TLVerif.Cpp.Flat`): the masked layer adds nothing there. -/
theorem plain_is_flat (d : Desc) (prev : List MVal) (bs : Bytes) :
    readM prev (d.map fun k => ⟨none, .fixed k⟩) bs =
      (readS d bs).map fun (p : List FVal × Bytes) => (p.1.map some, p.2) := by
  fun_induction readS d bs generalizing prev with
  | case1 => rfl
  | case2 k ks bs e h1 => simp [readM, present, resolve, h1, Except.map]
  | case3 k ks bs v r1 h1 e h2 ih => simp [readM, present, resolve, h1, ih, h2, Except.map]
  | case4 k ks bs v r1 h1 vs r2 h2 ih => simp [readM, present, resolve, h1, ih, h2, Except.map]

/-! ### The three C++ defect classes lie outside the reference accept set (all inputs of each class) -/

/-- class `noncanon`: every medium-form (0xfe) header announcing a length ≤ 253 is rejected, whatever follows. -/
theorem class_noncanon_rejected (x1 x2 x3 : UInt8) (r : Bytes)
    (h : (x3.toNat <<< 16) + (x2.toNat <<< 8) + x1.toNat ≤ 253) :
    stringRead (254 :: x1 :: x2 :: x3 :: r) = .error .noncanon := by
  have hh := stringReadHeader_medium (bs := [x1, x2, x3]) rfl r
  rw [if_pos (shiftSum3_eq x1 x2 x3 ▸ h)] at hh
  exact stringRead_of_header_error hh

/-- class `booltag`: a `Bool` field whose 4 bytes are neither tag is rejected. -/
theorem class_booltag_rejected (a b : Bytes) (bs : Bytes) (hl : 4 ≤ bs.length)
    (h : bs.take 4 ≠ a ∧ bs.take 4 ≠ b) : readP (.alt a b) bs = .error .tag := by
  rw [readP, if_neg (Nat.not_lt.mpr hl), if_neg (not_or.mpr h)]

/-- class `sanity`: a count of 4-byte elements that the remaining input cannot hold is rejected. -/
theorem class_sanity_rejected (n : Nat) (bs : Bytes) (h : bs.length < 4 * n) :
    ∃ e, readN (.raw 4) n bs = .error e := by
  induction n generalizing bs with
  | zero => omega
  | succ n ih =>
    simp only [readN, readP]
    by_cases hl : bs.length < 4
    · exact ⟨.eof, by rw [if_pos hl]⟩
    · obtain ⟨e, he⟩ := ih (bs.drop 4) (by rw [List.length_drop]; omega)
      exact ⟨e, by rw [if_neg hl]; simp only [he]⟩

/-- The hypotheses are satisfiable by a non-trivial value: `m:# a:m.0?int s:m.1?string k:# t:k*[string]`
with mask 2 (a absent, s present) and k = 2 is written and observed back with two unread bytes. -/
example :
    let d : MDesc := [⟨none, .fixed (.one (.raw 4))⟩, ⟨some (0, 0), .fixed (.one (.raw 4))⟩,
                      ⟨some (0, 1), .fixed (.one .str)⟩, ⟨none, .fixed (.one (.raw 4))⟩, ⟨none, .dyn 3 .str⟩]
    let v : List MVal := [some (.one (.raw [2, 0, 0, 0])), none, some (.one (.str [104, 101, 108, 108, 111])),
                          some (.one (.raw [2, 0, 0, 0])), some (.tup [.str [66], .str []])]
    let out : Bytes := [2, 0, 0, 0, 5, 104, 101, 108, 108, 111, 0, 0, 2, 0, 0, 0, 1, 66, 0, 0, 0, 0, 0, 0]
    writeM [] d v = some out ∧ r1m d (out ++ [9, 9]) = .ok out 2 := by
  intro d v out
  have hw : writeM [] d v = some out := by decide
  exact ⟨hw, flat_written_roundtrip d v out [9, 9] hw⟩

/-- Reference verdicts on the witnesses of the three known C++ defect classes (known_findings.json):
a non-minimal (medium-form) encoding of a 1-byte string, an invalid `Bool` tag and a vector count that
exceeds the input are all rejected by the reference reader. -/
example : r1m [⟨none, .fixed (.one .str)⟩] [0xfe, 1, 0, 0, 0x41, 0, 0, 0] = .err := by decide
example : r1m [⟨none, .fixed (.one (.alt [0x37, 0x97, 0x79, 0xbc] [0xb5, 0x75, 0x72, 0x99]))⟩] [1, 0, 0, 0] = .err := by
  decide
example : r1m [⟨none, .fixed (.vec (.raw 4))⟩] [3, 0, 0, 0, 1, 0, 0, 0] = .err := by decide

end TLVerif.Props.C31
