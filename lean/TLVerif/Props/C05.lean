import TLVerif.Codec.JsonLemmas
/-!
# C05 — JSON written by generated code is valid JSON and reads back to the same value

Model: `TLVerif/Codec/Json.lean` (`writeJson` / `readJson`, tied to the generated Go code by `checks/C05.py`),
`JsonText.lean` (printer / parser), `JsonPrim.lean` (number text, UTF-8, base64).

* `json_valid` — proved for every descriptor, type and value: what the writer produces, printed, is an RFC 8259 JSON text.
  String escaping is the hypothesis `EscOK esc` (the escaper's model belongs to C34).
* The round-trip half of the property **fails on the real code** (and therefore in the model, which follows the code):
  `JsonRoundTrip` is the full-strength statement, `json_roundtrip_fails_at_nan_payload` is a proved counter-example (lead L3 of
  DESIGN §6; L2 — −0.0 treated as empty — was repaired in the generator: `float_empty_iff_zero_bits`, `neg_zero_unmasked_field_roundtrips`); further failures found by the check (dictionary keys that are not
  valid UTF-8, nil recursive pointers) are recorded in `known_findings.json`; keys that merely need escaping read back
  unescaped both in the model and — since the repair of F2 in /repo 540af2db — in the code.
  What is proved of the positive direction: the primitive round trips below (`prim_roundtrip_*`: all integers, all strings,
  booleans, the special floats); finite floats (shortest-digit printing / correctly rounded parsing) and the composite
  types are explored by the differential run only (stated as such in the manifest).
-/
namespace TLVerif.Props.C05
open TLVerif.Codec TLVerif.Prim

/-- **Validity.** Whatever `writeJson` returns prints to a JSON text (RFC 8259 grammar `IsJsonText`), for every schema
descriptor, type instance, nat arguments and value, and every string escaper `esc` whose output is always the body of a
JSON string (`EscOK`). -/
theorem json_valid (d : Desc) (esc : Bytes → List Char) (he : EscOK esc) (fuel ty : Nat) (params : List Nat) (v : Val) (j : Json)
    (h : writeJson d fuel ty params v = .ok j) : IsJsonText (printJson esc j) :=
  IsElement.ofValue (printJson_valid he j (writeJson_wf d fuel ty params v j h))

/-- every number token the writer emits is an RFC 8259 number -/
theorem json_numbers_wellformed (d : Desc) (fuel ty : Nat) (params : List Nat) (v : Val) (j : Json)
    (h : writeJson d fuel ty params v = .ok j) : j.Wf := writeJson_wf d fuel ty params v j h

/-- the hypothesis of `json_valid` is satisfiable (a trivial escaper that emits nothing) -/
example : EscOK (fun _ => []) := ⟨fun _ => .nil⟩

/-- Full-strength round trip (the statement of the property): reading back what was written gives a value with the same
JSON and TL1 encodings. -/
def JsonRoundTrip (d : Desc) : Prop :=
  ∀ fuel ty params v j, writeJson d fuel ty params v = .ok j →
    ∃ v', readJson d false parseJson fuel ty params (some j) = .ok v' ∧
      writeJson d fuel ty params v' = .ok j ∧ writeTL1 d fuel ty true params v' = writeTL1 d fuel ty true params v

/-- `x:float = T` — descriptor of a struct with one unmasked float32 field -/
def dFloat : Desc :=
  { insts := #[.prim .f32, .struct { tag := 1, nparams := 0, fields := [{ name := "x", ty := 0, bare := true, mask := none, tl2bit := none, isBit := false, natArgs := [] }] }],
    tlnames := #["float", "t"] }

/-- **Float emptiness is the bit pattern** (finding L2, repaired in the generator: `x != 0 || 1/x < 0`): a float32 / float64
value is "empty" — omitted where empty values are omitted — iff its bits are zero; −0.0 (`0x80000000`, `0x8000…0`) is not empty. -/
theorem float_empty_iff_zero_bits (d : Desc) (fuel ty : Nat) (k : PrimK) (n : Nat) (hd : d.get? ty = some (.prim k))
    (hk : k = .f32 ∨ k = .f64) : emptyCond d (fuel + 1) ty (.nat n) = some (n != 0) := by
  unfold emptyCond
  rcases hk with rfl | rfl <;> simp [hd]

/-- −0.0 is written as the number `-0` and reads back with its sign bit, for both float widths -/
theorem prim_roundtrip_neg_zero :
    writePrimJ .f32 (.nat 0x80000000) = .ok (.num ['-', '0']) ∧ readPrimJ .f32 (some (.num ['-', '0'])) = .ok (.nat 0x80000000) ∧
    writePrimJ .f64 (.nat 0x8000000000000000) = .ok (.num ['-', '0']) ∧
    readPrimJ .f64 (some (.num ['-', '0'])) = .ok (.nat 0x8000000000000000) := ⟨rfl, rfl, rfl, rfl⟩

/-- the L2 witness round-trips: −0.0 in an unmasked float field is written explicitly (`{"x":-0}`), read back with the
same bits, and re-encodes to the same JSON and TL1 -/
theorem neg_zero_unmasked_field_roundtrips :
    ∃ j v', writeJson dFloat 4 1 [] (.struct [some (.nat 0x80000000)]) = .ok j ∧ j = .obj [(strBytes "x", .num ['-', '0'])] ∧
      readJson dFloat false parseJson 4 1 [] (some j) = .ok v' ∧ v' = .struct [some (.nat 0x80000000)] ∧
      writeJson dFloat 4 1 [] v' = .ok j ∧
      writeTL1 dFloat 4 1 true [] v' = writeTL1 dFloat 4 1 true [] (.struct [some (.nat 0x80000000)]) :=
  ⟨_, _, rfl, rfl, rfl, rfl, rfl, rfl⟩

/-- +0.0 (bits 0) is omitted and read back as bits 0 -/
example : writeJson dFloat 4 1 [] (.struct [some (.nat 0)]) = .ok (.obj []) ∧
    readJson dFloat false parseJson 4 1 [] (some (.obj [])) = .ok (.struct [some (.nat 0)]) := ⟨rfl, rfl⟩

/-- **L3.** A NaN whose payload differs from Go's `math.NaN()` is written as `"NaN"` and reads back with the canonical payload. -/
theorem json_roundtrip_fails_at_nan_payload : ¬ JsonRoundTrip dFloat := by
  intro h
  obtain ⟨v', hr, _, ht⟩ := h 4 1 [] (.struct [some (.nat 0x7FC00001)]) _ rfl
  -- what is read back has payload `0x7FC00000`: its TL1 bytes differ in the first one
  cases hr
  cases ht

/-- `d:(dictionary int) = T` — a string-keyed dictionary -/
def dDict : Desc :=
  { insts := #[.prim .str, .prim .i32,
      .struct { tag := 0, nparams := 0, fields := [{ name := "key", ty := 0, bare := true, mask := none, tl2bit := none, isBit := false, natArgs := [] },
                                                   { name := "value", ty := 1, bare := true, mask := none, tl2bit := none, isBit := false, natArgs := [] }] },
      .dict { isTuple := false, dynamic := false, count := 0, nparams := 0, hasTL2 := false,
              elem := { name := "", ty := 2, bare := true, mask := none, tl2bit := none, isBit := false, natArgs := [] } }],
    tlnames := #["string", "int", "__dict_field", ""] }

/-- **F1.** A dictionary key that is not valid UTF-8 has no JSON: the generated writer emits `{"base64":…}` in key position
(not a JSON text — observed by the check with `encoding/json.Valid`); the model reports it as a writer error, so `json_valid`
does not speak about such values. -/
theorem dict_key_non_utf8_has_no_json :
    writeJson dDict 4 3 [] (.arr [.struct [some (.str [0xFF]), some (.nat 1)]]) = .error .shape := by rfl

example : writeJson dDict 4 3 [] (.arr [.struct [some (.str [107]), some (.nat 1)]]) = .ok (.obj [([107], .num ['1'])]) := by rfl

/-- `dFloat` round-trips at a finite float: 1.5 -/
example : ∃ j v', writeJson dFloat 4 1 [] (.struct [some (.nat 0x3FC00000)]) = .ok j ∧
    readJson dFloat false parseJson 4 1 [] (some j) = .ok v' ∧ v' = .struct [some (.nat 0x3FC00000)] :=
  ⟨_, _, rfl, rfl, rfl⟩

theorem prim_roundtrip_bool (f t : Nat) (b : Bool) :
    readPrimJ (.bool f t) (some (.bool b)) = .ok (.bool b) ∧ writePrimJ (.bool f t) (.bool b) = .ok (.bool b) := ⟨rfl, rfl⟩

theorem prim_roundtrip_string_utf8 (s : Bytes) (h : utf8Valid s = true) :
    ∃ j, writePrimJ .str (.str s) = .ok j ∧ readPrimJ .str (some j) = .ok (.str s) :=
  ⟨.str s, by simp [writePrimJ, h], rfl⟩

/-- strings that are not valid UTF-8 are written as `{"base64": …}`, never as a JSON string -/
theorem prim_string_non_utf8_is_base64 (s : Bytes) (h : utf8Valid s = false) :
    writePrimJ .str (.str s) = .ok (.obj [(kBase64, .str (base64Encode s))]) := by
  simp [writePrimJ, h]

/-- every string — valid UTF-8 or not — reads back exactly (plain JSON string, or `{"base64":…}` whose decoding is the inverse of
the encoding: `base64_roundtrip`) -/
theorem prim_roundtrip_string (s : Bytes) : ∃ j, writePrimJ .str (.str s) = .ok j ∧ readPrimJ .str (some j) = .ok (.str s) := by
  cases h : utf8Valid s with
  | true => exact prim_roundtrip_string_utf8 s h
  | false =>
    refine ⟨_, prim_string_non_utf8_is_base64 s h, ?_⟩
    simp only [readPrimJ, readStringJ, beq_self_eq_true, if_true, base64_roundtrip]

/-- unsigned integers (`#`, `uint64`, `byte`) read back exactly from the decimal text the writer emits -/
theorem prim_roundtrip_uint (k : PrimK) (bits : Nat) (hk : (k = .u32 ∧ bits = 32) ∨ (k = .u64 ∧ bits = 64) ∨ (k = .byte ∧ bits = 8))
    (n : Nat) (h : n < 2 ^ bits) : ∃ j, writePrimJ k (.nat n) = .ok j ∧ readPrimJ k (some j) = .ok (.nat n) := by
  have hr := readIntJ_natText bits n h
  rcases hk with ⟨rfl, rfl⟩ | ⟨rfl, rfl⟩ | ⟨rfl, rfl⟩
  all_goals exact ⟨_, rfl, by rw [Nat.mod_eq_of_lt h]; exact hr⟩

/-- signed integers (`int`, `long`; two's complement patterns) read back exactly, including the minimum value -/
theorem prim_roundtrip_int (k : PrimK) (bits : Nat) (hk : (k = .i32 ∧ bits = 32) ∨ (k = .i64 ∧ bits = 64))
    (n : Nat) (h : n < 2 ^ bits) : ∃ j, writePrimJ k (.nat n) = .ok j ∧ readPrimJ k (some j) = .ok (.nat n) := by
  rcases hk with ⟨rfl, rfl⟩ | ⟨rfl, rfl⟩
  all_goals exact ⟨_, rfl, readIntJ_intText _ n (by decide) h⟩

/-- ±Inf and NaN are written as the strings the reader maps back to ±Inf / the canonical NaN -/
theorem prim_float32_specials :
    writePrimJ .f32 (.nat 0x7F800000) = .ok (.str (strBytes "+Inf")) ∧
    writePrimJ .f32 (.nat 0xFF800000) = .ok (.str (strBytes "-Inf")) ∧
    writePrimJ .f32 (.nat 0x7FC00000) = .ok (.str (strBytes "NaN")) ∧
    readPrimJ .f32 (some (.str (strBytes "+Inf"))) = .ok (.nat 0x7F800000) ∧
    readPrimJ .f32 (some (.str (strBytes "-Inf"))) = .ok (.nat 0xFF800000) ∧
    readPrimJ .f32 (some (.str (strBytes "NaN"))) = .ok (.nat 0x7FC00000) := ⟨rfl, rfl, rfl, rfl, rfl, rfl⟩

theorem prim_float64_specials :
    writePrimJ .f64 (.nat 0x7FF0000000000000) = .ok (.str (strBytes "+Inf")) ∧
    writePrimJ .f64 (.nat 0xFFF0000000000000) = .ok (.str (strBytes "-Inf")) ∧
    writePrimJ .f64 (.nat 0x7FF8000000000001) = .ok (.str (strBytes "NaN")) ∧
    readPrimJ .f64 (some (.str (strBytes "+Inf"))) = .ok (.nat 0x7FF0000000000000) ∧
    readPrimJ .f64 (some (.str (strBytes "-Inf"))) = .ok (.nat 0xFFF0000000000000) ∧
    readPrimJ .f64 (some (.str (strBytes "NaN"))) = .ok (.nat 0x7FF8000000000001) := ⟨rfl, rfl, rfl, rfl, rfl, rfl⟩

end TLVerif.Props.C05
