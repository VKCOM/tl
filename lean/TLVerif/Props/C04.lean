import TLVerif.Props.C03
import TLVerif.Codec.TL1Step
/-!
# C04 — TL1-to-TL2 conversion preserves values

Statements about the models `readTL1`/`writeTL1` (`Codec/TL1.lean`) and `writeTL2`/`readTL2` (`Codec/TL2.lean`), tied to the
generated Go code by `checks/C04.py`.

`tl1_tl2_tl1`: every value decoded from TL1 bytes that satisfies `Good` survives TL1 → TL2 → TL1 as *the same value*.
`Good` says nothing about floats beyond their width: the generated TL2 writer tests floats with
`(x != 0 || 1/x < 0)` (`TypeRWPrimitive.nonZeroCondition`), so a float is left out iff its bit pattern is zero and `-0.0` is
written out (`float_empty_iff_zero_pattern`, `prim_negzero_preserved`, and `tl1_tl2_tl1_negzero_at`: the chain on the witness
bytes of lead L2, `-0.0` treated as empty, repaired in the generator); the check's fixed witness lines must pass.

Guards in `Good`, genuinely needed (each is where the generated code, or Go's `int`, does not allow
more — see `Props/C03.lean`): the value has the shape of the type and numbers fit their width (automatic for decoded
values, not proved here); no `bit` reached through an alias / `Maybe` / array element and no optional field of an empty
non-`true` struct type (TL2-only constructs: they cannot occur in a TL1-origin schema); encodings shorter than 2^63 bytes.
That `readTL1` only produces `Good` values is explored by the tie on every run, not proved; hence `ConversionPreserves`
(the statement without the hypothesis) stays a `def`: no counter-example is known.
-/
namespace TLVerif.Props.C04
open TLVerif.Prim TLVerif.Codec

/-- presence of the fields read by `readFieldsWith` (the model of the generated `ReadTL1` field loop): entry `i` is `some`
exactly when the TL1 field mask says field `i` is present, given the values read before it -/
def PresenceOK (params : List Nat) : List Field → List (Option Val) → List (Option Val) → Prop
  | [], _, [] => True
  | f :: fs, acc, v :: vs => fieldPresent f acc params = some v.isSome ∧ PresenceOK params fs (acc ++ [v]) vs
  | _, _, _ => False

/-- **ReadTL1 mirrors the TL1 masks into the TL2 presence bits.** In the model a field's hidden TL2 presence bit is the
`isSome` of its entry (that is what `encField` tests); after `ReadTL1` it equals the TL1 mask bit of the field, for
local masks (`#` fields read earlier) and external masks (nat parameters) alike. -/
theorem read_tl1_sets_tl2masks (rd : Rd) (params : List Nat) :
    ∀ (fs : List Field) (acc : List (Option Val)) (bs : Bytes) (out : List (Option Val)) (rest : Bytes),
      readFieldsWith rd params fs acc bs = .ok (out, rest) →
      ∃ new, out = acc ++ new ∧ PresenceOK params fs acc new := by
  intro fs acc bs out rest h
  fun_induction readFieldsWith rd params fs acc bs with
  | case1 => cases h; exact ⟨[], (List.append_nil _).symm, trivial⟩
  | case2 | case5 => cases h
  | case3 f fs acc bs na _ hp v bs' _ ih =>
    obtain ⟨new, hout, hpr⟩ := ih h
    exact ⟨some v :: new, by rw [hout, List.append_assoc]; rfl, hp, hpr⟩
  | case4 f fs acc bs na _ hp ih =>
    obtain ⟨new, hout, hpr⟩ := ih h
    exact ⟨none :: new, by rw [hout, List.append_assoc]; rfl, hp, hpr⟩

/-- A primitive survives the detour through TL2: whether the TL2 writer emits it or leaves it out as "empty", the TL2
reader ends up with the same value — provided it has the shape of its kind and fits its width (`goodPrim`; every float bit
pattern does, `-0.0` included). -/
theorem prim_tl1_tl2_tl1 (k : PrimK) (zie c : Bool) (v : Val) (r : Option Bytes)
    (hg : goodPrim k zie v = true) (he : encPrim k zie v = .ok r) (hlen : (optBytes r).length < 2 ^ 63) :
    (∀ b, r = some b → ∀ rest, readPrim2 k c (b ++ rest) = .ok (v, rest)) ∧ (r = none → zeroPrim k = v) := by
  obtain ⟨h1, h2⟩ := prim_roundtrip k zie c v r hg he hlen
  exact ⟨fun b hb rest => (h1 b hb).2 rest, fun hn => (h2 hn).symm⟩

/-- A float is "empty" for the TL2 writer exactly when its bit pattern is zero — like an integer. -/
theorem float_empty_iff_zero_pattern (n : Nat) :
    primEmpty .f32 (.nat n) = (n == 0) ∧ primEmpty .f64 (.nat n) = (n == 0) := ⟨rfl, rfl⟩

/-- **`-0.0` is preserved**: in an empty-test position the writer emits its four / eight bytes, the reader returns the
same pattern, so its TL1 encoding is unchanged (32- and 64-bit floats); only `+0.0` is left out. -/
theorem prim_negzero_preserved (c : Bool) (rest : Bytes) :
    encPrim .f32 true (.nat 0x80000000) = .ok (some [0, 0, 0, 0x80]) ∧
    readPrim2 .f32 c ([0, 0, 0, 0x80] ++ rest) = .ok (.nat 0x80000000, rest) ∧
    encPrim .f64 true (.nat 0x8000000000000000) = .ok (some [0, 0, 0, 0, 0, 0, 0, 0x80]) ∧
    readPrim2 .f64 c ([0, 0, 0, 0, 0, 0, 0, 0x80] ++ rest) = .ok (.nat 0x8000000000000000, rest) ∧
    encPrim .f32 true (.nat 0) = .ok none ∧ encPrim .f64 true (.nat 0) = .ok none :=
  ⟨rfl, rfl, rfl, rfl, rfl, rfl⟩

/-- **TL1 → TL2 → TL1.** A value `v` that satisfies `Good` (no condition on floats other than their width: `-0.0`, NaNs with
payload, everything) is written in TL2 and read back as *the same value* with nothing left over, so whatever `readTL2`
returns is written in TL1 as `v` is.  That `v` was decoded from TL1 bytes is not used: this is `C03.tl2_roundtrip` with no
trailing bytes, and nothing here relates `writeTL1 … v` to `bs`.  Guards: see the header. -/
theorem tl1_tl2_tl1 (cfg : Cfg) (d : Desc) (fuel ty : Nat) (bare c : Bool) (params : List Nat)
    (bs rest w2 : Bytes) (v : Val)
    (_hr : readTL1 cfg d fuel ty bare params bs = .ok (v, rest))
    (hg : Good d fuel ty false v) (hw : writeTL2 d fuel ty false v = .ok w2) :
    readTL2 d fuel ty c w2 = .ok (v, []) ∧
      ∀ v', readTL2 d fuel ty c w2 = .ok (v', []) → writeTL1 d fuel ty bare params v' = writeTL1 d fuel ty bare params v := by
  have h := (Props.C03.tl2_roundtrip d fuel ty c v w2 [] hg hw).2
  rw [List.append_nil] at h
  refine ⟨h, fun v' hv' => ?_⟩
  rw [h] at hv'
  cases hv'
  rfl

/-- the statement without the hypothesis `Good`: TL1 bytes → value → TL2 bytes → value → the same TL1 bytes.
Not proved (it needs "`readTL1` only yields `Good` values", which the tie explores); no counter-example is known since `-0.0`
is written out. -/
def ConversionPreserves : Prop :=
  ∀ (d : Desc) (fuel ty : Nat) (bs w2 w1 : Bytes) (v v' : Val),
    readTL1 {} d fuel ty true [] bs = .ok (v, []) → writeTL2 d fuel ty false v = .ok w2 →
    readTL2 d fuel ty false w2 = .ok (v', []) → writeTL1 d fuel ty true [] v' = .ok w1 → w1 = bs

/-- `s key:double = S;` (instance 0 = `double`, instance 1 = the struct, tag 1) -/
def dblDesc : Desc :=
  { insts := #[.prim .f64,
      .struct { tag := 1, nparams := 0, hasTL2 := true,
                fields := [{ name := "key", ty := 0, bare := true, mask := none, tl2bit := none, isBit := false, natArgs := [] }] }] }

theorem negzero_good : Good dblDesc 3 1 false (.struct [some (.nat 0x8000000000000000)]) :=
  ⟨Props.C03.short_of_enc rfl (by decide), by decide,
    ⟨by decide, by decide, Props.C03.short_of_enc rfl (by decide), rfl⟩, trivial⟩

/-- The chain on `-0.0` in a non-optional `double` field: the TL2 bytes carry the eight bytes of `-0.0`, the value read
back is the same, the TL1 bytes are reproduced. -/
theorem tl1_tl2_tl1_negzero_at :
    readTL1 {} dblDesc 3 1 true [] [0, 0, 0, 0, 0, 0, 0, 0x80] = .ok (.struct [some (.nat 0x8000000000000000)], []) ∧
    writeTL2 dblDesc 3 1 false (.struct [some (.nat 0x8000000000000000)]) = .ok [9, 2, 0, 0, 0, 0, 0, 0, 0, 0x80] ∧
    readTL2 dblDesc 3 1 false [9, 2, 0, 0, 0, 0, 0, 0, 0, 0x80] = .ok (.struct [some (.nat 0x8000000000000000)], []) ∧
    writeTL1 dblDesc 3 1 true [] (.struct [some (.nat 0x8000000000000000)]) = .ok [0, 0, 0, 0, 0, 0, 0, 0x80] := by
  refine ⟨rfl, rfl, ?_, rfl⟩
  exact (tl1_tl2_tl1 {} dblDesc 3 1 true false [] [0, 0, 0, 0, 0, 0, 0, 0x80] [] [9, 2, 0, 0, 0, 0, 0, 0, 0, 0x80]
    (.struct [some (.nat 0x8000000000000000)]) rfl negzero_good rfl).1

/-! the witness line of lead L2 (`codec.x2 cases … cases.testDictAny 1 db4d2b25 01000000 0000000000000080 07000000`):
`cases.testDictAny dict:vector<dictionaryAnyField<double,int>>` with the single entry `-0.0 ↦ 7`.
Instances: 0 `double`, 1 `int`, 2 `dictionaryAnyField<double,int>`, 3 the array, 4 `vector<…>`, 5 `cases.testDictAny`. -/
def dictAnyDesc : Desc :=
  { insts := #[.prim .f64, .prim .i32,
      .struct { tag := 0xe466c347, nparams := 0, hasTL2 := true,
                fields := [{ name := "key", ty := 0, bare := true, mask := none, tl2bit := none, isBit := false, natArgs := [] },
                           { name := "value", ty := 1, bare := true, mask := none, tl2bit := none, isBit := false, natArgs := [] }] },
      .array { isTuple := false, dynamic := false, count := 0, nparams := 0, hasTL2 := true,
               elem := { name := "", ty := 2, bare := true, mask := none, tl2bit := none, isBit := false, natArgs := [] } },
      .struct { tag := 0x1cb5c415, nparams := 0, hasTL2 := true, isAlias := true, isTypedef := true, isUnwrap := true,
                fields := [{ name := "", ty := 3, bare := true, mask := none, tl2bit := none, isBit := false, natArgs := [] }] },
      .struct { tag := 0x252b4ddb, nparams := 0, hasTL2 := true,
                fields := [{ name := "dict", ty := 4, bare := true, mask := none, tl2bit := none, isBit := false, natArgs := [] }] }] }

def dictAnyBytes : Bytes :=
  [0xdb, 0x4d, 0x2b, 0x25, 1, 0, 0, 0, 0, 0, 0, 0, 0, 0, 0, 0x80, 7, 0, 0, 0]

def dictAnyVal : Val := .struct [some (.struct [some (.arr [.struct [some (.nat 0x8000000000000000), some (.nat 7)]])])]

def dictAnyTL2 : Bytes := [0x11, 2, 0x0f, 1, 0x0d, 6, 0, 0, 0, 0, 0, 0, 0, 0x80, 7, 0, 0, 0]

/-- on the witness bytes: decode (boxed), convert, and the TL2 bytes contain `0000000000000080`; re-encoding the
value gives back the witness bytes -/
example :
    readTL1 {} dictAnyDesc 8 5 false [] dictAnyBytes = .ok (dictAnyVal, []) ∧
    writeTL2 dictAnyDesc 8 5 false dictAnyVal = .ok dictAnyTL2 ∧
    writeTL1 dictAnyDesc 8 5 false [] dictAnyVal = .ok dictAnyBytes := ⟨rfl, rfl, rfl⟩

example : readTL2 dictAnyDesc 8 5 false dictAnyTL2 = .ok (dictAnyVal, []) := by
  -- as at `C03.bit_alias_roundtrip_fails`
  set_option smartUnfolding false in rfl

end TLVerif.Props.C04
