import TLVerif.Codec.TL2RoundTrip
/-!
# C03 — TL2 binary round trip of generated Go code

All statements are about the model `TLVerif/Codec/TL2.lean` of the generated TL2 code (tied to the Go code on every run by
`checks/C03.py`).

Full-strength statement (`RoundTripAll`): for every descriptor, type and value, whatever the writer emits reads back as
that value, consuming exactly those bytes.
It is **false** for the generated code as it stands (`roundtrip_all_fails`, witness: an alias of `bit`; also `Maybe<bit>`):
the writer emits no byte for the `bit`, the reader consumes one.  `tl2_roundtrip` proves it under the explicit guard
`Good` (`Codec/TL2RoundTrip.lean`; `write_total`: writing succeeds there, `tl2_rewrite_identical`: re-writing gives the same
bytes), whose only non-shape conditions are: no `bit` reached through an alias / `Maybe` /
array element, no optional field of an empty non-`true` struct type, encodings shorter than 2^63 bytes.  Floats are raw
bit patterns and every pattern is covered: the writer leaves a float out iff its pattern is zero (`(x != 0 || 1/x < 0)`
in the generated code), so `-0.0` is written and read back like any other value (see C04).
-/
namespace TLVerif.Props.C03
open TLVerif.Prim TLVerif.Codec

/-- **The layout pass agrees with the write pass.** For every descriptor, type, value and `optimizeEmpty` flag, the size
`CalculateLayout` computes (with the Go counters `currentSize` / `lastUsedByte`, mask bytes every 8 fields, truncation to
the last used byte) is the length of what `InternalWriteTL2` emits, and "field left out" coincides; model errors coincide. -/
theorem layout_agrees_write (d : Desc) (fuel ty : Nat) (zie : Bool) (v : Val) :
    layoutTL2 d fuel ty zie v = (encTL2 d fuel ty zie v).map (Option.map List.length) :=
  layout_agrees_enc d fuel ty zie v

/-- The Go panic "tl2: mismatch between calculate and write" is unreachable: the two-pass writer is the direct encoder. -/
theorem write_never_panics (d : Desc) (fuel ty : Nat) (v : Val) :
    writeTL2Checked d fuel ty v =
      (match encTL2 d fuel ty false v with
       | .ok b => .ok (optBytes b)
       | .error e => .err e) := by
  unfold writeTL2Checked
  rw [layout_agrees_enc]
  cases encTL2 d fuel ty false v with
  | error e => rfl
  | ok b =>
    simp only [Except.map]
    rw [optBytes_length, if_pos rfl]

/-- Writing is total on the covered values: no shape, descriptor or fuel error, no panic. -/
theorem write_total (d : Desc) (fuel ty : Nat) (v : Val) (hg : Good d fuel ty false v) :
    ∃ bs, writeTL2 d fuel ty false v = .ok bs ∧ writeTL2Checked d fuel ty v = .ok bs := by
  obtain ⟨r, hr⟩ := good_enc_ok d fuel ty false v hg
  refine ⟨optBytes r, ?_, ?_⟩
  · unfold writeTL2; rw [hr]
  · rw [write_never_panics, hr]

/-- One struct body, for any field codecs that round trip (`FieldCodecs`): the reader recovers every field from the
bytes the writer emitted — any number of fields (any number of mask bytes), trailing unused mask bytes dropped, a body
that ends early read as "all remaining fields absent". -/
theorem body_roundtrip {good : Nat → Bool → Val → Prop} {enc : Enc} {rd : Rd2} {z : Nat → Val}
    {skip : Nat → Bool → Bytes → Except CErr Bytes} {plainTrue isTrue : Nat → Bool}
    (H : FieldCodecs good enc rd z)
    (HT : ∀ ty r, plainTrue ty = true → enc ty true (z ty) = .ok r → r = none)
    (Hpt : ∀ ty, plainTrue ty = true → isTrue ty = true)
    (ui : Nat) (hui : ui < 2 ^ 63) (fs : List Field) (vs : List (Option Val)) (rs : List (Option Bytes))
    (hg : GoodFields good z plainTrue isTrue fs vs) (he : encFieldsWith enc fs vs = .ok rs)
    (hne : bodyTL2 ui rs ≠ []) :
    ∃ block cur1, readHead (bodyTL2 ui rs) = .ok (block, ui, cur1) ∧ (block.toNat % 2 == 1) = (ui != 0) ∧
      readFields2With rd skip z isTrue 0 block fs cur1 = .ok vs :=
  body_roundtrip_ext H HT Hpt ui hui fs vs rs rs hg he (List.prefix_refl rs) hne

theorem tl2_roundtrip_prim (k : PrimK) (zie c : Bool) (v : Val) (r : Option Bytes)
    (hg : goodPrim k zie v = true) (he : encPrim k zie v = .ok r) (hlen : (optBytes r).length < 2 ^ 63) :
    (∀ b, r = some b → b ≠ [] ∧ ∀ rest, readPrim2 k c (b ++ rest) = .ok (v, rest)) ∧ (r = none → v = zeroPrim k) :=
  prim_roundtrip k zie c v r hg he hlen

/-- **Round trip.** For every descriptor, every type and every covered value: the bytes `WriteTL2` produces are non-empty,
`ReadTL2` accepts them, consumes exactly them (any suffix is left) and returns the value. -/
theorem tl2_roundtrip (d : Desc) (fuel ty : Nat) (c : Bool) (v : Val) (bs rest : Bytes)
    (hg : Good d fuel ty false v) (hw : writeTL2 d fuel ty false v = .ok bs) :
    bs ≠ [] ∧ readTL2 d fuel ty c (bs ++ rest) = .ok (v, rest) := by
  unfold writeTL2 at hw
  cases he : encTL2 d fuel ty false v with
  | error e => rw [he] at hw; cases hw
  | ok r =>
    rw [he] at hw
    cases hw
    -- `RT` unfolds to `ReadsBack`
    exact ReadsBack.present (tl2_roundtrip_gen d fuel ty false c v r hg he) (enc_false_some d fuel ty v r he) rest

theorem tl2_rewrite_identical (d : Desc) (fuel ty : Nat) (c : Bool) (v v' : Val) (bs rest rest' : Bytes)
    (hg : Good d fuel ty false v) (hw : writeTL2 d fuel ty false v = .ok bs)
    (hr : readTL2 d fuel ty c (bs ++ rest) = .ok (v', rest')) :
    rest' = rest ∧ writeTL2 d fuel ty false v' = .ok bs := by
  have := (tl2_roundtrip d fuel ty c v bs rest hg hw).2
  rw [this] at hr
  cases hr
  exact ⟨rfl, hw⟩

/-- descriptor of `y.flag <=> bit;` (instance 0 = `bit`, instance 1 = the alias) -/
def bitAliasDesc : Desc :=
  { insts := #[.prim .bit,
      .struct { tag := 0, nparams := 0, isAlias := true, isTypedef := true, hasTL2 := true, originTL2 := true,
                fields := [{ name := "", ty := 0, bare := true, mask := none, tl2bit := none, isBit := true, natArgs := [] }] }] }

def RoundTripAll : Prop :=
  ∀ (d : Desc) (fuel ty : Nat) (v : Val) (bs : Bytes),
    writeTL2 d fuel ty false v = .ok bs → readTL2 d fuel ty false bs = .ok (v, [])

/-- Witness (tied by the fixed lines of `checks/C03.py`, schema `checks/data/tl2bit.tl2`): `true` of type `y.flag` is written
as zero bytes, and reading zero bytes fails with `io.ErrUnexpectedEOF`. -/
theorem bit_alias_roundtrip_fails :
    writeTL2 bitAliasDesc 2 1 false (.struct [some (.bool true)]) = .ok [] ∧
    readTL2 bitAliasDesc 2 1 false [] = .error .eof := by
  -- `readTL2` matches on its fuel once more inside the union branch, where the elaborator's smart unfolding stops;
  -- with it switched off the compiled recursion is unfolded and the vector evaluates
  set_option smartUnfolding false in exact ⟨rfl, rfl⟩

theorem roundtrip_all_fails : ¬ RoundTripAll := by
  intro h
  have := h bitAliasDesc 2 1 (.struct [some (.bool true)]) [] bit_alias_roundtrip_fails.1
  rw [bit_alias_roundtrip_fails.2] at this
  cases this

/-! ### the guard is satisfiable by non-trivial values -/

/-- the size conjunct of `Good` at a value whose encoding evaluates: that encoding is the only one to measure -/
theorem short_of_enc {x : Except CErr (Option Bytes)} {r₀ : Option Bytes} (h : x = .ok r₀)
    (hl : (optBytes r₀).length < 2 ^ 63) : ∀ r, x = .ok r → (optBytes r).length < 2 ^ 63 :=
  fun _ hr => Except.ok.inj (h.symm.trans hr) ▸ hl

/-- `p = a:int32 b:string c?:int32` -/
def exDesc : Desc :=
  { insts := #[.prim .i32, .prim .str,
      .struct { tag := 0, nparams := 0, hasTL2 := true,
                fields := [{ name := "a", ty := 0, bare := true, mask := none, tl2bit := none, isBit := false, natArgs := [] },
                           { name := "b", ty := 1, bare := true, mask := none, tl2bit := none, isBit := false, natArgs := [] },
                           { name := "c", ty := 0, bare := true, mask := none, tl2bit := some 0, isBit := false, natArgs := [] }] }] }

def exVal : Val := .struct [some (.nat 7), some (.str [104, 105]), none]

example : writeTL2 exDesc 3 2 false exVal = .ok [8, 6, 7, 0, 0, 0, 2, 104, 105] := rfl

example : Good exDesc 3 2 false exVal :=
  ⟨short_of_enc rfl (by decide), by decide, ⟨by decide, by decide, short_of_enc rfl (by decide), rfl⟩,
    ⟨by decide, by decide, short_of_enc rfl (by decide), rfl⟩, ⟨by decide, by decide, trivial⟩, trivial⟩

end TLVerif.Props.C03
