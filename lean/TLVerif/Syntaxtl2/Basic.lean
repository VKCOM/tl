import TLVerif.Generated.Syntaxtl2Facts
/-! Basic types of the TL2 syntax model: byte strings, positions, tokens, the result monad with an explicit
`panic` (Go run-time panic / log.Panicf) and `nofuel` (recursion bound of the model exhausted) outcome.
Core Lean and the generated constants of `Generated.Syntaxtl2Facts` only. Mirrors internal/tlast/tllexer.go (Position, token) and tlparser_error.go (ParseError). -/
namespace TLVerif.Syntaxtl2
open TLVerif.Facts

abbrev Bytes := List UInt8

/-- ASCII string literal as bytes. -/
def bs (s : String) : Bytes := s.toList.map (fun c => UInt8.ofNat c.toNat)

/-- tllexer.go `Position` (fileContent/file are global to one parse and kept outside). -/
structure Pos where
  line : Nat
  col : Nat
  slo : Nat   -- startLineOffset
  off : Nat
deriving DecidableEq, Repr, Inhabited

structure Token where
  ty : Int
  val : Bytes
  pos : Pos
deriving DecidableEq, Repr, Inhabited

/-- tlparser_error.go `ParseError` without the message: the position range. -/
structure PErr where
  outer : Pos
  b : Pos
  e : Pos
deriving DecidableEq, Repr, Inhabited

/-- `parseErrToken(err, tok, outer)`. -/
def errTok (tok : Token) (outer : Pos) : PErr :=
  { outer := outer, b := tok.pos,
    e := { tok.pos with off := tok.pos.off + tok.val.length, col := tok.pos.col + tok.val.length } }

inductive Res (α : Type) where
  | ok (a : α)
  | panic
  | nofuel
deriving Repr

namespace Res
@[inline] def bind {α β : Type} (m : Res α) (f : α → Res β) : Res β :=
  match m with
  | .ok a => f a
  | .panic => .panic
  | .nofuel => .nofuel
instance : Monad Res where
  pure := .ok
  bind := Res.bind
@[simp] theorem pure_eq {α : Type} (a : α) : (pure a : Res α) = .ok a := rfl
@[simp] theorem ok_bind {α β : Type} (a : α) (f : α → Res β) : (Res.ok a >>= f) = f a := rfl
@[simp] theorem panic_bind {α β : Type} (f : α → Res β) : ((Res.panic : Res α) >>= f) = .panic := rfl
@[simp] theorem nofuel_bind {α β : Type} (f : α → Res β) : ((Res.nofuel : Res α) >>= f) = .nofuel := rfl
end Res

/-! Token type constants (regenerated from tllexer.go; see Generated/Syntaxtl2Facts.lean). -/
namespace T
def crc32hash : Int := Syntaxtl2.crc32hash
def annotation : Int := Syntaxtl2.annotation
def numberSign : Int := Syntaxtl2.numberSign
def number : Int := Syntaxtl2.number
def comment : Int := Syntaxtl2.comment
def undefined : Int := Syntaxtl2.undefined
def lcIdent : Int := Syntaxtl2.lcIdent
def ucIdent : Int := Syntaxtl2.ucIdent
def lcIdentNS : Int := Syntaxtl2.lcIdentNS
def ucIdentNS : Int := Syntaxtl2.ucIdentNS
def eof : Int := Syntaxtl2.eof
def functionSign : Int := Syntaxtl2.functionSign
def newLine : Int := Syntaxtl2.newLine
def tl2alias : Int := Syntaxtl2.tl2alias
def tl2depName : Int := Syntaxtl2.tl2depName
def tl2typeSign : Int := Syntaxtl2.tl2typeSign
def typesSection : Int := Syntaxtl2.typesSection
def functionsSection : Int := Syntaxtl2.functionsSection
def lRound : Int := (Syntaxtl2.lRoundBracket : Nat)
def rRound : Int := (Syntaxtl2.rRoundBracket : Nat)
def lSquare : Int := (Syntaxtl2.lSquareBracket : Nat)
def rSquare : Int := (Syntaxtl2.rSquareBracket : Nat)
def lCurly : Int := (Syntaxtl2.lCurlyBracket : Nat)
def rCurly : Int := (Syntaxtl2.rCurlyBracket : Nat)
def lAngle : Int := (Syntaxtl2.lAngleBracket : Nat)
def rAngle : Int := (Syntaxtl2.rAngleBracket : Nat)
def colon : Int := (Syntaxtl2.colon : Nat)
def semiColon : Int := (Syntaxtl2.semiColon : Nat)
def dotSign : Int := (Syntaxtl2.dotSign : Nat)
def commaSign : Int := (Syntaxtl2.commaSign : Nat)
def percentSign : Int := (Syntaxtl2.percentSign : Nat)
def whiteSpace : Int := (Syntaxtl2.whiteSpace : Nat)
def tab : Int := (Syntaxtl2.tab : Nat)
def equalSign : Int := (Syntaxtl2.equalSign : Nat)
def questionMark : Int := (Syntaxtl2.questionMark : Nat)
def asterisk : Int := (Syntaxtl2.asterisk : Nat)
def plus : Int := (Syntaxtl2.plus : Nat)
def exclamation : Int := (Syntaxtl2.exclamation : Nat)
def verticalBar : Int := (Syntaxtl2.verticalBar : Nat)
def underscore : Int := (Syntaxtl2.underscore : Nat)
end T

end TLVerif.Syntaxtl2
