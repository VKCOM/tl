import TLVerif.Syntaxtl2.Lexer
/-! Lemmas about the lexer model: `advance` never slices out of range, the loop terminates within `len(s)+1`
iterations, tokens recombine to the input, tokens do not overlap, their positions are ordered and inside the text, the
`eof` token is last and unique. -/
namespace TLVerif.Syntaxtl2

/-- A string literal is `String.ofList` of its characters by definition; rewriting with this before a kernel evaluation
spares the kernel the UTF-8 encoding and decoding behind `String.toList` of a literal. -/
theorem bs_ofList (l : List Char) : bs (String.ofList l) = l.map (fun c => UInt8.ofNat c.toNat) :=
  congrArg _ String.toList_ofList

theorem spanLen_le (p : UInt8 → Bool) (s : Bytes) : spanLen p s ≤ s.length := by
  fun_induction spanLen p s with
  | case1 => exact Nat.le_refl 0
  | case2 c t _ ih => exact Nat.succ_le_succ ih
  | case3 => exact Nat.zero_le _

theorem nameIdentLen_le (s : Bytes) : nameIdentLen s ≤ s.length := by
  fun_cases nameIdentLen s with
  | case1 => exact Nat.le_refl 0
  | case2 c t => exact Nat.succ_le_succ (spanLen_le identChar t)
  | case3 => exact Nat.zero_le _

theorem isPrefixOf_length {a b : Bytes} (h : a.isPrefixOf b = true) : a.length ≤ b.length := by
  have := List.isPrefixOf_iff_prefix.mp h
  exact this.length_le

theorem utf8BadAux_bound (f : Nat) (s : Bytes) (i r : Nat) (h : utf8BadAux f s i = some r) :
    i ≤ r ∧ r < i + s.length := by
  fun_induction utf8BadAux f s i with
  | case1 | case2 => cases h
  | case3 => cases h; simp
  | case4 f c t i sz hsz ih =>
    have hpos := utf8Size_pos c t sz hsz
    have := ih h
    simp only [List.length_drop, List.length_cons] at *
    omega

theorem utf8Bad_bound (s : Bytes) (r : Nat) (h : utf8Bad s 0 = some r) : r < s.length := by
  have := utf8BadAux_bound _ _ _ _ h
  omega

def notDot (c : UInt8) : Bool := c.toNat != 46

def letterTys : List Int := [T.tl2typeSign, T.lcIdentNS, T.ucIdentNS, T.lcIdent, T.ucIdent]

/-- `P` is what is known of the token type: that it is not `eof` is what `Good` asks; the identifier branch proves
`· ∈ letterTys`, for the third clause of `TokWF`. -/
def StepOK (s : Bytes) (st : LexStep) (P : Int → Prop := (· ≠ T.eof)) : Prop :=
  match st with
  | .tok ty extra _ => extra + 1 ≤ s.length ∧ P ty ∧
      ((ty = T.lcIdentNS ∨ ty = T.ucIdentNS) → spanLen notDot (s.take (extra + 1)) < extra + 1)
  | .err none extra => extra + 1 ≤ s.length
  | .err (some pre) extra => pre + extra + 1 ≤ s.length

section
variable {s : Bytes} {P : Int → Prop}

theorem StepOK.ite {p : Prop} [Decidable p] {a b : LexStep} (ha : p → StepOK s a P) (hb : ¬p → StepOK s b P) :
    StepOK s (if p then a else b) P := by
  split
  · exact ha ‹_›
  · exact hb ‹_›

theorem StepOK.tok {ty : Int} {extra : Nat} {nl : Bool} (h : extra + 1 ≤ s.length)
    (hty : P ty ∧ ty ≠ T.lcIdentNS ∧ ty ≠ T.ucIdentNS) : StepOK s (.tok ty extra nl) P :=
  ⟨h, hty.1, fun h' => (h'.elim hty.2.1 hty.2.2).elim⟩

theorem StepOK.err0 {c : UInt8} {t : Bytes} : StepOK (c :: t) (.err none 0) P := Nat.succ_le_succ (Nat.zero_le _)

theorem StepOK.tok0 {c : UInt8} {t : Bytes} {ty : Int} {nl : Bool} (hty : P ty ∧ ty ≠ T.lcIdentNS ∧ ty ≠ T.ucIdentNS) :
    StepOK (c :: t) (.tok ty 0 nl) P := .tok (Nat.succ_le_succ (Nat.zero_le _)) hty

theorem StepOK.mono {st : LexStep} {Q : Int → Prop} (h : StepOK s st P) (hpq : ∀ ty, P ty → Q ty) : StepOK s st Q := by
  cases st with
  | tok ty extra nl => exact ⟨h.1, hpq ty h.2.1, h.2.2⟩
  | err pre extra => cases pre <;> exact h

end

theorem pred_succ_le {k : Nat} {c : UInt8} {t : Bytes} (h : k ≤ (c :: t).length) : k - 1 + 1 ≤ (c :: t).length := by
  simp only [List.length_cons] at h ⊢
  omega

theorem lexCR_ok (c : UInt8) (t : Bytes) : StepOK (c :: t) (lexCR t) := by
  cases t with
  | nil => exact .err0
  | cons c1 t => exact .ite (fun _ => .tok (Nat.succ_le_succ (Nat.succ_le_succ (Nat.zero_le _))) (by decide)) (fun _ => .err0)

theorem lexAt_ok (c : UInt8) (t : Bytes) : StepOK (c :: t) (lexAt t) := by
  have hw : nameIdentLen t + 1 ≤ (c :: t).length := Nat.succ_le_succ (nameIdentLen_le t)
  cases t with
  | nil => exact hw
  | cons c1 t => exact .ite (fun _ => hw) (fun _ => .tok hw (by decide))

theorem lexSlash_ok (c : UInt8) (t : Bytes) : StepOK (c :: t) (lexSlash (c :: t)) := by
  fun_cases lexSlash (c :: t) with
  | case1 _ _ i hb =>
    have := utf8Bad_bound _ _ hb
    simp only [List.length_take] at this
    show i + 0 + 1 ≤ _
    omega
  | case2 => exact .tok (pred_succ_le (spanLen_le _ _)) (by decide)
  | case3 _ h => exact isPrefixOf_length h
  | case4 => exact .err0

theorem lexSection_ok (c : UInt8) (t : Bytes) : StepOK (c :: t) (lexSection (c :: t)) :=
  .ite (fun h => .tok (pred_succ_le (isPrefixOf_length h)) (by decide))
    (fun _ => .ite (fun h => .tok (pred_succ_le (isPrefixOf_length h)) (by decide)) (fun _ => .tok0 (by decide)))

theorem lexNumberSign_ok (c : UInt8) (t : Bytes) : StepOK (c :: t) (lexNumberSign t) := by
  have hk : spanLen identChar t + 1 ≤ (c :: t).length := Nat.succ_le_succ (spanLen_le _ t)
  exact .ite (fun _ => .tok0 (by decide)) (fun _ => .ite (fun _ => hk) (fun _ => .tok hk (by decide)))

theorem lexUnderscore_ok (c : UInt8) (t : Bytes) : StepOK (c :: t) (lexUnderscore t) := by
  have hw : nameIdentLen t + 1 ≤ (c :: t).length := Nat.succ_le_succ (nameIdentLen_le t)
  exact .ite (fun _ => .tok0 (by decide)) (fun _ => .tok hw (by decide))

theorem lexNumber_ok (c : UInt8) (t : Bytes) : StepOK (c :: t) (lexNumber (c :: t)) :=
  have hk := pred_succ_le (spanLen_le identChar (c :: t))
  .ite (fun _ => .tok hk (by decide)) (fun _ => hk)

theorem spanLen_append_le (p : UInt8 → Bool) (a : Bytes) {d : UInt8} (b : Bytes) (hd : p d = false) :
    spanLen p (a ++ d :: b) ≤ a.length := by
  induction a with
  | nil => simp [spanLen, hd]
  | cons x a ih => simp only [List.cons_append, spanLen, List.length_cons]; split <;> omega

theorem lexLetter_ok (c : UInt8) (s : Bytes) (hs : 1 ≤ s.length) : StepOK s (lexLetter c s) (· ∈ letterTys) := by
  have hw := nameIdentLen_le s
  have hid {ty : Int} (hty : ty ∈ letterTys ∧ ty ≠ T.lcIdentNS ∧ ty ≠ T.ucIdentNS) :
      StepOK s (.tok ty (nameIdentLen s - 1) false) (· ∈ letterTys) := .tok (by omega) hty
  have hns {d : UInt8} {r : Bytes} (heq : s.drop (nameIdentLen s) = d :: r)
      (hd : (d.toNat == 46 && nameIdentLen r != 0) = true) {ty : Int} (hty : ty ∈ letterTys) :
      StepOK s (.tok ty (nameIdentLen s + nameIdentLen r) false) (· ∈ letterTys) := by
    have hlen : nameIdentLen s + (r.length + 1) = s.length := by
      have := congrArg List.length heq
      simp only [List.length_drop, List.length_cons] at this
      omega
    have hw2 := nameIdentLen_le r
    refine ⟨by omega, hty, fun _ => ?_⟩
    simp only [Bool.and_eq_true, beq_iff_eq] at hd
    rw [Nat.add_assoc, List.take_add, heq, List.take_succ_cons]
    refine Nat.lt_of_le_of_lt (spanLen_append_le _ _ _ (by simp [notDot, hd.1])) ?_
    have := List.length_take_le (nameIdentLen s) s
    omega
  fun_cases lexLetter c s with
  | case1 _ h => -- the word `Type`
    refine .tok ?_ (by decide)
    have := congrArg List.length (eq_of_beq h)
    simp only [List.length_take, typeWord] at this
    have h4 : (bs "Type").length = 4 := rfl
    omega
  -- `Ns.name`, an error: it needs only the length bound of `hns`, taken at some type
  | case2 _ _ d r heq _ hd => exact (hns heq hd (ty := T.lcIdentNS) (by decide)).1
  | case3 _ _ d _ c2 r _ heq _ hd => exact hns heq hd (by decide) -- `ns.name`
  | case4 _ _ d _ c2 r _ heq _ hd => exact hns heq hd (by decide) -- `ns.Name`
  | case5 => exact hs -- a dot and nothing behind it: the arm `w2 ≠ 0` excludes
  | case6 | case7 | case8 | case9 => exact hid (by decide) -- no namespace, lower or upper case, with or without a rest

theorem nextStep_ok (c : UInt8) (t : Bytes) : StepOK (c :: t) (nextStep c t) := by
  unfold nextStep
  dsimp only
  refine .ite (fun _ => .tok0 ?_) (fun _ => ?_)
  · -- a primitive is its own (non-negative) token type; the named types are negative
    simp only [T.eof, T.lcIdentNS, T.ucIdentNS, Facts.Syntaxtl2.eof, Facts.Syntaxtl2.lcIdentNS, Facts.Syntaxtl2.ucIdentNS]
    omega
  refine .ite (fun _ => lexCR_ok c t) (fun _ => ?_)
  refine .ite (fun _ => .tok0 (by decide)) (fun _ => ?_)
  refine .ite (fun _ => .ite (fun h => .tok (isPrefixOf_length h) (by decide)) (fun _ => .tok0 (by decide))) (fun _ => ?_)
  refine .ite (fun _ => .ite (fun h => .tok (isPrefixOf_length h) (by decide)) (fun _ => .tok0 (by decide))) (fun _ => ?_)
  refine .ite (fun _ => lexAt_ok c t) (fun _ => ?_)
  refine .ite (fun _ => lexSlash_ok c t) (fun _ => ?_)
  refine .ite (fun _ => lexSection_ok c t) (fun _ => ?_)
  refine .ite (fun _ => lexNumberSign_ok c t) (fun _ => ?_)
  refine .ite (fun _ => lexUnderscore_ok c t) (fun _ => ?_)
  refine .ite (fun _ => lexNumber_ok c t) (fun _ => ?_)
  exact .ite (fun _ => (lexLetter_ok c (c :: t) (Nat.succ_le_succ (Nat.zero_le _))).mono (by decide)) (fun _ => .err0)

theorem nextStep_T (c : UInt8) (t : Bytes) (h : c.toNat = 84) : nextStep c t = lexLetter c (c :: t) := by
  have : c = 84 := UInt8.toNat_inj.mp (by rw [h]; rfl)
  subst this
  rfl

/-- what the parser relies on about token texts; the third clause is for `parseTemplArg`, which compares a token's text
with `Type` and then skips white space and pops, expecting that very token. -/
def TokWF (t : Token) : Prop :=
  (t.ty ≠ T.eof → 1 ≤ t.val.length) ∧
  ((t.ty = T.lcIdentNS ∨ t.ty = T.ucIdentNS) → spanLen notDot t.val < t.val.length) ∧
  (∀ c r, t.val = c :: r → c.toNat = 84 → t.ty ∈ letterTys)

/-- the lexer keeps line, column and line start of a position consistent; C20's `parse_error_columns` is this, of an error. -/
def PosWF (p : Pos) : Prop := p.slo ≤ p.off ∧ p.col = p.off - p.slo + 1 ∧ 1 ≤ p.line

theorem PosWF.adv {p : Pos} (h : PosWF p) (n : Nat) : PosWF (advPos p n) :=
  ⟨Nat.le_add_right_of_le h.1,
    show p.col + n = p.off + n - p.slo + 1 by rw [h.2.1, Nat.sub_add_comm h.1, Nat.add_right_comm], h.2.2⟩

theorem PosWF.nl {p : Pos} (h : PosWF p) : PosWF (nlPos p) :=
  ⟨Nat.le_refl _, show 1 = p.off - p.off + 1 by rw [Nat.sub_self], Nat.le_succ_of_le h.2.2⟩

theorem PosWF.step {p : Pos} (h : PosWF p) (n : Nat) (nl : Bool) :
    PosWF (if nl = true then nlPos (advPos p n) else advPos p n) ∧
    (if nl = true then nlPos (advPos p n) else advPos p n).off = p.off + n ∧
    p.slo ≤ (if nl = true then nlPos (advPos p n) else advPos p n).slo := by
  cases nl with
  | false => exact ⟨h.adv n, rfl, Nat.le_refl _⟩
  | true => exact ⟨(h.adv n).nl, rfl, Nat.le_trans h.1 (Nat.le_add_right _ _)⟩

/-- what slicing comments and printing an error's context rely on. -/
def TokIn (N : Nat) (t : Token) : Prop := t.pos.slo ≤ t.pos.off ∧ t.pos.off + t.val.length ≤ N

/-- Invariant of the token list and of every iterator over it. `[]` is good so that the predicate is closed under taking
suffixes; that an iterator is not empty is tracked separately. -/
def Good (N : Nat) : List Token → Prop
  | [] => True
  | [t] => t.ty = T.eof ∧ TokIn N t
  | t :: t' :: ts =>
    t.ty ≠ T.eof ∧ t.pos.slo ≤ t.pos.off ∧ t.pos.off + t.val.length ≤ t'.pos.off ∧ t.pos.slo ≤ t'.pos.slo ∧
    Good N (t' :: ts)

theorem lexLoop_spec (f : Nat) : ∀ (s : Bytes) (pos : Pos) (N : Nat), s.length < f → pos.off + s.length = N → PosWF pos →
    ∃ o, lexLoop f s pos = .ok o ∧ recombine o.toks o.rest = s ∧
      (∃ t ts, o.toks = t :: ts ∧ t.pos = pos) ∧ (∀ t ∈ o.toks, PosWF t.pos) ∧
      (o.err = none → Good N o.toks ∧ o.rest = [] ∧ ∀ t ∈ o.toks, TokWF t) ∧
      (∀ e, o.err = some e → ∃ tok ∈ o.toks, e = errTok tok tok.pos ∧ TokIn N tok) := by
  induction f with
  | zero => intro s pos N h; omega
  | succ f ih =>
    intro s pos N hf hN hp
    cases s with
    | nil =>
      refine ⟨_, rfl, rfl, ⟨_, _, rfl, rfl⟩, fun t ht => List.mem_singleton.mp ht ▸ hp, fun _ => ⟨?_, rfl, ?_⟩,
        fun e h => nomatch h⟩
      · exact ⟨rfl, hp.1, by simp only [List.length_nil] at hN ⊢; omega⟩
      · intro t ht
        rw [List.mem_singleton.mp ht]
        have hns : (T.eof = T.lcIdentNS ∨ T.eof = T.ucIdentNS) → False := by decide
        exact ⟨fun h => absurd rfl h, fun h => (hns h).elim, fun c r h => nomatch h⟩
    | cons c t =>
      have hok := nextStep_ok c t
      simp only [List.length_cons] at hf hN
      rw [lexLoop]; unfold lexCons
      cases hstep : nextStep c t with
      | tok ty extra nl =>
        rw [hstep] at hok
        obtain ⟨hle, hne, hdot⟩ := hok
        have hlen := List.length_take_of_le hle
        have hle' : extra ≤ t.length := Nat.le_of_succ_le_succ hle
        simp only [hle', ↓reduceIte]
        obtain ⟨hp2, hoff2, hslo2⟩ := hp.step (extra + 1) nl
        obtain ⟨o, ho, hrec, ⟨t', ts, hts, htpos⟩, hpw, hgood, herr⟩ :=
          ih (t.drop extra) _ N (by simp only [List.length_drop]; omega)
            (by rw [hoff2]; simp only [List.length_drop]; omega) hp2
        rw [ho]
        refine ⟨_, rfl, ?_, ⟨_, _, rfl, rfl⟩, ?_, ?_, ?_⟩
        · simp only [recombine, List.map_cons, List.flatten_cons, List.append_assoc] at hrec ⊢
          rw [hrec, List.take_succ_cons, List.cons_append, List.take_append_drop]
        · exact List.forall_mem_cons.mpr ⟨hp, hpw⟩
        · intro he
          obtain ⟨hg, hr, hwf⟩ := hgood he
          refine ⟨?_, hr, ?_⟩
          · simp only [hts, Good] at hg ⊢
            exact ⟨hne, hp.1, by rw [htpos, hoff2, hlen]; exact Nat.le_refl _, by rw [htpos]; exact hslo2, hg⟩
          · refine List.forall_mem_cons.mpr ⟨?_, hwf⟩
            refine ⟨fun _ => by rw [hlen]; omega, fun h => by rw [hlen]; exact hdot h, fun c' r' hv hc' => ?_⟩
            -- a token starting with `T` comes from the identifier branch
            simp only [List.take_succ_cons, List.cons.injEq] at hv
            have h2 := lexLetter_ok c (c :: t) (Nat.succ_le_succ (Nat.zero_le _))
            rw [← nextStep_T c t (hv.1 ▸ hc'), hstep] at h2
            exact h2.2.1
        · intro e he
          obtain ⟨tok, hm, h1, h2⟩ := herr e he
          exact ⟨tok, List.mem_cons_of_mem _ hm, h1, h2⟩
      | err pre extra =>
        rw [hstep] at hok
        cases pre with
        | none =>
          have hle : extra ≤ t.length := Nat.le_of_succ_le_succ hok
          simp only [hle, ↓reduceIte]
          refine ⟨_, rfl, ?_, ⟨_, _, rfl, rfl⟩, fun tk htk => List.mem_singleton.mp htk ▸ hp, nofun, ?_⟩
          · simp only [recombine, List.map_cons, List.map_nil, List.flatten_cons, List.flatten_nil, List.append_nil]
            rw [List.take_succ_cons, List.cons_append, List.take_append_drop]
          · intro e h
            refine ⟨_, List.mem_singleton.mpr rfl, (Option.some.inj h).symm, hp.1, ?_⟩
            simp only [List.length_take, List.length_cons]
            omega
        | some pre =>
          have hle : pre + extra + 1 ≤ (c :: t).length := hok
          simp only [hle, ↓reduceIte]
          simp only [List.length_cons] at hle
          refine ⟨_, rfl, ?_, ⟨_, _, rfl, rfl⟩, ?_, nofun, ?_⟩
          · simp only [recombine, List.map_cons, List.map_nil, List.flatten_cons, List.flatten_nil, List.append_nil,
              List.append_assoc]
            rw [List.take_append_drop, List.take_append_drop]
          · exact List.forall_mem_cons.mpr ⟨hp, List.forall_mem_cons.mpr ⟨hp.adv pre, fun _ h => nomatch h⟩⟩
          · intro e h
            refine ⟨_, List.mem_cons_of_mem _ (List.mem_singleton.mpr rfl), (Option.some.inj h).symm, ?_⟩
            have := hp.1
            simp only [TokIn, advPos, List.length_take, List.length_drop, List.length_cons]
            omega

theorem Good.tail {N : Nat} {t : Token} {ts : List Token} (h : Good N (t :: ts)) : Good N ts := by
  cases ts with
  | nil => trivial
  | cons t' ts => exact h.2.2.2.2

theorem Good.suffix {N : Nat} {l r : List Token} (h : Good N l) (hs : r <:+ l) : Good N r := by
  induction l with
  | nil => have := List.suffix_nil.mp hs; subst this; trivial
  | cons a l ih =>
    rcases List.suffix_cons_iff.mp hs with h1 | h1
    · subst h1; exact h
    · exact ih h.tail h1

theorem Good.head_le {N : Nat} {t : Token} {ts : List Token} (h : Good N (t :: ts)) {u : Token} (hu : u ∈ t :: ts) :
    t.pos.off ≤ u.pos.off ∧ t.pos.slo ≤ u.pos.slo ∧ TokIn N u := by
  induction ts generalizing t u with
  | nil => simp at hu; subst hu; exact ⟨Nat.le_refl _, Nat.le_refl _, h.2⟩
  | cons t' ts ih =>
    obtain ⟨_, h1, h2, h3, h4⟩ := h
    have hin := (ih h4 List.mem_cons_self).2.2
    cases hu with
    | head => exact ⟨Nat.le_refl _, Nat.le_refl _, h1, by have := hin.2; omega⟩
    | tail _ hu =>
      have := ih h4 hu
      exact ⟨by omega, by omega, this.2.2⟩

theorem Good.mem_in {N : Nat} {l : List Token} (h : Good N l) {t : Token} (ht : t ∈ l) : TokIn N t := by
  cases l with
  | nil => cases ht
  | cons a l => exact (h.head_le ht).2.2

theorem validate_spec (toks : List Token) :
    ((validate toks).2 = none → (validate toks).1 = toks) ∧ (∀ t ∈ (validate toks).1, t ∈ toks) ∧
    (∀ err, (validate toks).2 = some err → ∃ tok ∈ toks, err = errTok tok tok.pos) := by
  fun_induction validate toks with
  | case1 => exact ⟨fun _ => rfl, fun _ h => h, nofun⟩
  | case2 => simp
  | case3 t ts _ r e hv ih =>
    rw [hv] at ih
    refine ⟨fun h => congrArg (t :: ·) (ih.1 h), ?_, fun err h => ?_⟩
    · exact List.forall_mem_cons.mpr ⟨List.mem_cons_self, fun u h => List.mem_cons_of_mem _ (ih.2.1 u h)⟩
    · obtain ⟨tok, hm, he⟩ := ih.2.2 err h
      exact ⟨tok, List.mem_cons_of_mem _ hm, he⟩

theorem lexTL2_spec (tx : Bytes) : ∃ lx, lexTL2 tx = .ok lx ∧ recombine lx.all lx.rest = tx ∧
    (∀ t ∈ lx.toks, PosWF t.pos) ∧
    (lx.err = none → lx.toks = lx.all ∧ lx.toks ≠ [] ∧ Good tx.length lx.toks ∧ ∀ t ∈ lx.toks, TokWF t) ∧
    (∀ e, lx.err = some e → ∃ tok, e = errTok tok tok.pos ∧ TokIn tx.length tok ∧ PosWF tok.pos) := by
  obtain ⟨o, ho, hrec, ⟨t, ts, hts, _⟩, hpw, hgood, herr⟩ :=
    lexLoop_spec (tx.length + 1) tx startPos tx.length (Nat.lt_succ_self _) (Nat.zero_add _)
      ⟨Nat.le_refl 0, rfl, Nat.le_refl 1⟩
  unfold lexTL2
  rw [ho]
  dsimp only
  cases he : o.err with
  | some e =>
    dsimp only
    refine ⟨_, rfl, hrec, hpw, nofun, fun e' h => ?_⟩
    obtain ⟨tok, hm, h1, h2⟩ := herr e he
    exact ⟨tok, Option.some.inj h ▸ h1, h2, hpw tok hm⟩
  | none =>
    obtain ⟨hg, hr, hwf⟩ := hgood he
    obtain ⟨hv1, hv2, hv3⟩ := validate_spec o.toks
    dsimp only
    refine ⟨_, rfl, hrec, fun t ht => hpw t (hv2 t ht), fun h => ?_, fun e h => ?_⟩
    · have : (validate o.toks).1 = o.toks := hv1 h
      dsimp only
      rw [this]
      exact ⟨rfl, hts ▸ List.cons_ne_nil _ _, hg, hwf⟩
    · obtain ⟨tok, hm, he⟩ := hv3 e h
      exact ⟨tok, he, hg.mem_in hm, hpw tok hm⟩

end TLVerif.Syntaxtl2
