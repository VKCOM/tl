import TLVerif.Syntaxtl2.IterLemmas
/-! Totality of the TL2 parser: every parser function is stepped through once, with the step lemmas of IterLemmas, to its
specification `Post` (no panic, fuel suffices, the rest is a non-empty suffix of the input, errors are built from tokens of
the input). -/
namespace TLVerif.Syntaxtl2
section
variable {N : Nat} {tx : Bytes} {it : Iter} {outer : Pos} {β : Type} {Q : β → Prop}

def ErrOK (it : Iter) (outer : Pos) (st : OState) : Prop :=
  ∀ e, st.err = some e → ∃ tok, tok ∈ it ∧ e = errTok tok outer

theorem ErrOK.start (b : Bool) : ErrOK it outer { start := b } := fun _ he => nomatch he

theorem ErrOK.inherit {s o : OState} (hs : ErrOK it outer s) (ho : ErrOK it outer o) : ErrOK it outer (s.inherit o) := by
  intro e he
  simp only [OState.inherit] at he
  cases h : s.err with
  | none => rw [h] at he; exact ho e he
  | some e0 => rw [h] at he; exact hs e (by rw [h]; exact he)

/-- `failWith` and `failWithOpt` set the error the way `inherit` does. -/
theorem ErrOK.failWith {s : OState} (hs : ErrOK it outer s) {tok : Token} (ht : tok ∈ it) :
    ErrOK it outer (s.failWith (errTok tok outer)) :=
  hs.inherit (o := { err := some (errTok tok outer) }) fun _ he => ⟨tok, ht, (Option.some.inj he).symm⟩

theorem ErrOK.failWithOpt {s o : OState} (hs : ErrOK it outer s) (ho : ErrOK it outer o) :
    ErrOK it outer (s.failWithOpt o.err) :=
  hs.inherit ho

theorem ErrOK.withStart {s : OState} (hs : ErrOK it outer s) (b : Bool) : ErrOK it outer { s with start := b } := hs

theorem ErrOK.setErr {s o : OState} (ho : ErrOK it outer o) : ErrOK it outer { s with err := o.err } := ho

theorem ErrOK.mono {it' : Iter} {s : OState} (hs : ErrOK it' outer s) (h : it' <:+ it) : ErrOK it outer s := by
  intro e he
  obtain ⟨tok, hm, h2⟩ := hs e he
  exact ⟨tok, h.subset hm, h2⟩

theorem expectProgress_true {s : OState} {e : PErr} (h : (s.expectProgress e).1 = true) :
    s.hasProgress = true ∧ (s.expectProgress e).2 = s := by
  revert h
  fun_cases OState.expectProgress s e with
  | case1 hp => exact fun _ => ⟨hp, rfl⟩
  | case2 | case3 => exact nofun

theorem expectProgress_false_err {s : OState} {e : PErr} (h : (s.expectProgress e).1 = false) :
    (s.expectProgress e).2.err ≠ none := by
  cases s with
  | mk start err =>
    cases start <;> cases err <;>
      simp [OState.expectProgress, OState.hasProgress, OState.isOmitted, OState.failWith] at h ⊢

/-- the step `ok := ls.ExpectProgress(parseErrToken(…, tok, pos))` -/
@[elab_as_elim] theorem ErrOK.progress_cases {motive : Bool × OState → Prop} {pos : Pos} {ls : OState} {tok : Token}
    (e : ErrOK it pos ls) (ht : tok ∈ it) (no : ∀ ls', ErrOK it pos ls' → ls'.err ≠ none → motive (false, ls'))
    (yes : ls.hasProgress = true → motive (true, ls)) : motive (ls.expectProgress (errTok tok pos)) := by
  unfold OState.expectProgress
  split
  · exact yes ‹_›
  · rename_i hp
    split
    · exact no _ (e.failWith ht) (by cases h : ls.err <;> simp [OState.failWith, h])
    · rename_i ho
      refine no _ e fun h => hp ?_
      simp only [OState.isOmitted, Bool.not_eq_true', Bool.not_eq_false] at ho
      simp [OState.hasProgress, ho, h]

/-- `strict`: progress means that a token was consumed, which is what `zeroOrMore_spec` asks of a loop body. -/
def Post {α : Type} (it : Iter) (outer : Pos) (strict : Bool) (p : OState × Iter × α) : Prop :=
  At it p.2.1 ∧ (strict = true → p.1.hasProgress = true → p.2.1.length < it.length) ∧ ErrOK it outer p.1

/-- what a caller working on `it` learns from calling a function (with specification `Post`) on the suffix `rest`. -/
def Post' {α : Type} (it rest : Iter) (outer : Pos) (strict : Bool) (p : OState × Iter × α) : Prop :=
  p.2.1 <:+ it ∧ p.2.1 ≠ [] ∧ p.2.1.length ≤ rest.length ∧ p.2.1 <:+ rest ∧
  (strict = true → p.1.hasProgress = true → p.2.1.length < rest.length) ∧ ErrOK it outer p.1

theorem At.ret {α : Type} {pos : Pos} {rest : Iter} {st : OState} {a : α} (h : At it rest) (e : ErrOK it pos st) :
    (pure (st, rest, a) : Res (OState × Iter × α)).Sat (Post it pos false) := Res.Sat.pure ⟨h, nofun, e⟩

theorem At.fret {α : Type} {pos : Pos} {rest : Iter} {st : OState} {a : α} (h : At it rest) (e : ErrOK it pos st) :
    (front rest >>= fun _ => pure (st, rest, a) : Res (OState × Iter × α)).Sat (Post it pos false) :=
  front_ign h (At.ret h e)

theorem At.fail {α : Type} {pos : Pos} {rest : Iter} {st : OState} {a : α} (h : At it rest) (e : ErrOK it pos st) :
    (front rest >>= fun tok => pure (st.failWith (errTok tok pos), rest, a) : Res (OState × Iter × α)).Sat (Post it pos false) :=
  front_at h fun _ htok => At.ret h (e.failWith htok)

theorem Res.Sat.call {α : Type} {r : Res (OState × Iter × α)} {rest : Iter} {pos : Pos} {strict : Bool}
    {x : OState × Iter × α → Res β} (h : r.Sat (Post rest pos strict)) (ha : At it rest)
    (k : ∀ st r' a, At it r' → r'.length ≤ rest.length → ErrOK it pos st → (x (st, r', a)).Sat Q) :
    (r >>= x).Sat Q :=
  h.bind fun ⟨st, r', a⟩ ⟨h1, _, h3⟩ => k st r' a (h1.trans ha) h1.suf.length_le (h3.mono ha.suf)

theorem parseAnnotation_spec (hc : Ctx N tx it) (pos : Pos) :
    (parseAnnotation it pos).Sat (Post it pos true) := by
  unfold parseAnnotation
  refine skipWS_at hc hc.root fun r1 a1 l1 _ => ?_
  refine checkToken_cases hc a1 T.annotation (fun r2 b1 _ => ?_) (fun cur r2 b1 l2 hm _ => ?_)
  · refine front_ign b1 ?_
    exact Res.Sat.pure ⟨b1, fun _ => nofun, ErrOK.start _⟩
  · refine popFront_at hc b1 (hm ▸ by decide) fun c1 => ?_
    have : ¬ cur.val.length < 1 := by
      have := (hc.wf cur b1.mem).1 (by rw [hm]; decide)
      omega
    simp only [this, ↓reduceIte]
    refine front_ign c1 ?_
    exact front_ign c1 (Res.Sat.pure ⟨c1, fun _ _ => Nat.lt_of_lt_of_le l2 l1, ErrOK.start _⟩)

theorem parseTypeName_spec (hc : Ctx N tx it) (pos : Pos) :
    (parseTypeName it pos).Sat (Post it pos true) := by
  unfold parseTypeName
  refine checkAny_cases hc hc.root _ (fun r1 a1 l1 => ?_) (fun cur r1 a1 l1 hm _ => ?_)
  · refine checkAny_cases hc a1 _ (fun r2 b1 _ => ?_) (fun cur r2 b1 l2 hm _ => ?_)
    · exact Res.Sat.pure ⟨b1, fun _ => nofun, ErrOK.start _⟩
    · refine popFront_at hc b1 (ne_of_mem_of_not_mem hm (by decide)) fun c1 => ?_
      have : spanLen (fun c => c.toNat != 46) cur.val < cur.val.length :=
        (hc.wf cur b1.mem).2.1 (by simpa using hm)
      simp only [this, ↓reduceIte]
      exact Res.Sat.pure ⟨c1, fun _ _ => Nat.lt_of_lt_of_le l2 l1, ErrOK.start _⟩
  · refine popFront_at hc a1 (ne_of_mem_of_not_mem hm (by decide)) fun c1 => ?_
    exact Res.Sat.pure ⟨c1, fun _ _ => l1, ErrOK.start _⟩

/-- `zeroOrMore`: the loop runs at most `len(rest)+1` times when every iteration with progress consumes a token. -/
theorem zeroOrMore_spec {α : Type} (p : Iter → Pos → Res (OState × Iter × α)) (pos : Pos)
    (hp : ∀ r, At it r → (p r pos).Sat (Post r pos true)) :
    ∀ (f : Nat) (rest : Iter) (acc : List α) (start : Bool), At it rest → rest.length < f →
      (zeroOrMore p f rest pos acc start).Sat (Post it pos false) := by
  intro f
  induction f with
  | zero => exact fun _ _ _ _ h => nomatch h
  | succ f ih =>
    intro rest acc start hs hf
    unfold zeroOrMore
    refine (hp rest hs).bind ?_
    rintro ⟨ls, r1, el⟩ ⟨a1, a2, a3⟩
    dsimp only at *
    cases hpr : ls.hasProgress with
    | false => exact At.ret (a1.trans hs) (a3.mono hs.suf)
    | true => exact ih r1 _ _ (a1.trans hs) (Nat.lt_of_lt_of_le (a2 rfl hpr) (Nat.le_of_lt_succ hf))

/-- `Post` wherever the fuel covers three units per token and `j` more: a call costs one (`fuel_sub`), a consumed token frees
three (`fuel_sub_lt`), so `j` is the slack for calls made before a token is consumed: 4, 3, 2 along `parseArg` → `parseType` →
`parseApp`, which calls `parseArg` again only behind a token. Above types the fuel is handed on undiminished: all have 3. -/
def Spec (N : Nat) (tx : Bytes) {α : Type} (j fuel : Nat) (strict : Bool)
    (p : Iter → Pos → Res (OState × Iter × α)) : Prop :=
  ∀ it pos, Ctx N tx it → 3 * it.length + j ≤ fuel → (p it pos).Sat (Post it pos strict)

theorem fuel_sub {a b f j k : Nat} (hf : 3 * b + j ≤ f + 1) (hl : a ≤ b) (hk : k + 1 ≤ j := by decide) :
    3 * a + k ≤ f := by omega

theorem fuel_sub_lt {a b f j k : Nat} (hf : 3 * b + j ≤ f + 1) (hl : a < b) (hk : k ≤ j + 2 := by decide) :
    3 * a + k ≤ f := by omega

theorem typeSpecs (f : Nat) :
    Spec N tx 3 f false (parseType f) ∧ Spec N tx 2 f false (parseApp f) ∧
    (∀ it rest pos st acc, Ctx N tx it → At it rest → 3 * rest.length + 2 ≤ f → ErrOK it pos st →
      (parseArgsLoop f pos st rest acc).Sat (Post it pos false)) ∧
    Spec N tx 2 f false (parseBracket f) ∧ Spec N tx 4 f false (parseArg f) := by
  induction f with
  | zero =>
    -- no input is covered by fuel 0: `3 * len + j ≤ 0` with `j ≥ 2`
    refine ⟨?_, ?_, ?_, ?_, ?_⟩ <;> intro _ _ _ _ <;> intros <;> omega
  | succ f ih =>
    obtain ⟨ihType, ihApp, ihLoop, ihBr, ihArg⟩ := ih
    refine ⟨?_, ?_, ?_, ?_, ?_⟩
    · intro it pos hc hf
      rw [parseType]
      refine skipWS_at hc hc.root fun r1 a1 l1 _ => ?_
      refine (ihApp r1 pos (hc.sub a1) (fuel_sub hf a1.le)).call a1 fun st r2 app b1 _ e1 => ?_
      dsimp only
      cases hst : st.start with
      | false =>
        refine (ihBr r2 pos (hc.sub b1) (fuel_sub hf b1.le)).call b1 fun st2 r3 br c1 _ e2 => ?_
        exact At.fret c1 e2
      | true =>
        exact At.fret b1 e1
    · intro it pos hc hf
      rw [parseApp]
      refine skipWS_at hc hc.root fun r1 a1 _ _ => ?_
      refine skipWS_at hc a1 fun _ _ _ _ => ?_
      refine (parseTypeName_spec hc pos).bind ?_
      rintro ⟨st, r2, name⟩ ⟨b1, b2, b3⟩
      dsimp only at *
      cases hpr : st.hasProgress with
      | false => exact At.ret b1 b3
      | true =>
        have hlt := b2 rfl hpr
        refine front_ign b1 ?_
        refine expectLazy_cases hc b1 ?_ fun r3 c1 l3 => ?_
        · exact At.fret b1 b3
        · have hlt3 := Nat.lt_trans l3 hlt
          refine (ihArg r3 pos (hc.sub c1) (fuel_sub_lt hf hlt3)).call c1 fun argSt r4 a0 d1 l4 e4 => ?_
          refine front_at d1 fun tok htok => ?_
          refine e4.progress_cases htok (fun ls' hep _ => At.ret d1 (b3.inherit hep)) fun _ => ?_
          refine (ihLoop it r4 pos st [a0] hc d1 (fuel_sub_lt hf (Nat.lt_of_le_of_lt l4 hlt3)) b3).bind ?_
          rintro ⟨st', r5, args⟩ ⟨e1, _, e3⟩
          exact At.ret e1 e3
    · intro it rest pos st acc hc hs hf hst
      rw [parseArgsLoop]
      refine expect_cases hc hs (fun r1 a1 l1 => ?_) (fun r1 a1 l1 => ?_)
      · refine expect_cases hc a1 (fun r2 c1 _ => ?_) (fun r2 c1 _ => ?_)
        · exact At.fail c1 hst
        · exact At.fret c1 hst
      · refine (ihArg r1 pos (hc.sub a1) (fuel_sub_lt hf l1)).call a1 fun argSt r2 a d1 l2 e2 => ?_
        refine front_at d1 fun tok htok => ?_
        refine e2.progress_cases htok (fun ls' hep _ => At.ret d1 (hst.inherit hep)) fun _ => ?_
        exact ihLoop it r2 pos st _ hc d1 (fuel_sub_lt hf (Nat.lt_of_le_of_lt l2 l1)) hst
    · intro it pos hc hf
      rw [parseBracket]
      refine skipWS_at hc hc.root fun r1 a1 l1 _ => ?_
      refine expectLazy_cases hc a1 ?_ fun r2 c1 l2 => ?_
      · exact At.fret a1 (ErrOK.start _)
      · refine (ihArg r2 pos (hc.sub c1) (fuel_sub_lt hf (Nat.lt_of_lt_of_le l2 a1.le))).call c1 fun ist r3 idx d1 _ e3 => ?_
        have hst : ErrOK it pos (({ start := true } : OState).inherit ist) := (ErrOK.start true).inherit e3
        dsimp only
        cases hpr : (({ start := true } : OState).inherit ist).hasProgress with
        | false => exact At.ret d1 hst
        | true =>
          refine expect_cases hc d1 (fun r4 g1 _ => ?_) (fun r4 g1 l4 => ?_)
          · exact At.fail g1 hst
          · refine (ihType r4 pos (hc.sub g1) (fuel_sub_lt hf (Nat.lt_of_lt_of_le l4 d1.le))).call g1 fun ast r5 elem k1 _ e5 => ?_
            refine front_at k1 fun tok htok => ?_
            refine e5.progress_cases htok (fun ls' hep _ => At.ret k1 (hst.inherit hep)) fun _ => ?_
            exact At.fret k1 hst
    · intro it pos hc hf
      rw [parseArg]
      refine skipWS_at hc hc.root fun r1 a1 l1 _ => ?_
      refine checkToken_cases hc a1 T.number (fun r2 b1 l2 => ?_) (fun cur r2 b1 _ hm _ => ?_)
      · refine (ihType r2 pos (hc.sub b1) (fuel_sub hf b1.le)).call b1 fun st r3 ty c1 _ e3 => ?_
        exact At.fret c1 e3
      · refine popFront_at hc b1 (hm ▸ by decide) fun c1 => ?_
        refine front_ign c1 ?_
        split
        · exact At.ret c1 (ErrOK.start _)
        · exact At.ret c1 ((ErrOK.start true).failWith b1.mem)

theorem At.fuel {r : Iter} {fuel : Nat} (h : At it r) (hf : 3 * it.length + 3 ≤ fuel) : 3 * r.length + 3 ≤ fuel := by
  have := h.suf.length_le
  omega

theorem parseType_spec {fuel : Nat} : Spec N tx 3 fuel false (parseType fuel) := (typeSpecs fuel).1

theorem Spec.call {α : Type} {p : Iter → Pos → Res (OState × Iter × α)} {fuel : Nat} {strict : Bool} {rest : Iter}
    {pos : Pos} {x : OState × Iter × α → Res β} (h : Spec N tx 3 fuel strict p) (hc : Ctx N tx it)
    (hf : 3 * it.length + 3 ≤ fuel) (ha : At it rest)
    (k : ∀ st r' a, At it r' → r'.length ≤ rest.length → ErrOK it pos st → (x (st, r', a)).Sat Q) :
    (p rest pos >>= x).Sat Q :=
  (h rest pos (hc.sub ha) (ha.fuel hf)).call ha k

/-- the deferred reset of `parseTL2Field`: without a start the iterator is put back. -/
theorem fin_sat {α : Type} {rest : Iter} {st : OState} {r : α} {pos : Pos} (h0 : At it it)
    (h1 : At it rest) (h3 : ErrOK it pos st) (h4 : st.start = true → rest.length < it.length) :
    (pure (st, if st.start = true then rest else it, r) : Res (OState × Iter × α)).Sat (Post it pos true) := by
  refine Res.Sat.pure ?_
  cases hs : st.start with
  | true => exact ⟨h1, fun _ _ => h4 hs, h3⟩
  | false => exact ⟨h0, fun _ hp => by simp [OState.hasProgress, hs] at hp, h3⟩

theorem parseField_spec {fuel : Nat} : Spec N tx 3 fuel true (parseField tx fuel) := by
  intro it pos hc hf
  unfold parseField
  refine skipWS_at hc hc.root fun r1 a1 l1 hsk => ?_
  refine (parseCommentBefore_step hc (List.suffix_refl _) hsk).bind fun cb _ => ?_
  dsimp only
  refine checkAny_cases hc a1 _ (fun r2 b1 _ => ?_) (fun nameTok r4 b1 l4 hm hidem => ?_)
  · refine front_ign b1 ?_
    exact fin_sat hc.root b1 (ErrOK.start _) (fun h => Bool.noConfusion h)
  · simp only [hidem, Res.ok_bind]
    refine popFront_at hc b1 (ne_of_mem_of_not_mem hm (by decide)) fun d1 => ?_
    refine front_ign d1 ?_
    refine expect_any hc d1 fun q r5 e1 l5 _ => ?_
    dsimp only at l5 ⊢
    have hlt5 : r5.length < it.length := Nat.lt_of_le_of_lt l5 (Nat.lt_of_lt_of_le l4 l1)
    cases hqi : (q && (nameTok.ty == T.underscore || nameTok.ty == T.tl2depName)) with
    | true =>
      refine front_at e1 fun tok htok => ?_
      exact front_ign e1 (fin_sat hc.root e1 ((ErrOK.start _).failWith htok) (fun _ => hlt5))
    | false =>
      refine expect_any hc e1 fun c r6 f1 l6 _ => ?_
      have hlt6 : r6.length < it.length := Nat.lt_of_le_of_lt l6 hlt5
      cases c with
      | false =>
        cases q with
        | true =>
          refine front_at f1 fun tok htok => ?_
          exact front_ign f1 (fin_sat hc.root f1 ((ErrOK.start _).failWith htok) (fun _ => hlt6))
        | false =>
          exact front_ign f1 (fin_sat hc.root f1 (ErrOK.start _) (fun _ => hlt6))
      | true =>
        refine parseType_spec.call hc hf f1 fun ls r7 ty g1 l7 e7 => ?_
        have hlt7 : r7.length < it.length := Nat.lt_of_le_of_lt l7 hlt6
        refine front_at g1 fun tok htok => ?_
        refine e7.progress_cases htok (fun ls' hep _ => fin_sat hc.root g1 ((ErrOK.start true).inherit hep) (fun _ => hlt7)) fun _ => ?_
        obtain ⟨h8, hsuf8⟩ := skipToNewline_at hc g1
        cases hsn : skipToNewline r7 with
        | mk nl r8 =>
          rw [hsn] at h8 hsuf8
          dsimp only at h8 hsuf8 ⊢
          have hlt8 : r8.length < it.length := Nat.lt_of_le_of_lt hsuf8.length_le hlt7
          refine Res.Sat.bind (P := fun _ => True) ?_ fun cr _ => ?_
          · cases nl with
            | true => exact parseCommentRight_step hc g1.suf hsuf8 h8.ne
            | false => exact Res.Sat.pure trivial
          exact front_ign h8 (fin_sat hc.root h8 (ErrOK.start true) (fun _ => hlt8))

theorem parseFields_spec {fuel : Nat} : Spec N tx 3 fuel false (parseFields tx fuel) := fun it pos hc hf =>
  zeroOrMore_spec (parseField tx fuel) pos (fun r hr => parseField_spec r pos (hc.sub hr) (hr.fuel hf))
    fuel it [] false hc.root (by omega)

theorem parseUnionConstructor_spec {fuel : Nat} : Spec N tx 3 fuel false (parseUnionConstructor tx fuel) := by
  intro it pos hc hf
  unfold parseUnionConstructor
  refine skipWS_at hc hc.root fun r1 a1 _ _ => ?_
  refine checkAny_cases hc a1 _ (fun r2 b1 _ => ?_) (fun t r4 b1 _ hm hidem => ?_)
  · exact At.fret b1 (ErrOK.start _)
  · simp only [hidem, Res.ok_bind]
    refine popFront_at hc b1 (ne_of_mem_of_not_mem hm (by decide)) fun d1 => ?_
    refine front_ign d1 ?_
    refine checkAny_cases hc d1 _ (fun _ _ _ => ?_) (fun _ _ _ _ _ _ => ?_)
    · refine parseFields_spec.call hc hf d1 fun fs r5 fields g1 _ g5 => ?_
      have hst1 : ErrOK it pos (({ start := true } : OState).inherit fs) := (ErrOK.start true).inherit g5
      dsimp only
      cases hfs : fs.start with
      | true =>
        exact At.fret g1 hst1
      | false =>
        refine parseType_spec.call hc hf g1 fun as_ r6 alias h1 _ h6 => ?_
        have hst2 := hst1.inherit h6
        dsimp only
        cases hom : as_.isOmitted with
        | false =>
          exact At.fret h1 hst2
        | true =>
          refine checkAny_cases hc h1 _ (fun r7 k1 _ => ?_) (fun t7 r7 k1 _ _ _ => ?_)
          · exact At.fret d1 hst2
          · exact At.fail k1 hst2
    · exact At.fret d1 (ErrOK.start _)

theorem parseVariantsLoop_spec (hc : Ctx N tx it) (pos : Pos) (fuel : Nat) (hf : 3 * it.length + 3 ≤ fuel) :
    ∀ (k : Nat) (st : OState) (rest : Iter) (acc : List Variant), At it rest → rest.length < k → ErrOK it pos st →
      (parseVariantsLoop tx fuel pos k st rest acc).Sat (Post it pos false) := by
  intro k
  induction k with
  | zero => exact fun _ _ _ _ h => nomatch h
  | succ k ih =>
    intro st rest acc hs hk hst
    unfold parseVariantsLoop
    dsimp only
    refine skipWS_at hc hs fun r1 _ _ hsk => ?_
    refine expect_cases hc hs (fun r2 a1 _ => ?_) (fun r2 a1 l2 => ?_)
    · exact At.ret a1 hst
    · refine (parseCommentBefore_step hc hs.suf hsk).bind fun cb _ => ?_
      refine parseUnionConstructor_spec.call hc hf a1 fun ls r3 v b1 l3 b6 => ?_
      refine front_at b1 fun tok htok => ?_
      have hst2 : ErrOK it pos (({ st with start := true } : OState).inherit ls) := (hst.withStart true).inherit b6
      refine b6.progress_cases htok (fun ls' hep _ => At.ret b1 (hst2.failWithOpt hep)) fun _ => ?_
      exact ih _ r3 _ b1
        (Nat.lt_of_lt_of_le (Nat.lt_of_le_of_lt l3 l2) (Nat.le_of_lt_succ hk)) hst2

/-- the deferred reset of `parseTL2UnionType` and `parseTL2StructTypeDefinition`. -/
theorem fin2_sat {α : Type} {rest : Iter} {st : OState} {r : α} {pos : Pos} {c : Bool} (h0 : At it it)
    (h1 : At it rest) (h3 : ErrOK it pos st) :
    (pure (st, if c = true then rest else it, r) : Res (OState × Iter × α)).Sat (Post it pos false) := by
  cases c with
  | true => exact At.ret h1 h3
  | false => exact At.ret h0 h3

theorem parseUnionType_spec {fuel : Nat} : Spec N tx 3 fuel false (parseUnionType tx fuel) := by
  intro it pos hc hf
  have h0 := hc.root
  unfold parseUnionType
  refine skipWS_at hc h0 fun r1 a1 _ hsk => ?_
  refine (parseCommentBefore_step hc (List.suffix_refl _) hsk).bind fun cb _ => ?_
  dsimp only
  refine expect_any hc a1 fun mono r2 b1 _ _ => ?_
  refine parseUnionConstructor_spec.call hc hf b1 fun ls r3 constr c1 _ c6 => ?_
  dsimp only
  cases hfl : ls.isFailed with
  | true =>
    refine front_at c1 fun tok htok => ?_
    exact fin2_sat h0 c1 ((ErrOK.start mono).failWith htok)
  | false =>
    cases hom : (mono && ls.isOmitted) with
    | true =>
      refine front_at c1 fun tok htok => ?_
      exact fin2_sat h0 c1 ((ErrOK.start mono).failWith htok)
    | false =>
      have hst : ErrOK it pos (({ start := mono } : OState).inherit ls) := (ErrOK.start mono).inherit c6
      cases hstart : (({ start := mono } : OState).inherit ls).start with
      | false => exact fin2_sat h0 c1 hst
      | true =>
        have hl3 := c1.suf.length_le
        refine (parseVariantsLoop_spec hc pos fuel hf fuel _ r3 _ c1 (by omega) hst).bind ?_
        rintro ⟨st', r4, variants, returned⟩ ⟨d1, _, d3⟩
        dsimp only at d1 d3 ⊢
        cases returned with
        | true => exact fin2_sat h0 d1 d3
        | false =>
          cases hf2 : st'.isFailed with
          | true => exact fin2_sat h0 d1 d3
          | false =>
            by_cases hl : variants.length < 1
            · simp only [hl, ↓reduceIte, Bool.false_eq_true]
              refine front_at d1 fun tok htok => ?_
              exact front_ign d1 (fin2_sat h0 d1 (d3.failWith htok))
            · simp only [hl, ↓reduceIte, Bool.false_eq_true]
              cases hl1 : (variants.length == 1 && !mono) with
              | true =>
                refine front_at d1 fun tok htok => ?_
                exact front_ign d1 (fin2_sat h0 d1 (d3.failWith htok))
              | false =>
                exact front_ign d1 (fin2_sat h0 d1 d3)

theorem parseUnionType_call (hc : Ctx N tx it) {rest : Iter} (hs : rest <:+ it) (hne : rest ≠ []) (pos : Pos)
    {fuel : Nat} (hf : 3 * it.length + 3 ≤ fuel) :
    (parseUnionType tx fuel rest pos).Sat (Post' it rest pos false) := by
  have ha : At it rest := ⟨hs, hne⟩
  refine (parseUnionType_spec rest pos (hc.sub ha) (ha.fuel hf)).mono ?_
  rintro p ⟨h1, h2, h3⟩
  exact ⟨h1.suf.trans hs, h1.ne, h1.suf.length_le, h1.suf, h2, h3.mono hs⟩

theorem parseStructDef_spec {fuel : Nat} : Spec N tx 3 fuel false (parseStructDef tx fuel) := by
  intro it pos hc hf
  have h0 := hc.root
  unfold parseStructDef
  refine front_ign h0 ?_
  dsimp only
  refine parseUnionType_spec.call hc hf h0 fun st r1 variants a1 _ a4 => ?_
  dsimp only
  cases hpr : st.hasProgress with
  | true =>
    exact At.fret a1 a4
  | false =>
    cases hfv : (st.isFailed && variants.length != 0) with
    | true => exact At.ret h0 a4
    | false =>
      refine parseFields_spec.call hc hf h0 fun fs r2 fields b1 _ b5 => ?_
      dsimp only
      cases hff : fs.isFailed with
      | true =>
        exact front_ign h0 (fin2_sat (c := ({ st with err := fs.err } : OState).hasProgress) h0 h0 (ErrOK.setErr b5))
      | false =>
        exact front_ign b1 (fin2_sat h0 b1 b5)

theorem parseMagic_step (hc : Ctx N tx it) {t : Token} {ts : Iter} (h : At it (t :: ts)) (pos : Pos)
    (hidem : skipWS (t :: ts) = .ok (t :: ts)) (hty : t.ty = T.crc32hash) :
    (parseMagic (t :: ts) pos).Sat (fun q => At it q.2.1 ∧ ∀ st, q.1 = some st → ErrOK it pos st) := by
  unfold parseMagic
  simp only [hidem, Res.ok_bind]
  refine popFront_at hc h (hty ▸ by decide) fun c1 => ?_
  have : ¬ t.val.length < 1 := by
    have := (hc.wf t h.mem).1 (by rw [hty]; decide)
    omega
  simp only [this, ↓reduceIte]
  have hfail : ErrOK it pos (({} : OState).failWith (errTok t pos)) := (ErrOK.start false).failWith h.mem
  split
  · exact Res.Sat.pure ⟨c1, fun st h => Option.some.inj h ▸ hfail⟩
  · split
    · exact Res.Sat.pure ⟨c1, fun st h => Option.some.inj h ▸ hfail⟩
    · refine front_ign c1 ?_
      exact Res.Sat.pure ⟨c1, nofun⟩

theorem parseTemplArg_spec (hc : Ctx N tx it) (pos : Pos) :
    (parseTemplArg it pos).Sat (Post it pos false) := by
  unfold parseTemplArg
  dsimp only
  refine skipWS_at hc hc.root fun r1 a1 _ _ => ?_
  refine checkAny_cases hc a1 _ (fun r2 b1 _ => ?_) (fun nameTok r4 b1 _ hm hidem => ?_)
  · exact At.fret b1 (ErrOK.start _)
  · refine front_at b1 fun _ _ => ?_
    simp only [hidem, Res.ok_bind]
    refine popFront_at hc b1 (ne_of_mem_of_not_mem hm (by decide)) fun d1 => ?_
    refine front_ign d1 ?_
    refine expect_cases hc d1 (fun r5 e1 _ => ?_) (fun r5 e1 _ => ?_)
    · refine front_at e1 fun tok htok => ?_
      exact At.fret e1 ((ErrOK.start true).failWith htok)
    · obtain ⟨fr, frs, rfl⟩ := List.exists_cons_of_ne_nil e1.ne
      simp only [front, Res.ok_bind]
      cases hcat : (fr.ty == T.numberSign || fr.val == typeWord) with
      | false => exact At.ret e1 ((ErrOK.start true).failWith e1.mem)
      | true =>
        have hlt : fr.ty ∈ T.numberSign :: letterTys := by
          simp only [Bool.or_eq_true, beq_iff_eq] at hcat
          rcases hcat with h | h
          · rw [h]; exact List.mem_cons_self
          -- `TokWF`'s third clause: a text beginning with `T` (84) makes a letter token, so the `skipWS` before the pop stays put
          · exact List.mem_cons_of_mem _ ((hc.wf fr e1.mem).2.2 84 _ (by rw [h]; rfl) rfl)
        have hnws : NW fr := by
          have : ∀ ty ∈ T.numberSign :: letterTys,
              (ty == T.comment || ty == T.whiteSpace || ty == T.tab || ty == T.newLine) = false := by decide
          exact this _ hlt
        simp only [skipWS_nw hnws, Res.ok_bind, Bool.not_true, Bool.false_eq_true, ↓reduceIte]
        refine popFront_at hc e1 (ne_of_mem_of_not_mem hlt (by decide)) fun g1 => ?_
        exact At.fret g1 (ErrOK.start true)

theorem parseTemplLoop_spec (hc : Ctx N tx it) (pos : Pos) :
    ∀ (k : Nat) (st : OState) (rest : Iter) (acc : List Templ), At it rest → rest.length < k → ErrOK it pos st →
      (parseTemplLoop pos k st rest acc).Sat (Post it pos false) := by
  intro k
  induction k with
  | zero => exact fun _ _ _ _ h => nomatch h
  | succ k ih =>
    intro st rest acc hs hk hst
    unfold parseTemplLoop
    refine expect_cases hc hs (fun r1 a1 _ => ?_) (fun r1 a1 l1 => ?_)
    · exact At.ret a1 hst
    · refine (parseTemplArg_spec (hc.sub a1) pos).call a1 fun ls r2 t b1 l2 b6 => ?_
      refine front_at b1 fun tok htok => ?_
      refine b6.progress_cases htok (fun ls' hep _ => At.ret b1 (hst.inherit hep)) fun _ => ?_
      exact ih _ r2 _ b1
        (Nat.lt_of_lt_of_le (Nat.lt_of_le_of_lt l2 l1) (Nat.le_of_lt_succ hk)) hst

theorem parseTypeDecl_spec (name : TName) {fuel : Nat} :
    Spec N tx 3 fuel false fun it pos => parseTypeDecl tx fuel it pos name := by
  intro it pos hc hf
  unfold parseTypeDecl
  refine skipWS_at hc hc.root fun r1 a1 _ _ => ?_
  refine checkToken_any hc a1 T.crc32hash fun c r2 b1 b5 => ?_
  refine Res.Sat.bind (P := fun q => At it q.2.1 ∧ ∀ st, q.1 = some st → ErrOK it pos st) ?_ ?_
  · cases c with
    | true =>
      obtain ⟨t, ts, rfl, hm, hidem⟩ := b5 rfl
      exact parseMagic_step hc b1 pos hidem hm
    | false => exact Res.Sat.pure ⟨b1, nofun⟩
  rintro ⟨failed, r3, magic⟩ ⟨c1, c3⟩
  cases failed with
  | some st => exact At.ret c1 (c3 st rfl)
  | none =>
    dsimp only
    refine expect_any hc c1 fun la r4 d1 _ _ => ?_
    have hl4 := d1.suf.length_le
    refine Res.Sat.bind (P := Post it pos false) ?_ ?_
    · cases la with
      | true =>
        refine (parseTemplArg_spec (hc.sub d1) pos).call d1 fun ls r5 t0 e1 _ e6 => ?_
        have hst : ErrOK it pos (({ start := true } : OState).inherit ls) := (ErrOK.start true).inherit e6
        refine front_at e1 fun tok htok => ?_
        refine e6.progress_cases htok (fun ls' hep _ => At.ret e1 (hst.inherit hep)) fun _ => ?_
        have hl5 := e1.suf.length_le
        refine (parseTemplLoop_spec hc pos fuel _ r5 _ e1 (by omega) hst).bind ?_
        rintro ⟨st', r6, templs, returned⟩ ⟨g1, _, g3⟩
        cases returned with
        | true => exact At.ret g1 g3
        | false =>
          refine expect_cases hc g1 (fun r7 k1 _ => ?_) (fun r7 k1 _ => ?_)
          · exact At.fail k1 g3
          · exact At.ret k1 g3
      | false =>
        refine checkAny_cases hc d1 _ (fun r5 e1 _ => ?_) (fun t5 r5 e1 _ _ _ => ?_)
        · exact At.ret e1 (ErrOK.start false)
        · exact At.fail e1 (ErrOK.start false)
    rintro ⟨st, r5, templs, returned⟩ ⟨e1, _, e3⟩
    cases returned with
    | true => exact At.ret e1 e3
    | false =>
      refine expect_any hc e1 fun eq r6 g1 _ _ => ?_
      refine Res.Sat.bind (P := fun q => At it q.2) ?_ ?_
      · cases eq with
        | true => exact Res.Sat.pure g1
        | false => exact expect_sat hc g1
      rintro ⟨al, r7⟩ k1
      cases hno : (!eq && !al) with
      | true => exact At.ret hc.root e3
      | false =>
        have hst := e3.withStart true
        cases al with
        | true =>
          refine parseType_spec.call hc hf k1 fun ls r8 ty m1 _ m6 => ?_
          refine front_at m1 fun tok htok => ?_
          refine m6.progress_cases htok (fun ls' hep _ => At.ret m1 (hst.inherit hep)) fun _ => ?_
          exact At.fret m1 hst
        | false =>
          refine parseStructDef_spec.call hc hf k1 fun ls r8 sd m1 _ m6 => ?_
          exact At.fret m1 (hst.inherit m6)

theorem parseFuncDecl_spec (name : TName) {fuel : Nat} :
    Spec N tx 3 fuel false fun it pos => parseFuncDecl tx fuel it pos name := by
  intro it pos hc hf
  have h0 := hc.root
  unfold parseFuncDecl
  refine skipWS_at hc h0 fun r1 a1 _ _ => ?_
  refine checkToken_cases hc a1 T.crc32hash (fun r2 b1 _ => ?_) (fun t r2 b1 _ hm hidem => ?_)
  · refine front_at h0 fun tok htok => ?_
    exact At.ret b1 ((ErrOK.start false).failWith htok)
  · refine (parseMagic_step hc b1 pos hidem hm).bind ?_
    rintro ⟨failed, r3, magic⟩ ⟨c1, c3⟩
    cases failed with
    | some st => exact At.ret c1 (c3 st rfl)
    | none =>
      dsimp only
      refine parseFields_spec.call hc hf c1 fun st r4 args d1 _ d5 => ?_
      dsimp only
      cases hfl : st.isFailed with
      | true => exact At.ret d1 d5
      | false =>
        refine expect_cases hc d1 (fun r5 e1 _ => ?_) (fun r5 e1 _ => ?_)
        · exact At.fret e1 d5
        · have hst := d5.withStart true
          refine checkToken_cases hc e1 T.tl2alias (fun r6 g1 _ => ?_) (fun t' r6 g1 _ hm' _ => ?_)
          · refine parseStructDef_spec.call hc hf g1 fun ls r7 sd k1 _ k6 => ?_
            dsimp only
            cases hp : ls.hasProgress with
            | true =>
              exact At.fret k1 hst
            | false =>
              refine parseType_spec.call hc hf k1 fun ts_ r8 ref m1 _ m6 => ?_
              dsimp only
              cases h1 : ts_.isFailed with
              | true => exact At.ret m1 (hst.inherit m6)
              | false =>
                cases h2 : (ts_.isOmitted && ls.isFailed) with
                | true =>
                  exact At.fail m1 (hst.inherit k6)
                | false =>
                  exact At.fret m1 (hst.withStart true)
          · refine popFront_at hc g1 (hm' ▸ by decide) fun k1 => ?_
            refine parseType_spec.call hc hf k1 fun ls r8 ty m1 _ m6 => ?_
            dsimp only
            cases hp : ls.hasProgress with
            | true =>
              exact At.fret m1 (hst.inherit m6)
            | false => exact At.ret m1 (hst.inherit m6)

/-- `E` is a parameter because the body knows its error only relative to `outer` (`errTok tok outer` with `tok ∈ it`);
`parseCombinator_spec`, where `outer` is the position of the declaration's first token, turns that into `ErrFrom`. The length
clause is the progress of the file loop. -/
def CombPost (it : Iter) (E : PErr → Prop) (q : Comb × Iter × Option PErr) : Prop :=
  (∀ e, q.2.2 = some e → E e) ∧ (q.2.2 = none → At it q.2.1 ∧ q.2.1.length < it.length)

theorem parseCombinatorBody_spec (hc : Ctx N tx it) (outer : Pos) (cb : Bytes) (fuel : Nat)
    (hf : 3 * it.length + 3 ≤ fuel) :
    (parseCombinatorBody tx fuel it outer cb).Sat (CombPost it fun e => ∃ tok, tok ∈ it ∧ e = errTok tok outer) := by
  unfold parseCombinatorBody
  refine (zeroOrMore_spec parseAnnotation outer (fun r hr => parseAnnotation_spec (hc.sub hr) outer) fuel it []
    false hc.root (by omega)).bind ?_
  rintro ⟨st, r1, anns⟩ ⟨a1, _, a5⟩
  dsimp only at a1 a5 ⊢
  cases hse : st.err with
  | some e => exact Res.Sat.pure ⟨fun e' h => Option.some.inj h ▸ a5 e hse, nofun⟩
  | none =>
    dsimp only
    refine skipWS_at hc a1 fun r2 b1 _ _ => ?_
    refine (parseTypeName_spec (hc.sub b1) outer).bind ?_
    rintro ⟨st2, r3, name⟩ ⟨c1, c5, c6⟩
    have c1' := c1.trans b1
    have c6' := c6.mono b1.suf
    dsimp only at c1 c5 c6 c1' c6' ⊢
    refine front_ign c1' ?_
    refine front_at c1' fun tok htok => ?_
    refine c6'.progress_cases htok (fun ls' hep hne => Res.Sat.pure ⟨hep, fun h => absurd h hne⟩) fun hpr => ?_
    have hlt3 : r3.length < it.length := Nat.lt_of_lt_of_le (c5 rfl hpr) b1.le
    refine (parseTypeDecl_spec name).call hc hf c1' fun ts r4 td d1 l4 d6 => ?_
    have hst := c6'.inherit d6
    refine Res.Sat.bind (P := fun q => At it q.2.1 ∧ q.2.1.length < it.length ∧ ErrOK it outer q.1) ?_ ?_
    · dsimp only
      cases hts : ts.start with
      | true => exact Res.Sat.pure ⟨d1, Nat.lt_of_le_of_lt l4 hlt3, hst⟩
      | false =>
        refine (parseFuncDecl_spec name).call hc hf d1 fun fs r5 fd e1 l5 e6 => ?_
        have hlt5 : r5.length < it.length := Nat.lt_of_le_of_lt l5 (Nat.lt_of_le_of_lt l4 hlt3)
        dsimp only
        cases hfs : fs.start with
        | true => exact Res.Sat.pure ⟨e1, hlt5, hst.inherit e6⟩
        | false =>
          refine front_at e1 fun tok htok => ?_
          exact Res.Sat.pure ⟨e1, hlt5, (hst.inherit e6).failWith htok⟩
    rintro ⟨st3, r5, decl⟩ ⟨g1, g3, g4⟩
    refine expect_any hc g1 fun sc r6 k1 l6 _ => ?_
    refine Res.Sat.bind (P := ErrOK it outer) ?_ fun st4 hst4 => ?_
    · cases sc with
      | true => exact Res.Sat.pure g4
      | false =>
        refine front_at k1 fun tok htok => ?_
        exact Res.Sat.pure (g4.failWith htok)
    exact front_ign k1 (Res.Sat.pure ⟨hst4, fun _ => ⟨k1, Nat.lt_of_le_of_lt l6 g3⟩⟩)

/-- what `consolePrint` needs of an error's positions, in a text of length `N`, for an uncorrupted context. -/
def ErrInText (N : Nat) (e : PErr) : Prop :=
e.outer.off ≤ e.b.off ∧ e.b.off ≤ e.e.off ∧ e.e.off ≤ N ∧
e.outer.slo ≤ e.outer.off ∧ e.outer.slo ≤ e.b.slo ∧ e.b.slo ≤ e.b.off ∧ e.e.slo = e.b.slo

/-- `t0` is the token whose position is the error's `outer`: the first token of the declaration being parsed, which is not
after `tok`; for an error of the lexer it is `tok` itself. -/
def ErrFrom (N : Nat) (e : PErr) : Prop :=
∃ t0 tok : Token, e = errTok tok t0.pos ∧ PosWF t0.pos ∧ PosWF tok.pos ∧ TokIn N tok ∧
  t0.pos.off ≤ tok.pos.off ∧ t0.pos.slo ≤ tok.pos.slo

theorem ErrFrom.inText {e : PErr} (h : ErrFrom N e) : ErrInText N e := by
  obtain ⟨t0, tok, rfl, h0, _, hin, h1, h2⟩ := h
  exact ⟨h1, Nat.le_add_right _ _, hin.2, h0.1, h2, hin.1, rfl⟩

theorem ErrFrom.columns {e : PErr} (h : ErrFrom N e) : PosWF e.outer ∧ PosWF e.b ∧ PosWF e.e ∧ e.e.line = e.b.line := by
  obtain ⟨t0, tok, rfl, h0, htok, _⟩ := h
  -- the end of the range is the token's position advanced by its length
  exact ⟨h0, htok, htok.adv tok.val.length, rfl⟩

theorem parseCombinator_spec (hc : Ctx N tx it) (hpw : ∀ t ∈ it, PosWF t.pos) (fuel : Nat)
    (hf : 3 * it.length + 3 ≤ fuel) : (parseCombinator tx fuel it).Sat (CombPost it (ErrFrom N)) := by
  unfold parseCombinator
  refine skipWS_at hc hc.root fun r1 a1 l1 hsk => ?_
  obtain ⟨t0, ts, rfl⟩ := List.exists_cons_of_ne_nil a1.ne
  simp only [front, Res.ok_bind]
  refine (parseCommentBefore_step hc (List.suffix_refl _) hsk).bind fun cb _ => ?_
  refine (parseCombinatorBody_spec (hc.sub a1) t0.pos cb fuel (a1.fuel hf)).mono ?_
  rintro q ⟨h1, h2⟩
  refine ⟨fun e he => ?_, fun hn => ?_⟩
  · obtain ⟨tok, hm, rfl⟩ := h1 e he
    obtain ⟨hoff, hslo, hin⟩ := (hc.good.suffix a1.suf).head_le hm
    exact ⟨t0, tok, rfl, hpw t0 a1.mem, hpw tok (a1.suf.subset hm), hin, hoff, hslo⟩
  · obtain ⟨k1, k3⟩ := h2 hn
    exact ⟨k1.trans a1, Nat.lt_of_lt_of_le k3 l1⟩

-- also for `ty = eof`, the test of the file loop, which `expectLazy_cases` leaves out: a hit pops the last token and
-- leaves no position
theorem expectLazy_total (hc : Ctx N tx it) (ty : Int) : (expectLazy it ty).Sat (fun _ => True) := by
  obtain ⟨r, hr, h1, _⟩ := skipWS_ok hc hc.root
  cases r with
  | nil => exact absurd rfl h1.ne
  | cons t ts =>
    rw [expectLazy_skip hr]
    split <;> exact ⟨_, rfl, trivial⟩

theorem parseFileLoop_spec (fuel : Nat) : ∀ (k : Nat) (it : Iter) (acc : List Comb), Ctx N tx it → (∀ t ∈ it, PosWF t.pos) →
    3 * it.length + 3 ≤ fuel → it.length < k →
    (parseFileLoop tx fuel k it acc).Sat (fun r => ∀ e, r = .error e → ErrFrom N e) := by
  intro k
  induction k with
  | zero => exact fun _ _ _ _ _ h => nomatch h
  | succ k ih =>
    intro it acc hc hpw hf hk
    unfold parseFileLoop
    refine (expectLazy_total hc T.eof).bind ?_
    rintro ⟨e, _⟩ _
    dsimp only
    cases e with
    | true => exact Res.Sat.pure (fun e h => nomatch h)
    | false =>
      refine (parseCombinator_spec hc hpw fuel hf).bind ?_
      rintro ⟨c, r, err⟩ ⟨h1, h2⟩
      dsimp only at *
      cases err with
      | some e => exact Res.Sat.pure fun e' h => Except.error.inj h ▸ h1 e rfl
      | none =>
        obtain ⟨k1, k3⟩ := h2 rfl
        exact ih r _ (hc.sub k1) (fun t ht => hpw t (k1.suf.subset ht)) (k1.fuel hf)
          (Nat.lt_of_lt_of_le k3 (Nat.le_of_lt_succ hk))

/-- C20, model level: `ParseTL2File` returns (no panic, recursion bounded by the fuel it starts with) and every
error it returns is `parseErrToken` of tokens lying inside the text (`ErrFrom`; that they are tokens of the lexer is used in
the proof and not kept). -/
theorem parseTL2File_total (tx : Bytes) :
    (parseTL2File tx).Sat (fun r => ∀ e, r = .error e → ErrFrom tx.length e) := by
  obtain ⟨lx, hlx, hrec, hpw, _, herr⟩ := lexTL2_spec tx
  unfold parseTL2File
  rw [hlx]
  dsimp only
  cases hle : lx.err with
  | some e =>
    dsimp only
    refine Res.Sat.pure (fun e' h => ?_)
    injection h with h; subst h
    obtain ⟨tok, he, hin, hp⟩ := herr e hle
    exact ⟨tok, tok, he, hp, hp, hin, Nat.le_refl _, Nat.le_refl _⟩
  | none =>
    dsimp only
    have : (recombine lx.all lx.rest != tx) = false := by simp [hrec]
    simp only [this, Bool.false_eq_true, ↓reduceIte]
    exact parseFileLoop_spec _ _ _ _ (lexTL2_ctx hlx hle) hpw (by simp only [fuelFor]; omega) (by simp only [fuelFor]; omega)

theorem parseTL2File_errFrom {tx : Bytes} {e : PErr} (h : parseTL2File tx = .ok (.error e)) : ErrFrom tx.length e := by
  obtain ⟨r, h1, h2⟩ := parseTL2File_total tx
  exact h2 e (Res.ok.inj (h ▸ h1)).symm

end

end TLVerif.Syntaxtl2
