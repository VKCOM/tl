import TLVerif.Syntaxtl2.Basic
/-! Model of internal/tlast/tllexer.go in TL2 mode (`LexerOptions{LexerLanguage: TL2}`), written the way the Go
code is written: `nextStep` is `lexer.nextToken` (which token type and how many bytes `advance` takes),
`lexLoop` is `generateTokens`, `validate` is `validateTokens`, `recombine` is `recombineTokens`.
`advance(len, …)` slices `l.str[:len]`; the bound `len ≤ len(l.str)` is explicit (`.panic` otherwise). -/
namespace TLVerif.Syntaxtl2

def lowerCase (c : UInt8) : Bool := 97 ≤ c.toNat && c.toNat ≤ 122
def upperCase (c : UInt8) : Bool := 65 ≤ c.toNat && c.toNat ≤ 90
def digit (c : UInt8) : Bool := 48 ≤ c.toNat && c.toNat ≤ 57
def letter (c : UInt8) : Bool := lowerCase c || upperCase c
def identChar (c : UInt8) : Bool := letter c || digit c || c.toNat == 95
def hexc (c : UInt8) : Bool := digit c || (97 ≤ c.toNat && c.toNat ≤ 102)

/-- length of the longest prefix satisfying `p`. -/
def spanLen (p : UInt8 → Bool) : Bytes → Nat
  | [] => 0
  | c :: t => if p c then spanLen p t + 1 else 0

/-- `len(nameIdent(s))`. -/
def nameIdentLen : Bytes → Nat
  | [] => 0
  | c :: t => if letter c then spanLen identChar t + 1 else 0

/-- Go `utf8.DecodeRuneInString(s)`: `some size` for a valid encoding at the start of `c :: t`,
`none` for `(RuneError, 1)`. -/
def utf8Size (c : UInt8) (t : Bytes) : Option Nat :=
  let cont (x : UInt8) : Bool := 0x80 ≤ x.toNat && x.toNat ≤ 0xBF
  let n := c.toNat
  if n < 0x80 then some 1
  else if n < 0xC2 then none
  else if n ≤ 0xDF then
    match t with
    | c1 :: _ => if cont c1 then some 2 else none
    | _ => none
  else if n ≤ 0xEF then
    let lo := if n == 0xE0 then 0xA0 else 0x80
    let hi := if n == 0xED then 0x9F else 0xBF
    match t with
    | c1 :: c2 :: _ => if lo ≤ c1.toNat && c1.toNat ≤ hi && cont c2 then some 3 else none
    | _ => none
  else if n ≤ 0xF4 then
    let lo := if n == 0xF0 then 0x90 else 0x80
    let hi := if n == 0xF4 then 0x8F else 0xBF
    match t with
    | c1 :: c2 :: c3 :: _ => if lo ≤ c1.toNat && c1.toNat ≤ hi && cont c2 && cont c3 then some 4 else none
    | _ => none
  else none

theorem utf8Size_pos (c : UInt8) (t : Bytes) (sz : Nat) (h : utf8Size c t = some sz) : 1 ≤ sz := by
  -- every leaf of the decision tree is `none` or a positive literal
  have ite {p : Prop} [Decidable p] {a b : Option Nat} (ha : a = some sz → 1 ≤ sz) (hb : b = some sz → 1 ≤ sz) :
      (if p then a else b) = some sz → 1 ≤ sz := by split <;> assumption
  have lit (k : Nat) : some (k + 1) = some sz → 1 ≤ sz := fun e => Option.some.inj e ▸ Nat.le_add_left 1 k
  have non : (none : Option Nat) = some sz → 1 ≤ sz := fun e => nomatch e
  revert h
  unfold utf8Size
  refine ite (lit 0) (ite non (ite ?_ (ite ?_ (ite ?_ non))))
  · match t with
    | [] => exact non
    | _ :: _ => exact ite (lit 1) non
  · match t with
    | [] | [_] => exact non
    | _ :: _ :: _ => exact ite (lit 2) non
  · match t with
    | [] | [_] | [_, _] => exact non
    | _ :: _ :: _ :: _ => exact ite (lit 3) non

/-- offset of the first byte at which `DecodeRuneInString` reports `(RuneError, 1)`, scanning like the loop in
`nextToken` for `//` comments (`fuel`: any bound ≥ the length; structural recursion so that the kernel can evaluate it). -/
def utf8BadAux : Nat → Bytes → Nat → Option Nat
  | 0, _, _ => none
  | _ + 1, [], _ => none
  | f + 1, c :: t, i =>
    match utf8Size c t with
    | none => some i
    | some sz => utf8BadAux f (t.drop (sz - 1)) (i + sz)

def utf8Bad (s : Bytes) (i : Nat) : Option Nat := utf8BadAux s.length s i

inductive LexStep where
  /-- `advance(extra+1, ty)`; `nl`: line/column bookkeeping of a newline follows. -/
  | tok (ty : Int) (extra : Nat) (nl : Bool)
  /-- optional `advance(pre, comment)`, then `tok := advance(extra+1, undefined)` and an error at `tok`. -/
  | err (pre : Option Nat) (extra : Nat)
deriving Repr, DecidableEq

def isPrimitive (c : UInt8) : Bool :=
  let n : Int := c.toNat
  n == T.lRound || n == T.rRound || n == T.lSquare || n == T.rSquare || n == T.lCurly || n == T.rCurly ||
  n == T.rAngle || n == T.dotSign || n == T.plus || n == T.asterisk || n == T.exclamation || n == T.colon ||
  n == T.semiColon || n == T.whiteSpace || n == T.tab || n == T.questionMark || n == T.percentSign ||
  n == T.commaSign || n == T.verticalBar

def typeWord : Bytes := bs "Type"

/-- the `'\r'` case of nextToken (`t` = rest after the `\r`). -/
def lexCR (t : Bytes) : LexStep :=
  match t with
  | c1 :: _ => if c1.toNat == 10 then .tok T.newLine 1 true else .err none 0
  | [] => .err none 0

/-- `lexFunctionModifier` (`t` = rest after the `@`). -/
def lexAt (t : Bytes) : LexStep :=
  let w := nameIdentLen t
  match t with
  | c1 :: _ => if w == 0 || !lowerCase c1 then .err none w else .tok T.annotation w false
  | [] => .err none w

/-- the `'/'` case of nextToken (`s` = rest including the `/`). -/
def lexSlash (s : Bytes) : LexStep :=
  if (bs "//").isPrefixOf s then
    let index := spanLen (fun x => x.toNat != 13 && x.toNat != 10) s
    match utf8Bad (s.take index) 0 with
    | some i => .err (some i) 0
    | none => .tok T.comment (index - 1) false
  else if (bs "/*").isPrefixOf s then .err none 1
  else .err none 0

/-- `lexSection` (`s` = rest including the `-`). -/
def lexSection (s : Bytes) : LexStep :=
  if (bs Facts.Syntaxtl2.typesSectionString).isPrefixOf s then
    .tok T.typesSection ((bs Facts.Syntaxtl2.typesSectionString).length - 1) false
  else if (bs Facts.Syntaxtl2.functionsSectionString).isPrefixOf s then
    .tok T.functionsSection ((bs Facts.Syntaxtl2.functionsSectionString).length - 1) false
  else .tok 45 0 false

/-- `lexNumberSign` (`t` = rest after the `#`). -/
def lexNumberSign (t : Bytes) : LexStep :=
  let k := spanLen identChar t
  if k == 0 then .tok T.numberSign 0 false
  else if !(t.take k).all hexc || k != 8 then .err none k
  else .tok T.crc32hash k false

/-- the `'_'` case of nextToken in TL2 mode (`t` = rest after the `_`). -/
def lexUnderscore (t : Bytes) : LexStep :=
  let w := nameIdentLen t
  if w == 0 then .tok T.underscore 0 false else .tok T.tl2depName w false

/-- `lexNumber` (`s` = rest including the first digit). -/
def lexNumber (s : Bytes) : LexStep :=
  let k := spanLen identChar s
  if (s.take k).all digit then .tok T.number (k - 1) false else .err none (k - 1)

/-- the `letter` case of nextToken in TL2 mode with `lexLexeme` (`s = c :: _`). -/
def lexLetter (c : UInt8) (s : Bytes) : LexStep :=
  let w := nameIdentLen s
  if s.take w == typeWord then .tok T.tl2typeSign 3 false
  else -- lexLexeme
    match s.drop w with
    | d :: r =>
      let w2 := nameIdentLen r
      if d.toNat == 46 && w2 != 0 then
        if !lowerCase c then .err none (w + w2)
        else match r with
          | c2 :: _ => if lowerCase c2 then .tok T.lcIdentNS (w + w2) false else .tok T.ucIdentNS (w + w2) false
          | [] => .err none 0
      else if lowerCase c then .tok T.lcIdent (w - 1) false else .tok T.ucIdent (w - 1) false
    | [] => if lowerCase c then .tok T.lcIdent (w - 1) false else .tok T.ucIdent (w - 1) false

/-- `lexer.nextToken` on the non-empty rest `c :: t` (TL2 mode). -/
def nextStep (c : UInt8) (t : Bytes) : LexStep :=
  let s := c :: t
  let n := c.toNat
  if isPrimitive c then .tok (n : Int) 0 false
  else if n == 13 then lexCR t
  else if n == 10 then .tok T.newLine 0 true
  else if n == 61 then -- '='
    if (bs "=>").isPrefixOf s then .tok T.functionSign 1 false else .tok T.equalSign 0 false
  else if n == 60 then -- '<'
    if (bs "<=>").isPrefixOf s then .tok T.tl2alias 2 false else .tok T.lAngle 0 false
  else if n == 64 then lexAt t
  else if n == 47 then lexSlash s
  else if n == 45 then lexSection s
  else if n == 35 then lexNumberSign t
  else if n == 95 then lexUnderscore t
  else if digit c then lexNumber s
  else if letter c then lexLetter c s
  else .err none 0

structure LexOut where
  toks : List Token
  err : Option PErr
  rest : Bytes      -- `l.str` when generateTokens returns
deriving Repr

def advPos (pos : Pos) (len : Nat) : Pos := { pos with col := pos.col + len, off := pos.off + len }
def nlPos (pos : Pos) : Pos := { line := pos.line + 1, col := 1, slo := pos.off, off := pos.off }

/-- one iteration of the `generateTokens` loop on the non-empty rest `c :: t`; `loop` is the rest of the loop. -/
def lexCons (loop : Bytes → Pos → Res LexOut) (c : UInt8) (t : Bytes) (pos : Pos) : Res LexOut :=
  match nextStep c t with
  | .tok ty extra nl =>
    if extra ≤ t.length then
      let tok : Token := { ty := ty, val := (c :: t).take (extra + 1), pos := pos }
      let pos1 := advPos pos (extra + 1)
      match loop (t.drop extra) (if nl then nlPos pos1 else pos1) with
      | .ok o => .ok { o with toks := tok :: o.toks }
      | r => r
    else .panic
  | .err none extra =>
    if extra ≤ t.length then
      let tok : Token := { ty := T.undefined, val := (c :: t).take (extra + 1), pos := pos }
      .ok { toks := [tok], err := some (errTok tok tok.pos), rest := t.drop extra }
    else .panic
  | .err (some pre) extra =>
    if pre + extra + 1 ≤ (c :: t).length then
      let tok0 : Token := { ty := T.comment, val := (c :: t).take pre, pos := pos }
      let s1 := (c :: t).drop pre
      let pos1 := advPos pos pre
      let tok : Token := { ty := T.undefined, val := s1.take (extra + 1), pos := pos1 }
      .ok { toks := [tok0, tok], err := some (errTok tok tok.pos), rest := s1.drop (extra + 1) }
    else .panic

/-- `generateTokens` loop (before `validateTokens`); `fuel` bounds the number of iterations (`.nofuel` is proved
unreachable for `fuel > len(s)`: every `nextToken` call consumes at least one byte). -/
def lexLoop : Nat → Bytes → Pos → Res LexOut
  | 0, _, _ => .nofuel
  | _ + 1, [], pos => .ok { toks := [{ ty := T.eof, val := [], pos := pos }], err := none, rest := [] }
  | f + 1, c :: t, pos => lexCons (lexLoop f) c t pos

def illegalTL2 (ty : Int) : Bool :=
  ty == T.lCurly || ty == T.rCurly || ty == T.exclamation || ty == T.lRound || ty == T.rRound ||
  ty == T.plus || ty == T.asterisk || ty == T.percentSign || ty == T.typesSection || ty == T.functionsSection

/-- `validateTokens`: the tokens up to and including the first illegal one, and the error. -/
def validate : List Token → List Token × Option PErr
  | [] => ([], none)
  | t :: ts =>
    if illegalTL2 t.ty then ([t], some (errTok t t.pos))
    else let (r, e) := validate ts; (t :: r, e)

def startPos : Pos := { line := 1, col := 1, slo := 0, off := 0 }

/-- `recombineTokens` over `l.tokens` and `l.str`. -/
def recombine (toks : List Token) (rest : Bytes) : Bytes :=
  (toks.map (·.val)).flatten ++ rest

structure Lexed where
  toks : List Token         -- what generateTokens returns
  all : List Token          -- `l.tokens`
  err : Option PErr
  rest : Bytes
deriving Repr

/-- `newLexer(s, …)` + `generateTokens()`. -/
def lexTL2 (s : Bytes) : Res Lexed :=
  match lexLoop (s.length + 1) s startPos with
  | .ok o =>
    match o.err with
    | some e => .ok { toks := o.toks, all := o.toks, err := some e, rest := o.rest }
    | none => let (r, e) := validate o.toks; .ok { toks := r, all := o.toks, err := e, rest := o.rest }
  | .panic => .panic
  | .nofuel => .nofuel

end TLVerif.Syntaxtl2
