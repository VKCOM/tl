import TLVerif.Syntaxtl2.StructLemmas
/-! Token-level round trip of template arguments, magic, type and function declarations, and whole declarations
(`parseTL2Combinator`), stepped through at reading positions like the struct bodies of StructLemmas. -/
namespace TLVerif.Syntaxtl2
variable {N : Nat} {tx : Bytes} {it : Iter} {k : TK} {ks : List TK}

theorem parseDigits16_zeros (k : Nat) (d : Bytes) : parseDigits 16 (List.replicate k 48 ++ d) 0 = parseDigits 16 d 0 := by
  induction k with
  | zero => rfl
  | succ k ih =>
    simp only [List.replicate_succ, List.cons_append, parseDigits]
    have : digitVal 16 48 = some 0 := by decide
    rw [this]
    exact ih

theorem parseUint32_hex8 (m : Nat) (h : m < 4294967296) : parseUint32 16 (hex8 m) = some m := by
  obtain ⟨h1, hne⟩ := parseDigits_natDigits (b := 16) (by decide) (by decide) (m + 1) m (by omega)
  simp only [parseUint32, hex8]
  rw [parseDigits16_zeros, h1]
  simp [hne, h]

/-- no white space directly after a `:` token (true for formatter output; needed because
`parseTL2TypeArgumentDeclaration` looks at the token after the colon without skipping white space). -/
def NoWSAfterColon (it : Iter) : Prop :=
  ∀ a b l, (a :: b :: l) <:+ it → a.ty = T.colon → isWS b = false

def catTK (isNat : Bool) : TK := if isNat then (T.numberSign, bs "#") else (T.tl2typeSign, typeWord)
def templ1Toks (t : Templ) : List TK := [(identTy t.name, t.name), (T.colon, bs ":"), catTK t.isNat]
def Templ.wf (t : Templ) : Bool := isIdent t.name

theorem templR (hadj : NoWSAfterColon it) (t : Templ) {its : Iter} (pos : Pos)
    (h : Rd it (templ1Toks t ++ k :: ks) its) :
    (parseTemplArg its pos).Sat (Gives it (k :: ks) { start := true } (t = ·)) := by
  simp only [templ1Toks, List.cons_append, List.nil_append] at h
  unfold parseTemplArg
  dsimp only
  refine h.skip fun hd r e ho => ?_
  refine ho.check (show [T.lcIdent, T.ucIdent].contains (identTy t.name) = true by
    rcases identTy_mem t.name with h | h <;> rw [h] <;> decide) ?_
  refine ho.skip ?_
  refine ho.next.fr fun _ => ?_
  refine ho.next.hitOn rfl fun cl r2 oc => ?_
  -- the category token follows the colon directly
  obtain ⟨ct, r3, rfl⟩ : ∃ ct r3, r2 = ct :: r3 := List.exists_cons_of_ne_nil oc.next.ne
  have hnwct : NW ct := hadj cl ct r3 oc.suf oc.ty
  obtain ⟨_, _, e3, o3⟩ := oc.next.on
  cases (skipWS_nw hnwct).symm.trans e3
  have hcat : (ct.ty == T.numberSign || ct.val == typeWord) = true ∧ (ct.ty == T.numberSign) = t.isNat := by
    rw [o3.ty, o3.val]
    cases t.isNat <;> exact ⟨by simp [catTK], by decide⟩
  dsimp only [front, Res.ok_bind]
  rw [hcat.1]
  refine o3.skip ?_
  refine o3.next.fr fun _ => ?_
  exact Res.Sat.pure ⟨rfl, by rw [hcat.2, ho.val], o3.next⟩

def commaTK : TK := (T.commaSign, bs ",")
def moreTemplToks (ts : List Templ) : List TK := (ts.map (fun t => commaTK :: templ1Toks t)).flatten

theorem templLoopR (hadj : NoWSAfterColon it) (pos : Pos) (st : OState) : ∀ (ts : List Templ) {its : Iter} (fz : Nat)
    (acc : List Templ), Rd it (moreTemplToks ts ++ (T.rAngle, bs ">") :: ks) its → ts.length < fz →
    (parseTemplLoop pos fz st its acc).Sat (fun q => q.1 = st ∧ q.2.2.1 = acc ++ ts ∧ q.2.2.2 = false ∧
      Rd it ((T.rAngle, bs ">") :: ks) q.2.1) := by
  intro ts
  induction ts with
  | nil =>
    intro its fz acc h hfz
    obtain ⟨f, rfl⟩ := Nat.exists_eq_add_one.mpr (Nat.zero_lt_of_lt hfz)
    unfold parseTemplLoop
    refine Rd.miss (k := (T.rAngle, bs ">")) (ks := ks) h (by decide) fun hd r o => ?_
    exact Res.Sat.pure ⟨rfl, (List.append_nil _).symm, rfl, o.here⟩
  | cons t ts ih =>
    intro its fz acc h hfz
    obtain ⟨fz', rfl⟩ := Nat.exists_eq_add_one.mpr (Nat.zero_lt_of_lt hfz)
    have h' : Rd it (commaTK :: (templ1Toks t ++ (moreTemplToks ts ++ (T.rAngle, bs ">") :: ks))) its :=
      h.cast (by simp [moreTemplToks])
    obtain ⟨k', ks2, hk2⟩ := exists_cons_of_append_cons (moreTemplToks ts) (T.rAngle, bs ">") ks
    unfold parseTemplLoop
    refine h'.hit rfl fun r1 h1 => ?_
    refine (templR hadj t pos (hk2 ▸ h1)).bind ?_
    rintro ⟨_, r2, _⟩ ⟨rfl, rfl, h2⟩
    refine h2.fr fun _ => ?_
    refine (ih fz' (acc ++ [t]) (hk2 ▸ h2) (Nat.lt_of_succ_lt_succ hfz)).mono ?_
    rintro ⟨_, r3, _, _⟩ ⟨rfl, rfl, rfl, h3⟩
    exact ⟨rfl, List.append_assoc _ _ _, rfl, h3⟩

def magicToks (m : Nat) : List TK := if m = 0 then [] else [(T.crc32hash, bs "#" ++ hex8 m)]
def templToks : List Templ → List TK
  | [] => []
  | t :: ts => (T.lAngle, bs "<") :: (templ1Toks t ++ (moreTemplToks ts ++ [(T.rAngle, bs ">")]))
theorem templToks_len (ts : List Templ) : ts.length ≤ (templToks ts).length := by
  cases ts with
  | nil => simp
  | cons t ts =>
    simp only [templToks, moreTemplToks, templ1Toks, List.length_cons, List.length_append, List.length_flatten, List.map_map,
      Function.comp_def, List.map_const', List.sum_replicate_nat, List.length_nil]
    omega

def TypeDef.toks : TypeDef → List TK
  | .alias t => (T.tl2alias, bs "<=>") :: typeToks t
  | .struct sd => (T.equalSign, bs "=") :: sd.toks
def TypeDef.wf : TypeDef → Bool
  | .alias t => t.wf
  | .struct sd => sd.wf

/-- tokens of a type declaration after its name -/
def typeDeclToks (d : TypeDecl) : List TK := magicToks d.magic ++ (templToks d.templs ++ d.ty.toks)
def TypeDecl.wf (d : TypeDecl) : Bool := decide (d.magic < 4294967296) && d.templs.all Templ.wf && d.ty.wf

theorem parseMagicR {hd : Token} {r : Iter} (m : Nat) (hm0 : m ≠ 0) (hm32 : m < 4294967296) (pos : Pos)
    (o : On it (T.crc32hash, bs "#" ++ hex8 m) (k :: ks) hd r) : parseMagic (hd :: r) pos = .ok (none, r, m) := by
  obtain ⟨t1, ht1⟩ := front_strip o.toks
  have hlen : ¬ (bs "#" ++ hex8 m).length < 1 := by simp [bs]
  have hdrop : (bs "#" ++ hex8 m).drop 1 = hex8 m := by simp [bs]
  have hz : (m == 0) = false := by simpa using hm0
  unfold parseMagic
  simp only [skipWS_nw o.nw, Res.ok_bind, popFront_cons, o.val, hlen, ↓reduceIte, hdrop, parseUint32_hex8 m hm32, hz,
    Bool.false_eq_true, ht1, Res.pure_eq]

theorem typeDefToks_head (t : TypeDef) : ∃ k ks, t.toks = k :: ks ∧ k.1 ∈ [T.tl2alias, T.equalSign] := by
  cases t with
  | alias ty => exact ⟨_, _, rfl, by decide⟩
  | struct sd => exact ⟨_, _, rfl, by decide⟩

theorem typeDeclR (hc : Ctx N tx it) (hadj : NoWSAfterColon it) (d : TypeDecl) (hwf : d.wf = true) {its : Iter} (pos : Pos)
    {fuel : Nat} (h : Rd it (typeDeclToks d ++ semiTK :: ks) its) (hfu : fuelFor it ≤ fuel) :
    (parseTypeDecl tx fuel its pos d.name).Sat
      (Gives it (semiTK :: ks) { start := true } fun x => (Decl.type x).core = (Decl.type d).core) := by
  simp only [TypeDecl.wf, Bool.and_eq_true, decide_eq_true_eq] at hwf
  obtain ⟨⟨hm32, -⟩, hdwf⟩ := hwf
  obtain ⟨kd, ksd, hkd, hkdty⟩ := typeDefToks_head d.ty
  obtain ⟨hkd1, hkd2, hkd3⟩ := (by decide : ∀ x ∈ [T.tl2alias, T.equalSign], [T.crc32hash].contains x = false ∧ x ≠ T.lAngle ∧
    [T.lCurly, T.lRound, T.lSquare].contains x = false) _ hkdty
  obtain ⟨k0, ks0, hk0⟩ := exists_cons_of_append_cons (typeDeclToks d) semiTK ks
  unfold parseTypeDecl
  refine (hk0 ▸ h).skip fun hd r e o => ?_
  refine o.check rfl ?_
  refine Res.Sat.bind (P := fun q => q.1 = none ∧ q.2.2 = d.magic ∧
    Rd it (templToks d.templs ++ (d.ty.toks ++ semiTK :: ks)) q.2.1) ?_ ?_
  · by_cases hm0 : d.magic = 0
    · have : magicToks d.magic = [] := by simp [magicToks, hm0]
      simp only [typeDeclToks, this, List.nil_append, List.append_assoc] at hk0
      have hty : [T.crc32hash].contains k0.1 = false := by
        cases hts : d.templs with
        | nil => rw [hts, templToks, List.nil_append, hkd] at hk0; exact (List.cons.inj hk0).1 ▸ hkd1
        | cons t ts => rw [hts, templToks] at hk0; exact (List.cons.inj hk0).1 ▸ (by decide)
      rw [hty]
      exact Res.Sat.pure ⟨rfl, hm0.symm, o.here.cast (by rw [hk0])⟩
    · have hmt : magicToks d.magic = [(T.crc32hash, bs "#" ++ hex8 d.magic)] := by simp [magicToks, hm0]
      simp only [typeDeclToks, hmt, List.cons_append, List.append_assoc, List.cons.injEq] at hk0
      obtain ⟨rfl, rfl⟩ := hk0
      obtain ⟨k1, ks1, hk1⟩ := exists_cons_of_append_cons (templToks d.templs ++ d.ty.toks) semiTK ks
      rw [List.append_assoc] at hk1
      rw [show [T.crc32hash].contains T.crc32hash = true from rfl]
      exact ⟨_, parseMagicR d.magic hm0 hm32 pos (hk1 ▸ o), rfl, rfl, o.next⟩
  rintro ⟨_, R1, _⟩ ⟨rfl, rfl, h1⟩
  dsimp only
  refine Res.Sat.bind (P := fun q => q.1 = !d.templs.isEmpty ∧
    Rd it ((templToks d.templs).tail ++ (d.ty.toks ++ semiTK :: ks)) q.2) ?_ ?_
  · rw [← Res.bind_pure (expect R1 T.lAngle)]
    cases hts : d.templs with
    | nil =>
      rw [hts, templToks, List.nil_append, hkd] at h1
      exact h1.miss hkd2 fun _ _ o => Res.Sat.pure ⟨rfl, o.here.cast (by rw [hkd]; rfl)⟩
    | cons t ts =>
      rw [hts, templToks, List.cons_append] at h1
      exact h1.hit rfl fun _ o => Res.Sat.pure ⟨rfl, o⟩
  rintro ⟨_, R2⟩ ⟨rfl, h2⟩
  dsimp only
  refine Res.Sat.bind (P := fun q => q.1.err = none ∧ q.2.2.1 = d.templs ∧ q.2.2.2 = false ∧
    Rd it (d.ty.toks ++ semiTK :: ks) q.2.1) ?_ ?_
  · cases hts : d.templs with
    | nil =>
      rw [hts, templToks, List.tail_nil, List.nil_append, hkd] at h2
      simp only [List.isEmpty_nil, Bool.not_true, Bool.false_eq_true, ↓reduceIte]
      refine h2.check hkd3 fun hd2 r2 o2 => ?_
      exact Res.Sat.pure ⟨rfl, rfl, rfl, o2.here.cast (by rw [hkd]; rfl)⟩
    | cons t ts =>
      have hfl := h1.fuel (a := templToks d.templs) hfu
      have hlen : d.templs.length < fuel := by have := templToks_len d.templs; omega
      rw [hts] at h2 hlen
      simp only [templToks, List.tail_cons, List.append_assoc, List.cons_append, List.nil_append] at h2
      obtain ⟨k', ks2, hk2⟩ := exists_cons_of_append_cons (moreTemplToks ts) (T.rAngle, bs ">") (d.ty.toks ++ semiTK :: ks)
      simp only [List.isEmpty_cons, Bool.not_false, ↓reduceIte]
      refine (templR hadj t pos (hk2 ▸ h2)).bind ?_
      rintro ⟨_, Rb, _⟩ ⟨rfl, rfl, hb⟩
      refine hb.fr fun _ => ?_
      refine (templLoopR hadj pos { start := true } ts fuel [t] (hk2 ▸ hb) (Nat.lt_of_succ_lt hlen)).bind ?_
      rintro ⟨_, Rl, _, _⟩ ⟨rfl, rfl, rfl, hl⟩
      refine hl.hit rfl fun Re he => ?_
      exact Res.Sat.pure ⟨rfl, rfl, rfl, he⟩
  rintro ⟨⟨s0, _⟩, R3, _, _⟩ ⟨hste, rfl, rfl, h3⟩
  dsimp only at hste h3 ⊢
  subst hste
  cases hty : d.ty with
  | alias t =>
    rw [hty] at h3 hdwf
    simp only [TypeDef.toks, TypeDef.wf, List.cons_append] at h3 hdwf
    refine h3.miss (by decide) fun hda ra oa => ?_
    refine oa.here.hit rfl fun Rb hb => ?_
    have hfl := hb.fuel (a := typeToks t) hfu
    refine (typeR t hdwf pos hb ⟨semiTK, ks, rfl, by decide⟩ (by have := needT_le t; omega)).bind ?_
    rintro ⟨_, Rt, _⟩ ⟨rfl, rfl, ht⟩
    refine ht.fr fun _ => ?_
    refine ht.fr fun _ => ?_
    exact Res.Sat.pure ⟨rfl, by simp [Decl.core, hty, TypeDef.core], ht⟩
  | struct sd =>
    rw [hty] at h3 hdwf
    simp only [TypeDef.toks, TypeDef.wf, List.cons_append] at h3 hdwf
    refine h3.hit rfl fun Ra ha => ?_
    have hfl := ha.fuel (a := sd.toks) hfu
    refine (structR hc sd hdwf pos ha (by have := structNeed_le sd hdwf; omega)).bind ?_
    rintro ⟨⟨s1, _⟩, Rb, sd'⟩ ⟨hste', hcore, hb⟩
    dsimp only at hste' hb ⊢
    subst hste'
    refine hb.fr fun _ => ?_
    exact Res.Sat.pure ⟨rfl, by simp [Decl.core, hty, TypeDef.core, hcore], hb⟩

/-- tokens of a function result after `=>` (alias, or a struct body; the bare-type-reference form is not covered here) -/
def retToks : TypeDef → List TK
  | .alias t => (T.tl2alias, bs "<=>") :: typeToks t
  | .struct sd => sd.toks

/-- tokens of a function declaration after its name -/
def funcDeclToks (d : FuncDecl) : List TK :=
  (T.crc32hash, bs "#" ++ hex8 d.magic) :: (fieldsToks d.args ++ ((T.functionSign, bs "=>") :: retToks d.ret))

def FuncDecl.wf (d : FuncDecl) : Bool :=
  decide (d.magic ≠ 0) && decide (d.magic < 4294967296) && d.args.all Field.wf && d.ret.wf

theorem funcDeclR (hc : Ctx N tx it) (d : FuncDecl) (hwf : d.wf = true) {its : Iter} (pos : Pos) {fuel : Nat}
    (h : Rd it (funcDeclToks d ++ semiTK :: ks) its) (hfu : fuelFor it ≤ fuel) :
    (parseFuncDecl tx fuel its pos d.name).Sat
      (Gives it (semiTK :: ks) { start := true } fun x => (Decl.func x).core = (Decl.func d).core) := by
  simp only [FuncDecl.wf, Bool.and_eq_true, decide_eq_true_eq] at hwf
  obtain ⟨⟨⟨hm0, hm32⟩, hawf⟩, hrwf⟩ := hwf
  simp only [funcDeclToks, List.cons_append, List.append_assoc] at h
  obtain ⟨kf, ksf, hkf⟩ :=
    exists_cons_of_append_cons (fieldsToks d.args) (T.functionSign, bs "=>") (retToks d.ret ++ semiTK :: ks)
  obtain ⟨hlen, hmem⟩ := needFields_bounds d.args
  unfold parseFuncDecl parseFields
  refine h.skip fun hd r e o => ?_
  refine o.check (b := true) rfl ?_
  simp only [Bool.not_true, Bool.false_eq_true, ↓reduceIte, parseMagicR d.magic hm0 hm32 pos (hkf ▸ o), Res.ok_bind]
  have hfl := o.next.fuel (a := fieldsToks d.args) hfu
  have hf2 : needFields d.args ≤ fuel := by have := needFields_le (List.all_eq_true.mp hawf); omega
  refine (fieldsR hc pos fuel d.args (List.all_eq_true.mp hawf) (fun g hg => Nat.le_trans (hmem g hg) hf2) fuel [] false o.next
    (by decide) (by decide) (by omega)).bind ?_
  rintro ⟨_, r2, args'⟩ ⟨rfl, hacore, h2⟩
  simp only [OState.isFailed, Option.isSome, Bool.and_false, Bool.false_eq_true, ↓reduceIte]
  refine h2.hit rfl fun r3 h3 => ?_
  cases hret : d.ret with
  | alias t =>
    rw [hret] at h3 hrwf
    simp only [retToks, TypeDef.wf, List.cons_append] at h3 hrwf
    refine h3.check rfl fun hd4 r4 o4 => ?_
    have hfl := o4.next.fuel (a := typeToks t) hfu
    refine (typeR t hrwf pos o4.next ⟨semiTK, ks, rfl, by decide⟩ (by have := needT_le t; omega)).bind ?_
    rintro ⟨_, r5, _⟩ ⟨rfl, rfl, h5⟩
    refine h5.fr fun _ => ?_
    exact Res.Sat.pure ⟨rfl, by simp [Decl.core, hret, TypeDef.core, hacore], h5⟩
  | struct sd =>
    rw [hret] at h3 hrwf
    simp only [retToks, TypeDef.wf] at h3 hrwf
    obtain ⟨k4, ks4, hk4, hk4ty⟩ : ∃ k4 ks4, sd.toks ++ semiTK :: ks = k4 :: ks4 ∧ [T.tl2alias].contains k4.1 = false := by
      cases sd with
      | fields fs =>
        obtain ⟨k4, ks4, h, hmem⟩ := fieldsToks_head fs (List.all_eq_true.mp hrwf) semiTK ks
        exact ⟨k4, ks4, h, (by decide : ∀ x ∈ T.semiColon :: fieldStart, [T.tl2alias].contains x = false) _ hmem⟩
      | union vs =>
        cases vs with
        | nil => exact ⟨semiTK, ks, by simp [StructDef.toks], by decide⟩
        | cons v vs =>
          exact ⟨(variantNameTy v.name, v.name), v.body.toks ++ (moreVariantsToks vs ++ semiTK :: ks),
            by simp [StructDef.toks, variantToks],
            (by decide : ∀ x ∈ variantStart, [T.tl2alias].contains x = false) _ (variantNameTy_mem v.name)⟩
    have hfl := h3.fuel (a := sd.toks) hfu
    refine (hk4 ▸ h3).check hk4ty fun hd4 r4 o4 => ?_
    refine (structR hc sd hrwf pos (hk4 ▸ o4.here) (by have := structNeed_le sd hrwf; omega)).bind ?_
    rintro ⟨⟨start', _⟩, r5, sd'⟩ ⟨rfl, hcore, h5⟩
    cases start' with
    | true =>
      refine h5.fr fun _ => ?_
      exact Res.Sat.pure ⟨rfl, by simp [Decl.core, hret, TypeDef.core, hacore, hcore], h5⟩
    | false =>
      refine (typeOmittedR h5 pos (by omega) (by decide) (by decide) (by decide)).bind ?_
      rintro ⟨_, r6, _⟩ ⟨rfl, _, h6⟩
      refine h6.fr fun _ => ?_
      exact Res.Sat.pure ⟨rfl, by simp [Decl.core, hret, TypeDef.core, hacore, hcore], h6⟩

def annTK (a : Bytes) : TK := (T.annotation, [64] ++ a)

theorem annotationsR (pos : Pos) : ∀ (anns : List Bytes) {its : Iter} (fz : Nat) (acc : List Bytes) (start : Bool),
    Rd it (anns.map annTK ++ k :: ks) its → k.1 ≠ T.annotation → anns.length < fz →
    (zeroOrMore parseAnnotation fz its pos acc start).Sat
      (Gives it (k :: ks) { start := start || !anns.isEmpty } (acc ++ anns = ·)) := by
  intro anns
  induction anns with
  | nil =>
    intro its fz acc start h hk hfz
    have stop : (parseAnnotation its pos).Sat (fun p => p.1 = { start := false } ∧ Rd it (k :: ks) p.2.1) := by
      unfold parseAnnotation
      refine Rd.skip (k := k) (ks := ks) h fun hd r _ o => ?_
      refine o.check (show [T.annotation].contains k.1 = false by simpa using hk) ?_
      refine o.here.fr fun _ => ?_
      exact Res.Sat.pure ⟨rfl, o.here⟩
    obtain ⟨⟨_, rest, x⟩, e, rfl, hr⟩ := stop
    rw [zeroOrMore_eq e (Nat.zero_lt_of_lt hfz)]
    exact Res.Sat.pure ⟨by simp, by simp, hr⟩
  | cons a anns ih =>
    intro its fz acc start h hk hfz
    have step : (parseAnnotation its pos).Sat (fun p => p.1 = { start := true } ∧ a = p.2.2 ∧
        Rd it (anns.map annTK ++ k :: ks) p.2.1) := by
      unfold parseAnnotation
      refine Rd.skip (k := annTK a) (ks := anns.map annTK ++ k :: ks) h fun hd r _ o => ?_
      refine o.check (b := true) rfl ?_
      dsimp only [popFront, Res.ok_bind]
      rw [o.val, if_neg (by simp)]
      refine o.next.frApp fun _ => ?_
      refine o.next.frApp fun _ => ?_
      exact Res.Sat.pure ⟨rfl, by simp [annTK], o.next⟩
    obtain ⟨⟨_, r1, _⟩, e1, rfl, rfl, h1⟩ := step
    rw [zeroOrMore_eq e1 (Nat.zero_lt_of_lt hfz)]
    refine (ih (fz - 1) (acc ++ [a]) true h1 hk (Nat.lt_sub_of_add_lt hfz)).mono ?_
    rintro ⟨_, r2, _⟩ ⟨rfl, rfl, h2⟩
    exact ⟨by simp, by simp, h2⟩

/-- on the tokens of a function declaration (magic, then a field or `=>`) the type-declaration parser does not start. -/
theorem typeDeclNotStartedOnFuncR {its : Iter} (m : Nat) (hm0 : m ≠ 0) (hm32 : m < 4294967296) (pos : Pos) (name : TName)
    (fuel : Nat) (h : Rd it ((T.crc32hash, bs "#" ++ hex8 m) :: k :: ks) its) (hk : k.1 ∈ T.functionSign :: fieldStart) :
    (parseTypeDecl tx fuel its pos name).Sat (fun p => p.1 = { start := false } ∧ p.2.1 = its) := by
  have hkn := (by decide : ∀ x ∈ T.functionSign :: fieldStart, x ≠ T.lAngle ∧
    [T.lCurly, T.lRound, T.lSquare].contains x = false ∧ x ≠ T.equalSign ∧ x ≠ T.tl2alias) _ hk
  unfold parseTypeDecl
  refine h.skip fun hd r _ o => ?_
  refine o.check (b := true) rfl ?_
  simp only [↓reduceIte, parseMagicR m hm0 hm32 pos o, Res.ok_bind]
  refine o.next.miss hkn.1 fun hd1 r1 o1 => ?_
  simp only [Bool.false_eq_true, ↓reduceIte, Res.bind_assoc]
  refine o1.check hkn.2.1 ?_
  refine o1.here.miss hkn.2.2.1 fun hd3 r3 o3 => ?_
  refine o3.here.miss hkn.2.2.2 fun hd4 r4 o4 => ?_
  exact Res.Sat.pure ⟨rfl, rfl⟩

def Decl.toks : Decl → List TK
  | .type d => tnameToks d.name ++ typeDeclToks d
  | .func d => tnameToks d.name ++ funcDeclToks d
def combToks (c : Comb) : List TK := c.anns.map annTK ++ (c.decl.toks ++ [semiTK])

def Decl.wf : Decl → Bool
  | .type d => d.name.wf && d.wf
  | .func d => d.name.wf && d.wf

def Decl.name : Decl → TName
  | .type d => d.name
  | .func d => d.name
def Decl.bodyToks : Decl → List TK
  | .type d => typeDeclToks d
  | .func d => funcDeclToks d

theorem Decl.toks_eq (d : Decl) : d.toks = tnameToks d.name ++ d.bodyToks := by cases d <;> rfl

theorem Decl.wf_name {d : Decl} (h : d.wf = true) : d.name.wf = true := by
  cases d <;> exact (Bool.and_eq_true _ _ ▸ h).1

theorem annTK_ne (a : Bytes) : (annTK a).1 = T.annotation := rfl

theorem combR (hc : Ctx N tx it) (hadj : NoWSAfterColon it) (c : Comb) (hwf : c.decl.wf = true) {its : Iter} {fuel : Nat}
    (h : Rd it (combToks c ++ k :: ks) its) (hfu : fuelFor it ≤ fuel) :
    (parseCombinator tx fuel its).Sat (fun q => q.2.2 = none ∧ q.1.core = c.core ∧ Rd it (k :: ks) q.2.1) := by
  obtain ⟨kn, hkn, hm⟩ := tnameToks_head c.decl.name
  have hknann : kn.1 ≠ T.annotation := (by decide : ∀ x ∈ _, x ≠ T.annotation) _ hm
  have h1 : Rd it (c.anns.map annTK ++ kn :: (c.decl.bodyToks ++ semiTK :: (k :: ks))) its :=
    h.cast (by rw [combToks, Decl.toks_eq, hkn]; simp)
  obtain ⟨k0, ks0, hk0⟩ := exists_cons_of_append_cons (c.anns.map annTK) kn (c.decl.bodyToks ++ semiTK :: (k :: ks))
  unfold parseCombinator
  refine (hk0 ▸ h1).skip fun hd r e o => ?_
  simp only [front, Res.ok_bind]
  refine (parseCommentBefore_step hc h.suf e).bind fun cb _ => ?_
  unfold parseCombinatorBody
  refine (annotationsR hd.pos c.anns fuel [] false (o.here.cast (by rw [hk0]) : Rd it _ (hd :: r)) hknann
    (by have hfl := h1.fuel (a := c.anns.map annTK) hfu; rw [List.length_map] at hfl; omega)).bind ?_
  rintro ⟨_, r1, _⟩ ⟨rfl, rfl, ha⟩
  dsimp only
  refine ha.skip fun hd1 r1' _ o1 => ?_
  refine (nameR c.decl.name (Decl.wf_name hwf) hd.pos (ks := c.decl.bodyToks ++ semiTK :: (k :: ks))
    (o1.here.cast (by rw [hkn]; rfl))).bind ?_
  rintro ⟨_, r2, _⟩ ⟨rfl, rfl, h2⟩
  refine h2.frApp fun _ => ?_
  refine h2.frApp fun _ => ?_
  dsimp only
  cases hdd : c.decl with
  | type d =>
    rw [hdd] at hwf h2
    simp only [Decl.wf, Bool.and_eq_true, Decl.name, Decl.bodyToks] at hwf h2 ⊢
    refine (typeDeclR hc hadj d hwf.2 hd.pos h2 hfu).bind ?_
    rintro ⟨_, r3, d'⟩ ⟨rfl, hcore, h3⟩
    refine h3.hit rfl fun r4 h4 => ?_
    refine h4.fr fun _ => ?_
    exact Res.Sat.pure ⟨rfl, by simp [Comb.core, hdd, hcore], h4⟩
  | func d =>
    rw [hdd] at hwf h2
    simp only [Decl.wf, Bool.and_eq_true, Decl.name, Decl.bodyToks] at hwf h2 ⊢
    have hfw := hwf.2
    simp only [FuncDecl.wf, Bool.and_eq_true, decide_eq_true_eq] at hfw
    obtain ⟨⟨⟨hm0, hm32⟩, hawf⟩, -⟩ := hfw
    obtain ⟨kf, ksf, hkf, hkfm⟩ := fieldsToks_head d.args (List.all_eq_true.mp hawf) (T.functionSign, bs "=>")
      (retToks d.ret ++ semiTK :: (k :: ks))
    have h2' : Rd it ((T.crc32hash, bs "#" ++ hex8 d.magic) :: kf :: ksf) r2 :=
      h2.cast (by rw [funcDeclToks, ← hkf]; simp)
    obtain ⟨⟨_, _, d0⟩, e0, rfl, rfl⟩ := typeDeclNotStartedOnFuncR (tx := tx) d.magic hm0 hm32 hd.pos d.name fuel h2' hkfm
    rw [e0]
    simp only [expectProgress_ok, Bool.not_true, Bool.false_eq_true, ↓reduceIte, Res.ok_bind, Bool.not_false, Res.bind_assoc]
    refine (funcDeclR hc d hwf.2 hd.pos h2 hfu).bind ?_
    rintro ⟨_, r3, d'⟩ ⟨rfl, hcore, h3⟩
    refine h3.hit rfl fun r4 h4 => ?_
    refine h4.fr fun _ => ?_
    exact Res.Sat.pure ⟨rfl, by simp [Comb.core, hdd, hcore], h4⟩

end TLVerif.Syntaxtl2
