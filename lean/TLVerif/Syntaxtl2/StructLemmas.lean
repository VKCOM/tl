import TLVerif.Syntaxtl2.RoundTripLemmas
import TLVerif.Syntaxtl2.FormatLemmas
/-! Token-level round trip (white space and comments anywhere between tokens) of fields and field lists, union
variants, union types (two or more variants, no leading `|`) and struct bodies (`TL2StructTypeDefinition`: a field
list or a union, followed by `;`), each stepped through at a reading position `Rd`; and what the parser does on the
inputs where one of these does not start. -/
namespace TLVerif.Syntaxtl2
variable {N : Nat} {tx : Bytes} {it : Iter} {k : TK} {ks : List TK}

def fieldNameTy (f : Field) : Int :=
  if f.ignored then (if f.name == [95] then T.underscore else T.tl2depName) else identTy f.name

def fieldToks (f : Field) : List TK :=
  (if f.name != [] then
    [(fieldNameTy f, if f.ignored then bs "_" else f.name)] ++ (if f.optional then [(T.questionMark, bs "?")] else []) ++
      [(T.colon, bs ":")]
   else []) ++ typeToks f.ty

/-- a named field as the parser produces it, without a deprecated name (cf. `Guard` of C22). -/
def Field.wf (f : Field) : Bool :=
  f.name != [] && (if f.ignored then f.name == [95] && !f.optional else isIdent f.name) && f.ty.wf

def fieldStart : List Int := [T.lcIdent, T.underscore, T.ucIdent, T.tl2depName]

theorem fieldNameTy_mem (f : Field) : fieldNameTy f ∈ fieldStart := by
  unfold fieldNameTy fieldStart
  split
  · split <;> simp
  · rcases identTy_mem f.name with h | h <;> simp [h]

theorem fieldToks_wf {f : Field} (hwf : f.wf = true) : fieldToks f = (fieldNameTy f, if f.ignored then bs "_" else f.name) ::
    ((if f.optional then [(T.questionMark, bs "?")] else []) ++ (T.colon, bs ":") :: typeToks f.ty) := by
  simp only [Field.wf, Bool.and_eq_true] at hwf
  simp only [fieldToks, hwf.1.1, ↓reduceIte, List.append_assoc, List.cons_append, List.nil_append]

theorem fieldR (hc : Ctx N tx it) (f : Field) (hwf : f.wf = true) {its : Iter} (pos : Pos) {fuel : Nat}
    (h : Rd it (fieldToks f ++ ks) its) (hfol : FollowK ks) (hf : needT f.ty ≤ fuel) :
    (parseField tx fuel its pos).Sat (Gives it ks { start := true } (·.core = f.core)) := by
  simp only [fieldToks_wf hwf, List.append_assoc, List.cons_append] at h
  simp only [Field.wf, Bool.and_eq_true] at hwf
  obtain ⟨⟨_, hkind⟩, htywf⟩ := hwf
  have hfol' := hfol
  obtain ⟨k', ks', rfl, _⟩ := hfol'
  unfold parseField
  refine h.skip fun hd r e ho => ?_
  refine (parseCommentBefore_step hc h.suf e).bind fun cb _ => ?_
  dsimp only
  refine ho.check (show fieldStart.contains (fieldNameTy f) = true by simpa using fieldNameTy_mem f) ?_
  refine ho.skip ?_
  refine ho.next.frApp fun _ => ?_
  have hign : (hd.ty == T.underscore || hd.ty == T.tl2depName) = f.ignored := by
    rw [ho.ty]; unfold fieldNameTy
    cases f.ignored with
    | true => simp only [↓reduceIte]; split <;> decide
    | false =>
      simp only [Bool.false_eq_true, ↓reduceIte]
      rcases identTy_mem f.name with h | h <;> rw [h] <;> decide
  have hqi : (f.optional && f.ignored) = false := by
    cases hi : f.ignored with
    | false => simp
    | true =>
      rw [hi] at hkind
      simp only [↓reduceIte, Bool.and_eq_true, Bool.not_eq_true'] at hkind
      simp [hkind.2]
  have hcore : ∀ cb cr, ({ name := hd.val, optional := f.optional, ignored := f.ignored, ty := f.ty, cb := cb, cr := cr } :
      Field).core = f.core := by
    intro cb cr
    simp only [Field.core, ho.val]
    cases hi : f.ignored with
    | false => simp
    | true =>
      rw [hi] at hkind
      simp only [↓reduceIte, Bool.and_eq_true, beq_iff_eq] at hkind
      simp [hkind.1, bs]
  refine Res.Sat.bind (P := fun q => q.1 = f.optional ∧ Rd it ((T.colon, bs ":") :: (typeToks f.ty ++ k' :: ks')) q.2) ?_ ?_
  · dsimp only
    rw [← Res.bind_pure (expect r T.questionMark)]
    cases hopt : f.optional <;> rw [hopt] at ho
    · exact ho.next.miss (by decide) fun _ _ o => Res.Sat.pure ⟨rfl, o.here⟩
    · exact ho.next.hit rfl fun _ o => Res.Sat.pure ⟨rfl, o⟩
  rintro ⟨_, r1⟩ ⟨rfl, h1⟩
  dsimp only
  rw [hign, hqi]
  refine h1.hit rfl fun r2 h2 => ?_
  refine (typeR f.ty htywf pos h2 hfol hf).bind ?_
  rintro ⟨_, r3, _⟩ ⟨rfl, rfl, h3⟩
  refine h3.fr fun _ => ?_
  have h4 := h3.toNewline
  have hnl := (skipToNewline_strip r3).2
  cases hsn : skipToNewline r3 with
  | mk nl r4 =>
    rw [hsn] at h4 hnl
    dsimp only at h4 hnl ⊢
    refine Res.Sat.bind (P := fun _ => True) ?_ fun cr _ => ?_
    · cases nl with
      | true => exact parseCommentRight_step hc h3.suf hnl h4.ne
      | false => exact Res.Sat.pure trivial
    refine h4.fr fun _ => ?_
    exact Res.Sat.pure ⟨rfl, hcore _ _, h4⟩

theorem fieldStopR (hc : Ctx N tx it) {its : Iter} (pos : Pos) (fuel : Nat) (h : Rd it (k :: ks) its)
    (hk : fieldStart.contains k.1 = false) :
    (parseField tx fuel its pos).Sat (fun p => p.1 = { start := false } ∧ p.2.1 = its) := by
  unfold parseField
  refine h.skip fun hd r e ho => ?_
  refine (parseCommentBefore_step hc h.suf e).bind fun cb _ => ?_
  dsimp only
  refine ho.check hk ?_
  refine ho.here.fr fun _ => ?_
  exact Res.Sat.pure ⟨rfl, rfl⟩

theorem zeroOrMore_eq {α : Type} {p : Iter → Pos → Res (OState × Iter × α)} {its rest : Iter} {pos : Pos} {x : α} {fz : Nat}
    {b : Bool} (h : p its pos = .ok ({ start := b }, rest, x)) (hfz : 0 < fz) (acc : List α) (start : Bool) :
    zeroOrMore p fz its pos acc start =
      bif b then zeroOrMore p (fz - 1) rest pos (acc ++ [x]) true else .ok ({ start := start }, rest, acc) := by
  obtain ⟨n, rfl⟩ := Nat.exists_eq_add_one.mpr hfz
  cases b <;> simp [zeroOrMore, h, OState.hasProgress]

theorem parseFields_omitted {its : Iter} {pos : Pos} {fuel : Nat} (hf : 1 ≤ fuel)
    (h : (parseField tx fuel its pos).Sat (fun p => p.1 = { start := false } ∧ p.2.1 = its)) :
    parseFields tx fuel its pos = .ok ({ start := false }, its, []) := by
  obtain ⟨⟨_, _, f0⟩, e, rfl, rfl⟩ := h
  exact zeroOrMore_eq e hf [] false

def fieldsToks (fs : List Field) : List TK := (fs.map fieldToks).flatten

def needFields : List Field → Nat
  | [] => 1
  | f :: fs => needT f.ty + 1 + needFields fs

theorem needFields_bounds (fs : List Field) : fs.length + 1 ≤ needFields fs ∧ ∀ f ∈ fs, needT f.ty ≤ needFields fs := by
  induction fs with
  | nil => simp [needFields]
  | cons f fs ih =>
    simp only [needFields, List.length_cons, List.mem_cons, forall_eq_or_imp]
    exact ⟨by omega, by omega, fun g hg => by have := ih.2 g hg; omega⟩

theorem needFields_le {fs : List Field} (hwf : ∀ f ∈ fs, f.wf = true) : needFields fs ≤ 3 * (fieldsToks fs).length + 1 := by
  induction fs with
  | nil => simp [needFields, fieldsToks]
  | cons f fs ih =>
    simp only [needFields, fieldsToks, List.mem_cons, forall_eq_or_imp, List.map_cons, List.flatten_cons,
      List.length_append] at hwf ih ⊢
    have h1 := needT_le f.ty
    have h2 : (typeToks f.ty).length + 2 ≤ (fieldToks f).length := by
      simp only [fieldToks_wf hwf.1, List.length_append, List.length_cons]
      omega
    have h3 := ih hwf.2
    omega

theorem fieldToks_head (f : Field) (hwf : f.wf = true) : ∃ k ks, fieldToks f = k :: ks ∧ k.1 ∈ fieldStart :=
  ⟨_, _, fieldToks_wf hwf, fieldNameTy_mem f⟩

theorem fieldsToks_head (fs : List Field) (hwf : ∀ f ∈ fs, f.wf = true) (k : TK) (ks : List TK) :
    ∃ k' ks', fieldsToks fs ++ k :: ks = k' :: ks' ∧ k'.1 ∈ k.1 :: fieldStart := by
  cases fs with
  | nil => exact ⟨k, ks, rfl, List.mem_cons_self⟩
  | cons f fs =>
    obtain ⟨kf, ksf, hkf, hmem⟩ := fieldToks_head f (hwf f List.mem_cons_self)
    exact ⟨kf, ksf ++ (fieldsToks fs ++ k :: ks), by simp [fieldsToks, hkf], List.mem_cons_of_mem _ hmem⟩

theorem fieldsR (hc : Ctx N tx it) (pos : Pos) (fuel : Nat) : ∀ (fs : List Field), (∀ f ∈ fs, f.wf = true) →
    (∀ f ∈ fs, needT f.ty ≤ fuel) → ∀ {its : Iter} (fz : Nat) (acc : List Field) (start : Bool),
    Rd it (fieldsToks fs ++ k :: ks) its → fieldStart.contains k.1 = false → k.1 ≠ T.lAngle → fs.length < fz →
    (zeroOrMore (parseField tx fuel) fz its pos acc start).Sat
      (Gives it (k :: ks) { start := start || !fs.isEmpty } (·.map Field.core = (acc ++ fs).map Field.core)) := by
  intro fs
  induction fs with
  | nil =>
    intro _ _ its fz acc start h hk _ hfz
    obtain ⟨⟨_, _, f0⟩, e, rfl, rfl⟩ := fieldStopR hc pos fuel h hk
    rw [zeroOrMore_eq e (Nat.zero_lt_of_lt hfz)]
    exact Res.Sat.pure ⟨by simp, by simp, h⟩
  | cons f fs ih =>
    intro hwf hfuel its fz acc start h hk hla hfz
    have hwfs := fun g hg => hwf g (List.mem_cons_of_mem _ hg)
    have h' : Rd it (fieldToks f ++ (fieldsToks fs ++ k :: ks)) its := h.cast (by simp [fieldsToks])
    have hfol : FollowK (fieldsToks fs ++ k :: ks) := by
      obtain ⟨k', ks', e, hmem⟩ := fieldsToks_head fs hwfs k ks
      refine ⟨k', ks', e, ?_⟩
      rcases List.mem_cons.mp hmem with h1 | h1
      · exact h1 ▸ hla
      · exact (by decide : ∀ x ∈ fieldStart, x ≠ T.lAngle) _ h1
    obtain ⟨⟨_, r1, f'⟩, e1, rfl, hcore, h1⟩ := fieldR hc f (hwf f List.mem_cons_self) pos h' hfol (hfuel f List.mem_cons_self)
    rw [zeroOrMore_eq e1 (Nat.zero_lt_of_lt hfz)]
    refine (ih hwfs (fun g hg => hfuel g (List.mem_cons_of_mem _ hg)) (fz - 1) (acc ++ [f']) true h1 hk hla
      (Nat.lt_sub_of_add_lt hfz)).mono ?_
    rintro ⟨_, r2, _⟩ ⟨rfl, hcores, h2⟩
    exact ⟨by simp, by simp [hcore, hcores], h2⟩

def variantNameTy (n : Bytes) : Int := if n == typeWord then T.tl2typeSign else identTy n
def variantStart : List Int := [T.ucIdent, T.lcIdent, T.tl2typeSign]

def VBody.toks : VBody → List TK
  | .alias t => typeToks t
  | .fields fs => fieldsToks fs
def variantToks (v : Variant) : List TK := (variantNameTy v.name, v.name) :: v.body.toks

def VBody.wf : VBody → Bool
  | .alias t => t.wf
  | .fields fs => fs.all Field.wf
def Variant.wf (v : Variant) : Bool := (v.name == typeWord || isIdent v.name) && v.body.wf

def VBody.need : VBody → Nat
  | .alias t => needT t
  | .fields fs => needFields fs

def variantEnd : List Int := [T.semiColon, T.verticalBar]

theorem variantNameTy_mem (n : Bytes) : variantNameTy n ∈ variantStart := by
  unfold variantNameTy variantStart
  split
  · simp
  · rcases identTy_mem n with h | h <;> simp [h]

/-- a field is not started on the tokens of a type followed by `;` or `|` (the alias form of a union variant). -/
theorem fieldNotStartedR (hc : Ctx N tx it) (t : TypeRef) {its : Iter} (pos : Pos) (fuel : Nat)
    (h : Rd it (typeToks t ++ k :: ks) its) (hk : k.1 ∈ variantEnd) :
    (parseField tx fuel its pos).Sat (fun p => p.1 = { start := false } ∧ p.2.1 = its) := by
  obtain ⟨k0, ks0, hk0, hmem, htl⟩ := typeToks_head t
  have h0 : Rd it (k0 :: (ks0 ++ k :: ks)) its := h.cast (by rw [hk0]; rfl)
  by_cases hfs : fieldStart.contains k0.1 = true
  · -- the type starts with a plain identifier: the parser pops it as a field name and then sees neither `?` nor `:`
    obtain ⟨k1, ks1, hks1, hq, hcl⟩ : ∃ k1 ks1, ks0 ++ k :: ks = k1 :: ks1 ∧ k1.1 ≠ T.questionMark ∧ k1.1 ≠ T.colon := by
      rcases htl with h | rfl | ⟨ks1, rfl⟩
      · rw [h] at hfs; exact absurd hfs (by decide)
      · exact ⟨k, ks, rfl, (by decide : ∀ x ∈ variantEnd, x ≠ T.questionMark ∧ x ≠ T.colon) _ hk⟩
      · exact ⟨_, _, rfl, by decide, by decide⟩
    rw [hks1] at h0
    unfold parseField
    refine h0.skip fun hd r e ho => ?_
    refine (parseCommentBefore_step hc h.suf e).bind fun cb _ => ?_
    dsimp only
    refine ho.check hfs ?_
    refine ho.skip ?_
    refine ho.next.fr fun _ => ?_
    refine ho.next.miss hq fun hd1 r1 h1 => ?_
    refine h1.here.miss hcl fun hd2 r2 h2 => ?_
    refine h2.here.fr fun _ => ?_
    exact Res.Sat.pure ⟨rfl, rfl⟩
  · exact fieldStopR hc pos fuel h0 (by simpa using hfs)

theorem variantR (hc : Ctx N tx it) (v : Variant) (hwf : v.wf = true) {its : Iter} (pos : Pos) {fuel : Nat}
    (h : Rd it (variantToks v ++ k :: ks) its) (hk : k.1 ∈ variantEnd) (hf : v.body.need ≤ fuel) :
    (parseUnionConstructor tx fuel its pos).Sat (Gives it (k :: ks) { start := true } (·.core = v.core)) := by
  obtain ⟨name, body, cb⟩ := v
  simp only [Variant.wf, Bool.and_eq_true] at hwf
  simp only [variantToks, List.cons_append] at h
  obtain ⟨hfk, hla, hend⟩ :=
    (by decide : ∀ x ∈ variantEnd, fieldStart.contains x = false ∧ x ≠ T.lAngle ∧ variantEnd.contains x = true) _ hk
  unfold parseUnionConstructor
  refine h.skip fun hd r e ho => ?_
  refine ho.check (show variantStart.contains (variantNameTy name) = true by simpa using variantNameTy_mem name) ?_
  refine ho.skip ?_
  refine ho.next.frApp fun _ => ?_
  have hn := ho.next
  have hval : hd.val = name := ho.val
  dsimp only
  cases body with
  | fields fs =>
    simp only [VBody.wf, VBody.need, VBody.toks] at hwf hf hn
    cases fs with
    | nil =>
      -- `(k := k) (ks := ks)`: the index of `hn`, `fieldsToks [] ++ k :: ks`, is a cons only after unfolding (elsewhere: `Rd.cast`)
      refine Rd.check (k := k) (ks := ks) hn hend fun _ _ _ => ?_
      refine Rd.fr (k := k) (ks := ks) hn fun _ => ?_
      exact Res.Sat.pure ⟨rfl, by simp [Variant.core, VBody.core, hval], hn⟩
    | cons f fs =>
      have hwfs : ∀ g ∈ f :: fs, g.wf = true := List.all_eq_true.mp hwf.2
      obtain ⟨kf, ksf, hkf, hmemf⟩ := fieldToks_head f (hwfs f List.mem_cons_self)
      have hn' : Rd it (kf :: (ksf ++ (fieldsToks fs ++ k :: ks))) r := hn.cast (by simp [fieldsToks, hkf])
      refine hn'.check ((by decide : ∀ x ∈ fieldStart, variantEnd.contains x = false) _ hmemf) fun _ _ _ => ?_
      obtain ⟨hlen, hmem⟩ := needFields_bounds (f :: fs)
      refine (fieldsR hc pos fuel (f :: fs) hwfs (fun g hg => Nat.le_trans (hmem g hg) hf) fuel [] false hn hfk hla
        (by omega)).bind ?_
      rintro ⟨_, r3, fs'⟩ ⟨rfl, hcore, h3⟩
      refine h3.fr fun _ => ?_
      exact Res.Sat.pure ⟨rfl, by simp only [Variant.core, VBody.core, hval, hcore, List.nil_append], h3⟩
  | alias t =>
    simp only [VBody.wf, VBody.need, VBody.toks] at hwf hf hn
    obtain ⟨kt, kst, hkt, hmemt, _⟩ := typeToks_head t
    have hn' : Rd it (kt :: (kst ++ k :: ks)) r := hn.cast (by rw [hkt]; rfl)
    refine hn'.check ((by decide : ∀ x ∈ _, variantEnd.contains x = false) _ hmemt) fun _ _ _ => ?_
    have hpos := needT_pos t
    rw [parseFields_omitted (by omega) (fieldNotStartedR hc t pos fuel hn hk)]
    refine (typeR t hwf.2 pos hn ⟨k, ks, rfl, hla⟩ hf).bind ?_
    rintro ⟨_, r3, _⟩ ⟨rfl, rfl, h3⟩
    refine h3.fr fun _ => ?_
    exact Res.Sat.pure ⟨rfl, by simp [Variant.core, VBody.core, hval], h3⟩

theorem Variant.core_cb (v : Variant) (cb : Bytes) : ({ v with cb := cb } : Variant).core = v.core := rfl

def vbTK : TK := (T.verticalBar, bs "|")
def moreVariantsToks (vs : List Variant) : List TK := (vs.map (fun v => vbTK :: variantToks v)).flatten

def needVariants : List Variant → Nat
  | [] => 1
  | v :: vs => v.body.need + 1 + needVariants vs

theorem vbodyNeed_le (b : VBody) (hwf : b.wf = true) : b.need ≤ 3 * b.toks.length + 1 := by
  cases b with
  | alias t => have := needT_le t; simp only [VBody.need, VBody.toks]; omega
  | fields fs => exact needFields_le (List.all_eq_true.mp hwf)

theorem needVariants_bounds (vs : List Variant) :
    vs.length + 1 ≤ needVariants vs ∧ ∀ v ∈ vs, v.body.need ≤ needVariants vs := by
  induction vs with
  | nil => simp [needVariants]
  | cons v vs ih =>
    simp only [needVariants, List.length_cons, List.mem_cons, forall_eq_or_imp]
    exact ⟨by omega, by omega, fun g hg => by have := ih.2 g hg; omega⟩

theorem needVariants_le {vs : List Variant} (hwf : ∀ v ∈ vs, v.wf = true) :
    needVariants vs ≤ 3 * (moreVariantsToks vs).length + 1 := by
  induction vs with
  | nil => simp [needVariants]
  | cons v vs ih =>
    simp only [needVariants, moreVariantsToks, variantToks, List.length_cons, List.mem_cons, forall_eq_or_imp, List.map_cons,
      List.flatten_cons, List.length_append] at hwf ih ⊢
    have hv := hwf.1
    simp only [Variant.wf, Bool.and_eq_true] at hv
    have h1 := vbodyNeed_le v.body hv.2
    have h3 := ih hwf.2
    omega

def semiTK : TK := (T.semiColon, bs ";")

theorem variantsLoopR (hc : Ctx N tx it) (pos : Pos) (fuel : Nat) : ∀ (vs : List Variant), (∀ v ∈ vs, v.wf = true) →
    (∀ v ∈ vs, v.body.need ≤ fuel) → ∀ {its : Iter} (fz : Nat) (acc : List Variant),
    Rd it (moreVariantsToks vs ++ semiTK :: ks) its → vs.length < fz →
    (parseVariantsLoop tx fuel pos fz { start := true } its acc).Sat (fun q => q.2.2.2 = false ∧
      Gives it (semiTK :: ks) { start := true } (·.map Variant.core = (acc ++ vs).map Variant.core) (q.1, q.2.1, q.2.2.1)) := by
  intro vs
  induction vs with
  | nil =>
    intro _ _ its fz acc h hfz
    obtain ⟨fz', rfl⟩ := Nat.exists_eq_add_one.mpr (Nat.zero_lt_of_lt hfz)
    unfold parseVariantsLoop
    dsimp only
    refine Rd.skip (k := semiTK) (ks := ks) h fun _ _ _ _ => ?_
    refine Rd.miss (k := semiTK) (ks := ks) h (by decide) fun hd r o => ?_
    exact Res.Sat.pure ⟨rfl, rfl, by simp, o.here⟩
  | cons v vs ih =>
    intro hwf hfuel its fz acc h hfz
    obtain ⟨fz', rfl⟩ := Nat.exists_eq_add_one.mpr (Nat.zero_lt_of_lt hfz)
    have h' : Rd it (vbTK :: (variantToks v ++ (moreVariantsToks vs ++ semiTK :: ks))) its :=
      h.cast (by simp [moreVariantsToks])
    obtain ⟨k', ks2, hk2, hkend⟩ : ∃ k ks2, moreVariantsToks vs ++ semiTK :: ks = k :: ks2 ∧ k.1 ∈ variantEnd := by
      cases vs with
      | nil => exact ⟨semiTK, ks, by simp [moreVariantsToks], by decide⟩
      | cons w ws =>
        exact ⟨vbTK, variantToks w ++ (moreVariantsToks ws ++ semiTK :: ks), by simp [moreVariantsToks], by decide⟩
    unfold parseVariantsLoop
    dsimp only
    refine h'.skip fun hd r e _ => ?_
    refine h'.hit rfl fun r1 h1 => ?_
    refine (parseCommentBefore_step hc h.suf e).bind fun cb _ => ?_
    refine (variantR hc v (hwf v List.mem_cons_self) pos (hk2 ▸ h1) hkend (hfuel v List.mem_cons_self)).bind ?_
    rintro ⟨_, r2, v'⟩ ⟨rfl, hcore, h2⟩
    refine h2.fr fun _ => ?_
    refine (ih (fun g hg => hwf g (List.mem_cons_of_mem _ hg))
      (fun g hg => hfuel g (List.mem_cons_of_mem _ hg)) fz' (acc ++ [{ v' with cb := cb }]) (hk2 ▸ h2)
      (Nat.lt_of_succ_lt_succ hfz)).mono ?_
    rintro ⟨_, r3, _, _⟩ ⟨rfl, rfl, hcores, h3⟩
    exact ⟨rfl, rfl, by simp [hcores, Variant.core_cb, hcore], h3⟩

theorem constructorOmittedR {its : Iter} (pos : Pos) (fuel : Nat) (h : Rd it (k :: ks) its)
    (hvs : variantStart.contains k.1 = false) :
    (parseUnionConstructor tx fuel its pos).Sat (fun p => p.1 = { start := false }) := by
  unfold parseUnionConstructor
  refine h.skip fun hd r _ o => ?_
  refine o.check hvs ?_
  refine o.here.fr fun _ => ?_
  exact Res.Sat.pure rfl

/-- on a named non-ignored field (`name:` or `name?:`) `parseTL2UnionConstructor` starts and fails
("unexpected colon after one field union constructor declaration"). -/
theorem constructorFailsOnFieldR (hc : Ctx N tx it) {its : Iter} {k0 k1 : TK} (pos : Pos) {fuel : Nat} (hf : 3 ≤ fuel)
    (h : Rd it (k0 :: k1 :: ks) its) (hvs : variantStart.contains k0.1 = true) (hk1 : k1.1 ∈ [T.questionMark, T.colon]) :
    (parseUnionConstructor tx fuel its pos).Sat (fun p => p.1.isFailed = true ∧ Rd it (k1 :: ks) p.2.1) := by
  obtain ⟨hnotend, hnf, hn1, hn2, hn3, hcq⟩ := (by decide : ∀ x ∈ [T.questionMark, T.colon],
    variantEnd.contains x = false ∧ fieldStart.contains x = false ∧ [T.lcIdent, T.ucIdent].contains x = false ∧
    [T.lcIdentNS, T.ucIdentNS].contains x = false ∧ (x == T.lSquare) = false ∧ [T.colon, T.questionMark].contains x = true) _ hk1
  unfold parseUnionConstructor
  refine h.skip fun hd r _ o => ?_
  refine o.check hvs ?_
  refine o.skip ?_
  refine o.next.fr fun _ => ?_
  refine o.next.check hnotend fun _ _ _ => ?_
  dsimp only
  rw [parseFields_omitted (by omega) (fieldStopR hc pos fuel o.next hnf)]
  refine (typeOmittedR o.next pos hf hn1 hn2 hn3).bind ?_
  rintro ⟨_, r3, _⟩ ⟨rfl, _, h3⟩
  refine h3.check hcq fun hd4 r4 o4 => ?_
  refine o4.here.fr fun _ => ?_
  exact Res.Sat.pure ⟨rfl, o4.here⟩

theorem unionR (hc : Ctx N tx it) (v1 v2 : Variant) (vs : List Variant) (hwf : ∀ v ∈ v1 :: v2 :: vs, v.wf = true)
    {its : Iter} (pos : Pos) (fuel : Nat)
    (h : Rd it (variantToks v1 ++ (moreVariantsToks (v2 :: vs) ++ semiTK :: ks)) its)
    (hfuel : ∀ v ∈ v1 :: v2 :: vs, v.body.need ≤ fuel) (hlen : (v2 :: vs).length < fuel) :
    (parseUnionType tx fuel its pos).Sat
      (Gives it (semiTK :: ks) { start := true } (·.map Variant.core = (v1 :: v2 :: vs).map Variant.core)) := by
  have h0 : Rd it ((variantNameTy v1.name, v1.name) ::
      (v1.body.toks ++ vbTK :: (variantToks v2 ++ (moreVariantsToks vs ++ semiTK :: ks)))) its :=
    h.cast (by simp [moreVariantsToks, variantToks])
  unfold parseUnionType
  refine h0.skip fun hd r e o0 => ?_
  refine (parseCommentBefore_step hc h.suf e).bind fun cb _ => ?_
  dsimp only
  refine o0.here.miss ((by decide : ∀ x ∈ variantStart, x ≠ T.verticalBar) _ (variantNameTy_mem v1.name)) fun hd' r' o => ?_
  refine (variantR hc v1 (hwf v1 List.mem_cons_self) pos (o.here : Rd it (variantToks v1 ++ _) _) (by decide)
    (hfuel v1 List.mem_cons_self)).bind ?_
  rintro ⟨_, r2, v1'⟩ ⟨rfl, hcore1, h2⟩
  have h2' : Rd it (moreVariantsToks (v2 :: vs) ++ semiTK :: ks) r2 := h2.cast (by simp [moreVariantsToks])
  dsimp only [OState.isFailed, OState.isOmitted, OState.inherit]
  refine (variantsLoopR hc pos fuel (v2 :: vs) (fun g hg => hwf g (List.mem_cons_of_mem _ hg))
    (fun g hg => hfuel g (List.mem_cons_of_mem _ hg)) fuel [{ v1' with cb := cb }] h2' hlen).bind ?_
  rintro ⟨_, r3, vs', _⟩ ⟨rfl, rfl, hcores, h3⟩
  have hlen' : vs'.length = vs.length + 2 := by simpa using congrArg List.length hcores
  simp only [Bool.false_eq_true, ↓reduceIte, Option.isSome, Bool.and_false, hlen', Bool.not_false, Bool.and_true]
  -- the last two error exits of `parseUnionType`: no variant; one variant without a leading `|`
  rw [if_neg (by omega), if_neg (by simp)]
  refine h3.fr fun _ => ?_
  exact Res.Sat.pure ⟨rfl, by simp [hcores, Variant.core_cb, hcore1], h3⟩

theorem unionOmittedR (hc : Ctx N tx it) {its : Iter} (pos : Pos) (fuel : Nat) (h : Rd it (k :: ks) its)
    (hnvb : k.1 ≠ T.verticalBar) (hvs : variantStart.contains k.1 = false) :
    (parseUnionType tx fuel its pos).Sat (fun p => p.1 = { start := false }) := by
  unfold parseUnionType
  refine h.skip fun hd r e o => ?_
  refine (parseCommentBefore_step hc h.suf e).bind fun cb _ => ?_
  dsimp only
  refine o.here.miss hnvb fun hd' r' o' => ?_
  refine (constructorOmittedR pos fuel o'.here hvs).bind ?_
  rintro ⟨_, r2, _⟩ rfl
  exact Res.Sat.pure rfl

/-- `parseTL2UnionType` on the tokens of a (possibly empty) list of named fields followed by `;`: no progress, and not
"failed with variants" — so `parseTL2StructTypeDefinition` falls through to the field list. -/
theorem unionOnFieldsR (hc : Ctx N tx it) (fs : List Field) (hwf : ∀ f ∈ fs, f.wf = true) {its : Iter} (pos : Pos) {fuel : Nat}
    (hf : 3 ≤ fuel) (h : Rd it (fieldsToks fs ++ semiTK :: ks) its) :
    (parseUnionType tx fuel its pos).Sat (fun p => p.1.hasProgress = false ∧ (p.1.isFailed && p.2.2.length != 0) = false) := by
  obtain ⟨k0, ks0, hk0, hmem0⟩ := fieldsToks_head fs hwf semiTK ks
  have h0 := hk0 ▸ h
  have hnvb : k0.1 ≠ T.verticalBar := (by decide : ∀ x ∈ T.semiColon :: fieldStart, x ≠ T.verticalBar) _ hmem0
  by_cases hvs : variantStart.contains k0.1 = true
  · -- a named, not ignored field: the constructor starts and fails
    obtain ⟨k1, ks1, hks0, hk1⟩ : ∃ k1 ks1, ks0 = k1 :: ks1 ∧ k1.1 ∈ [T.questionMark, T.colon] := by
      cases fs with
      | nil =>
        simp only [fieldsToks, List.map_nil, List.flatten_nil, List.nil_append, List.cons.injEq] at hk0
        rw [← hk0.1] at hvs; exact absurd hvs (by decide)
      | cons f fs =>
        simp only [fieldsToks, List.map_cons, List.flatten_cons, fieldToks_wf (hwf f List.mem_cons_self), List.append_assoc,
          List.cons_append, List.cons.injEq] at hk0
        cases ho : f.optional with
        | true => rw [ho] at hk0; exact ⟨_, _, hk0.2.symm, by decide⟩
        | false => rw [ho] at hk0; exact ⟨_, _, hk0.2.symm, by decide⟩
    rw [hks0] at h0
    unfold parseUnionType
    refine h0.skip fun hd r e o => ?_
    refine (parseCommentBefore_step hc h.suf e).bind fun cb _ => ?_
    dsimp only
    refine o.here.miss hnvb fun hd' r' o' => ?_
    refine (constructorFailsOnFieldR hc pos hf o'.here hvs hk1).bind ?_
    rintro ⟨ls, r2, _⟩ ⟨hfl, h2⟩
    dsimp only
    rw [hfl]
    refine h2.fr fun _ => ?_
    exact Res.Sat.pure ⟨rfl, rfl⟩
  · -- `;` or an ignored field: the constructor is omitted
    refine (unionOmittedR hc pos fuel h0 hnvb (by simpa using hvs)).mono ?_
    rintro ⟨_, _, _⟩ rfl
    exact ⟨rfl, rfl⟩

def StructDef.toks : StructDef → List TK
  | .fields fs => fieldsToks fs
  | .union [] => []
  | .union (v :: vs) => variantToks v ++ moreVariantsToks vs

def StructDef.wf : StructDef → Bool
  | .fields fs => fs.all Field.wf
  | .union vs => decide (2 ≤ vs.length) && vs.all Variant.wf

-- `+ 3` is the `3 ≤ fuel` of `unionOnFieldsR`: on a field list the union parser is tried first and calls `parseType` on a
-- token that starts no type, which declines with fuel 3 (`parseType_omitted`); `structR` does not use it in the union case
def StructDef.need : StructDef → Nat
  | .fields fs => needFields fs + 3
  | .union vs => needVariants vs + 3

theorem structNeed_le (sd : StructDef) (hwf : sd.wf = true) : sd.need ≤ 3 * sd.toks.length + 4 := by
  cases sd with
  | fields fs =>
    simp only [StructDef.wf] at hwf
    have := needFields_le (List.all_eq_true.mp hwf)
    simp only [StructDef.need, StructDef.toks]; omega
  | union vs =>
    simp only [StructDef.wf, Bool.and_eq_true] at hwf
    cases vs with
    | nil => simp [StructDef.need, needVariants, StructDef.toks]
    | cons v vs =>
      have hw := List.all_eq_true.mp hwf.2
      have hv := hw v List.mem_cons_self
      simp only [Variant.wf, Bool.and_eq_true] at hv
      have h1 := vbodyNeed_le v.body hv.2
      have h2 := needVariants_le fun g hg => hw g (List.mem_cons_of_mem _ hg)
      simp only [StructDef.need, StructDef.toks, needVariants, variantToks, List.length_append, List.length_cons]
      omega

theorem structR (hc : Ctx N tx it) (sd : StructDef) (hwf : sd.wf = true) {its : Iter} (pos : Pos) {fuel : Nat}
    (h : Rd it (sd.toks ++ semiTK :: ks) its) (hf : sd.need ≤ fuel) :
    (parseStructDef tx fuel its pos).Sat (fun p => p.1.err = none ∧ p.2.2.core = sd.core ∧ Rd it (semiTK :: ks) p.2.1) := by
  unfold parseStructDef
  refine h.frApp fun _ => ?_
  dsimp only
  cases sd with
  | fields fs =>
    simp only [StructDef.wf, StructDef.toks, StructDef.need] at hwf h hf
    have hwfs : ∀ f ∈ fs, f.wf = true := List.all_eq_true.mp hwf
    obtain ⟨hlen, hmem⟩ := needFields_bounds fs
    refine (unionOnFieldsR hc fs hwfs pos (by omega) h).bind ?_
    rintro ⟨st, r1, vs⟩ ⟨hnp, hnf⟩
    dsimp only at hnp hnf ⊢
    rw [hnp, hnf]
    unfold parseFields
    refine (fieldsR hc pos fuel fs hwfs (fun g hg => by have := hmem g hg; omega) fuel [] false h (by decide) (by decide)
      (by omega)).bind ?_
    rintro ⟨_, r2, fs'⟩ ⟨rfl, hcore, h2⟩
    simp only [Bool.false_eq_true, ↓reduceIte, OState.isFailed, Option.isSome, Bool.and_false]
    refine h2.fr fun _ => ?_
    -- no field is no progress, and then the deferred reset hands back `its`
    cases fs with
    | nil =>
      have h' : Rd it (semiTK :: ks) its := by simpa [fieldsToks] using h
      exact Res.Sat.pure ⟨rfl, by simp [StructDef.core, hcore], h'⟩
    | cons f fs => exact Res.Sat.pure ⟨rfl, by simp [StructDef.core, hcore], h2⟩
  | union vs =>
    simp only [StructDef.wf, Bool.and_eq_true, decide_eq_true_eq] at hwf
    simp only [StructDef.need] at hf
    have hwfs : ∀ v ∈ vs, v.wf = true := List.all_eq_true.mp hwf.2
    obtain ⟨hlen, hmem⟩ := needVariants_bounds vs
    rcases vs with _ | ⟨v1, _ | ⟨v2, vs'⟩⟩
    · simp at hwf
    · simp at hwf
    simp only [StructDef.toks, List.append_assoc] at h
    refine (unionR hc v1 v2 vs' hwfs pos fuel h (fun g hg => by have := hmem g hg; omega)
      (by simp only [List.length_cons] at hlen ⊢; omega)).bind ?_
    rintro ⟨_, r1, vs''⟩ ⟨rfl, hcore, h1⟩
    refine h1.fr fun _ => ?_
    exact Res.Sat.pure ⟨rfl, by simp only [StructDef.core, hcore], h1⟩

end TLVerif.Syntaxtl2
