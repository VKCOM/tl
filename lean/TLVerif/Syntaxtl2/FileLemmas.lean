import TLVerif.Syntaxtl2.DeclLemmas
/-! Token-level round trip of whole files; parser completeness on printed token sequences, with the fuel `ParseTL2File`
starts from (`Rd.fuel`); the decidable lexing certificate. -/
namespace TLVerif.Syntaxtl2
variable {N : Nat} {tx : Bytes} {it : Iter}

def eofTK : TK := (T.eof, [])
def fileToks (f : File) : List TK := (f.map combToks).flatten
def File.wf (f : File) : Bool := f.all (fun c => c.decl.wf)

theorem combToks_head (c : Comb) : ∃ k ks, combToks c = k :: ks ∧ k.1 ≠ T.eof := by
  unfold combToks
  cases ha : c.anns with
  | cons a as => exact ⟨annTK a, _, rfl, by show T.annotation ≠ T.eof; decide⟩
  | nil =>
    obtain ⟨k, hk, hm⟩ := tnameToks_head c.decl.name
    exact ⟨k, _, by rw [Decl.toks_eq, hk]; rfl, (by decide : ∀ x ∈ _, x ≠ T.eof) _ hm⟩

theorem fileR (hc : Ctx N tx it) (hadj : NoWSAfterColon it) {fuel : Nat} (hfu : fuelFor it ≤ fuel) : ∀ (f : File),
    File.wf f = true → ∀ {its : Iter} (fz : Nat) (acc : List Comb), Rd it (fileToks f ++ [eofTK]) its → f.length < fz →
    (parseFileLoop tx fuel fz its acc).Sat (fun r => ∃ f', r = .ok f' ∧ f'.map Comb.core = (acc ++ f).map Comb.core) := by
  intro f
  induction f with
  | nil =>
    intro _ its fz acc h hfz
    obtain ⟨fz', rfl⟩ := Nat.exists_eq_add_one.mpr (Nat.zero_lt_of_lt hfz)
    unfold parseFileLoop
    refine Rd.lazyHit (k := eofTK) (ks := []) h rfl fun _ _ => ?_
    exact Res.Sat.pure ⟨acc, rfl, by rw [List.append_nil]⟩
  | cons c f ih =>
    intro hwf its fz acc h hfz
    obtain ⟨fz', rfl⟩ := Nat.exists_eq_add_one.mpr (Nat.zero_lt_of_lt hfz)
    simp only [File.wf, List.all_cons, Bool.and_eq_true] at hwf
    obtain ⟨k0, ks0, hk0, hk0e⟩ := combToks_head c
    have h0 : Rd it (k0 :: (ks0 ++ (fileToks f ++ [eofTK]))) its := h.cast (by simp [fileToks, hk0])
    obtain ⟨k, ks, hk⟩ := exists_cons_of_append_cons (fileToks f) eofTK []
    have h1 : Rd it (combToks c ++ k :: ks) its := h.cast (by rw [← hk]; simp [fileToks])
    unfold parseFileLoop
    refine h0.lazyMiss hk0e ?_
    refine (combR hc hadj c hwf.1 h1 hfu).bind ?_
    rintro ⟨c', rest, _⟩ ⟨rfl, hcore, h2⟩
    refine (ih hwf.2 fz' (acc ++ [c']) (hk ▸ h2) (Nat.lt_of_succ_lt_succ hfz)).mono ?_
    rintro _ ⟨f', rfl, hcores⟩
    exact ⟨f', rfl, by simp [hcore, hcores]⟩

theorem fileToks_len (f : File) : f.length ≤ (fileToks f).length := by
  induction f with
  | nil => exact Nat.le_refl _
  | cons a l ih =>
    have : 1 ≤ (combToks a).length := by simp [combToks]; omega
    simp only [fileToks, List.map_cons, List.flatten_cons, List.length_append, List.length_cons] at *
    omega

theorem parse_of_printed_tokens (tx : Bytes) (f : File) (lx : Lexed) (hlx : lexTL2 tx = .ok lx) (herr : lx.err = none)
    (hadj : NoWSAfterColon lx.toks) (hwf : File.wf f = true) (hm : strip lx.toks = fileToks f ++ [eofTK]) :
    ∃ f', parseTL2File tx = .ok (.ok f') ∧ f'.map Comb.core = f.map Comb.core := by
  obtain ⟨lx', hlx', hrec, -⟩ := lexTL2_spec tx
  obtain rfl := Res.ok.inj (hlx ▸ hlx')
  have hctx := lexTL2_ctx hlx herr
  have hrd : Rd lx.toks (fileToks f ++ [eofTK]) lx.toks := ⟨List.suffix_refl _, hm⟩
  obtain ⟨_, e, f', rfl, hcore⟩ := fileR hctx hadj (Nat.le_refl _) f hwf (fuelFor lx.toks) [] hrd
    (by have := fileToks_len f; have := hrd.fuel (Nat.le_refl _); omega)
  refine ⟨f', ?_, hcore⟩
  unfold parseTL2File
  rw [hlx]
  have hr : (recombine lx.all lx.rest != tx) = false := by simp [hrec]
  simp only [herr, hr, Bool.false_eq_true, ↓reduceIte]
  exact e

def noWSAfterColonB : Iter → Bool
  | a :: b :: l => (a.ty != T.colon || !isWS b) && noWSAfterColonB (b :: l)
  | _ => true

theorem noWSAfterColonB_sound : ∀ (its : Iter), noWSAfterColonB its = true → NoWSAfterColon its
  | [], _, a, b, l, hs, _ => by cases List.suffix_nil.mp hs
  | [x], _, a, b, l, hs, _ => by have := hs.length_le; simp at this
  | x :: y :: ys, h, a, b, l, hs, hty => by
    simp only [noWSAfterColonB, Bool.and_eq_true, Bool.or_eq_true, bne_iff_ne, ne_eq, Bool.not_eq_true'] at h
    rcases List.suffix_cons_iff.mp hs with h1 | h1
    · cases h1
      exact h.1.resolve_left (fun hne => hne hty)
    · exact noWSAfterColonB_sound (y :: ys) h.2 a b l h1 hty

/-- The per-instance **lexing certificate** of C22: `tx`, there the text printed for `f` with some options, lexes without
error to exactly the token sequence of `f` (white space and comments aside), and no white space follows a `:`. -/
def lexCert (tx : Bytes) (f : File) : Bool :=
  match lexTL2 tx with
  | .ok lx => lx.err.isNone && strip lx.toks == fileToks f ++ [eofTK] && noWSAfterColonB lx.toks
  | _ => false

theorem parse_of_lexCert (tx : Bytes) (f : File) (hwf : File.wf f = true) (hc : lexCert tx f = true) :
    ∃ f', parseTL2File tx = .ok (.ok f') ∧ f'.map Comb.core = f.map Comb.core := by
  unfold lexCert at hc
  split at hc
  · rename_i lx hl
    simp only [Bool.and_eq_true, beq_iff_eq, Option.isNone_iff_eq_none] at hc
    exact parse_of_printed_tokens tx f lx hl hc.1.1 (noWSAfterColonB_sound _ hc.2) hwf hc.1.2
  · cases hc

end TLVerif.Syntaxtl2
