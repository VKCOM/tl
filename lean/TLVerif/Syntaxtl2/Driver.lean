import TLVerif.Util.Hex
import TLVerif.Syntaxtl2.Parser
import TLVerif.Syntaxtl2.Format
import TLVerif.Syntaxtl2.ErrorPrint
import TLVerif.Syntaxtl2.FileLemmas
/-! Line-protocol handler for the `syntaxtl2` family: every line is a self-contained case.
Mirrors go/hsyntaxtl2/main.go and the dump of go/hsyntaxtl2/overlay/verif_hooks_tl2.go. -/
namespace TLVerif.Syntaxtl2
open TLVerif.Util

def str (b : Bytes) : String := String.ofList (b.map (fun c => Char.ofNat c.toNat))

def hexC (b : Bytes) : String := "#" ++ hexOfBytes b ++ ";"

def dumpTName (n : TName) : String := str n.ns ++ "." ++ str n.name

mutual
def dumpType : TypeRef → String
  | .app name args =>
    "a(" ++ dumpTName name ++ (match args with
      | [] => ""
      | a :: as => "<" ++ dumpArg a ++ dumpArgsTail as ++ ">") ++ ")"
  | .bracket index elem =>
    "b(" ++ (match index with | none => "n" | some a => dumpArg a) ++ "," ++ dumpType elem ++ ")"
def dumpArgsTail : List TypeArg → String
  | [] => ""
  | a :: as => "," ++ dumpArg a ++ dumpArgsTail as
def dumpArg : TypeArg → String
  | .num n => "N" ++ toString n
  | .ty t => "t" ++ dumpType t
end

def dumpField (full : Bool) (f : Field) : String :=
  "f(" ++ (if full then hexC f.cb ++ hexC f.cr else "") ++ str f.name ++ "," ++
  (if f.optional then "o" else "") ++ (if f.ignored then "i" else "") ++ "," ++ dumpType f.ty ++ ")"

def dumpFields (full : Bool) (fs : List Field) : String :=
  "R(" ++ String.join (fs.map (dumpField full)) ++ ")"

def dumpVariant (full : Bool) (v : Variant) : String :=
  "V(" ++ (if full then hexC v.cb else "") ++ str v.name ++ "," ++
  (match v.body with
   | .alias t => "A(" ++ dumpType t ++ ")"
   | .fields fs => dumpFields full fs) ++ ")"

def dumpTypeDef (full : Bool) : TypeDef → String
  | .alias t => "A(" ++ dumpType t ++ ")"
  | .struct (.union vs) => "S(U(" ++ String.join (vs.map (dumpVariant full)) ++ "))"
  | .struct (.fields fs) => "S(" ++ dumpFields full fs ++ ")"

def dumpComb (full : Bool) (c : Comb) : String :=
  "C(" ++ (if full then hexC c.cb else "") ++ String.join (c.anns.map (fun a => "@" ++ str a)) ++ "," ++
  (match c.decl with
   | .func d => "F(" ++ dumpTName d.name ++ "," ++ toString d.magic ++ "," ++ dumpFields full d.args ++ "," ++
       dumpTypeDef full d.ret ++ ")"
   | .type d => "T(" ++ dumpTName d.name ++ "," ++ toString d.magic ++ "," ++
       String.join (d.templs.map (fun t => "<" ++ str t.name ++ ":" ++ (if t.isNat then "#" else "T") ++ ">")) ++ "," ++
       dumpTypeDef full d.ty ++ ")") ++ ")"

def dumpFile (full : Bool) (f : File) : String :=
  if f.isEmpty then "-" else String.join (f.map (dumpComb full))

def posStr (p : Pos) : String := s!"{p.line}:{p.col}:{p.slo}:{p.off}"

def errLine (tx : Bytes) (e : PErr) : String :=
  match consolePrintError tx e, printWarning tx e with
  | .ok a, .ok b => s!"err {posStr e.outer} {posStr e.b} {posStr e.e} {hexOfBytes a} {hexOfBytes b}"
  | _, _ => "panic"

def tokStr (t : Token) : String := s!"{t.ty}:{t.val.length}:{t.pos.off}:{t.pos.line}:{t.pos.col}"

/-- the conditions of the token-level round-trip lemmas on types and bodies, evaluated on a parsed file: every type,
field list, union and struct body is well-formed in the sense of `TypeRef.wf`, `Field.wf`, `StructDef.wf`. A function
result given as a bare type reference (the one anonymous field) is admitted here; `File.wf`, the hypothesis of the
theorems of C22, excludes it and also constrains magic and template arguments. -/
def typeDefWF (isRet : Bool) : TypeDef → Bool
  | .alias t => t.wf
  | .struct (.fields [f]) => if isRet && f.name == [] then f.ty.wf else f.wf
  | .struct sd => sd.wf

def combWF (c : Comb) : Bool :=
  match c.decl with
  | .type d => d.name.wf && typeDefWF false d.ty
  | .func d => d.name.wf && d.args.all Field.wf && typeDefWF true d.ret

def handle (op : String) (args : List String) : String :=
  match op, args with
  | "lex", [h] =>
    match bytesOfHex h with
    | none => "bad-op"
    | some s =>
      match lexTL2 s with
      | .ok lx =>
        (if lx.err.isSome then "err" else "ok") ++ (if recombine lx.all lx.rest != s then "-norecombine" else "") ++
        " " ++ ",".intercalate (lx.toks.map tokStr)
      | _ => "panic"
  | "parse", [h] =>
    match bytesOfHex h with
    | none => "bad-op"
    | some s =>
      match parseTL2File s with
      | .ok (.ok f) => "ok " ++ dumpFile true f
      | .ok (.error e) => errLine s e
      | .panic => "panic"
      | .nofuel => "nofuel"
  | "fmt", [o, h] =>
    if o != "d" && o != "c" then "bad-op" else
    match bytesOfHex h with
    | none => "bad-op"
    | some s =>
      let opts := if o == "c" then canonicalOptions else defaultOptions
      match parseTL2File s with
      | .ok (.ok f) =>
        let t1 := printFile opts f
        let g := s!" dep={f.any Comb.hasDep} one={f.any Comb.hasSingletonUnion}"
        match parseTL2File t1 with
        | .ok (.ok f2) =>
          let rt := if dumpFile false f == dumpFile false f2 then "same" else "diff"
          let cm := if dumpFile true f == dumpFile true f2 then "same" else "diff"
          let idem := if printFile opts f2 == t1 then "yes" else "no"
          s!"ok {hexOfBytes t1} rt={rt} cm={cm} idem={idem}" ++ g
        | .ok (.error _) => s!"ok {hexOfBytes t1} rt=err cm=na idem=na" ++ g
        | .panic => "panic"
        | .nofuel => "nofuel"
      | .ok (.error _) => "rej"
      | .panic => "panic"
      | .nofuel => "nofuel"
  | "wf", [h] =>
    match bytesOfHex h with
    | none => "bad-op"
    | some s =>
      match parseTL2File s with
      | .ok (.ok f) =>
        s!"ok guard={!(f.any Comb.hasDep)} wf={f.all combWF}"
      | .ok (.error _) => "rej"
      | .panic => "panic"
      | .nofuel => "nofuel"
  | "cert", [o, h] =>
    if o != "d" && o != "c" then "bad-op" else
    match bytesOfHex h with
    | none => "bad-op"
    | some s =>
      let opts := if o == "c" then canonicalOptions else defaultOptions
      match parseTL2File s with
      | .ok (.ok f) =>
        if File.wf f then s!"ok wf=true lexcert={lexCert (printFile opts f) f}" else "ok wf=false"
      | .ok (.error _) => "rej"
      | .panic => "panic"
      | .nofuel => "nofuel"
  | _, _ => "bad-op"

end TLVerif.Syntaxtl2
