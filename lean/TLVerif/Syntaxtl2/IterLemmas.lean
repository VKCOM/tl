import TLVerif.Syntaxtl2.LexerLemmas
import TLVerif.Syntaxtl2.Parser
/-! The layer between the TL2 parser model and its two families of theorems. A computation is specified by `Res.Sat`
(returns, neither a panic nor out of fuel, with a value satisfying a predicate); every iterator operation has one
equation, valid wherever `skipWS` stops (`checkAny_skip`, `expect_skip`, …), and is used through step lemmas about
`op rest >>= x` that hand the possible results to the continuation `x`. Here the steps are read at a position `At it r`
of a good token list about whose tokens nothing is known (both outcomes; no panic): the reading used for totality. -/
namespace TLVerif.Syntaxtl2

def Res.Sat {α : Type} (r : Res α) (Q : α → Prop) : Prop := ∃ a, r = .ok a ∧ Q a

theorem Res.Sat.bind {α β : Type} {r : Res α} {f : α → Res β} {P : α → Prop} {Q : β → Prop}
    (h : r.Sat P) (hf : ∀ a, P a → (f a).Sat Q) : (r >>= f).Sat Q := by
  obtain ⟨a, rfl, ha⟩ := h
  exact hf a ha

theorem Res.Sat.pure {α : Type} {a : α} {Q : α → Prop} (h : Q a) : (Pure.pure a : Res α).Sat Q := ⟨a, rfl, h⟩

theorem Res.bind_assoc {α β γ : Type} (m : Res α) (f : α → Res β) (g : β → Res γ) :
    m >>= f >>= g = m >>= fun a => f a >>= g := by
  cases m <;> rfl

theorem Res.bind_pure {α : Type} (m : Res α) : m >>= pure = m := by
  cases m <;> rfl

theorem Res.Sat.mono {α : Type} {r : Res α} {P Q : α → Prop} (h : r.Sat P) (hpq : ∀ a, P a → Q a) : r.Sat Q := by
  obtain ⟨a, e, ha⟩ := h
  exact ⟨a, e, hpq a ha⟩

/-- not white space or a comment: `skipWS` stops at such a token. -/
def NW (t : Token) : Prop := isWS t = false

theorem skipWS_nw {t : Token} {r : Iter} (h : NW t) : skipWS (t :: r) = .ok (t :: r) := by
  have h' : isWS t = false := h
  simp only [skipWS, h', Bool.false_eq_true, ↓reduceIte]

theorem skipWS_inv {b e : Iter} (h : skipWS b = .ok e) : e <:+ b ∧ e ≠ [] ∧ ∀ hd r, e = hd :: r → NW hd := by
  fun_induction skipWS b with
  | case1 => cases h
  | case2 t ts _ ih => exact ⟨(ih h).1.trans (List.suffix_cons t ts), (ih h).2⟩
  | case3 t ts hw =>
    cases h
    exact ⟨List.suffix_refl _, nofun, fun _ _ e => by cases e; simpa [NW] using hw⟩

theorem skipWS_head {its : Iter} {hd : Token} {r : Iter} (e : skipWS its = .ok (hd :: r)) : NW hd :=
  (skipWS_inv e).2.2 hd r rfl

theorem checkAny_skip {its : Iter} {hd : Token} {r : Iter} (e : skipWS its = .ok (hd :: r)) (tys : List Int) :
    checkAny its tys = .ok (tys.contains hd.ty, hd :: r) := by
  simp only [checkAny, e, front, Res.ok_bind, Res.pure_eq]

theorem checkToken_skip {its : Iter} {hd : Token} {r : Iter} (e : skipWS its = .ok (hd :: r)) (ty : Int) :
    checkToken its ty = .ok (hd.ty == ty, hd :: r) := by
  simp only [checkToken, checkAny_skip e, List.contains_cons, List.contains_nil, Bool.or_false]

theorem expect_skip {its : Iter} {hd : Token} {r : Iter} (e : skipWS its = .ok (hd :: r)) (ty : Int) :
    expect its ty = if hd.ty == ty then .ok (true, r) else .ok (false, hd :: r) := by
  simp only [expect, checkToken_skip e, Res.ok_bind]
  split <;> rfl

theorem expectLazy_skip {its : Iter} {hd : Token} {r : Iter} (e : skipWS its = .ok (hd :: r)) (ty : Int) :
    expectLazy its ty = if hd.ty == ty then .ok (true, r) else .ok (false, its) := by
  simp only [expectLazy, expect_skip e]
  split <;> rfl

theorem front_skipWS {its r : Iter} (e : skipWS its = .ok r) : ∃ t, front its = .ok t := by
  cases its with
  | nil => cases e
  | cons t _ => exact ⟨t, rfl⟩

theorem checkAny_nw {t : Token} {r : Iter} (h : NW t) (tys : List Int) :
    checkAny (t :: r) tys = .ok (tys.contains t.ty, t :: r) := checkAny_skip (skipWS_nw h) tys

theorem checkToken_nw {t : Token} {r : Iter} (h : NW t) (ty : Int) :
    checkToken (t :: r) ty = .ok (t.ty == ty, t :: r) := checkToken_skip (skipWS_nw h) ty

theorem expect_nw {t : Token} {r : Iter} (h : NW t) (ty : Int) :
    expect (t :: r) ty = if t.ty == ty then .ok (true, r) else .ok (false, t :: r) := expect_skip (skipWS_nw h) ty

theorem expectLazy_nw {t : Token} {r : Iter} (h : NW t) (ty : Int) :
    expectLazy (t :: r) ty = if t.ty == ty then .ok (true, r) else .ok (false, t :: r) := expectLazy_skip (skipWS_nw h) ty

/-- a position of the parser in the token list `it`; never empty, because the final `eof` is not consumed (`At.tail`). -/
structure At (it r : Iter) : Prop where
  suf : r <:+ it
  ne : r ≠ []

section
variable {N : Nat} {tx : Bytes} {it : Iter} {β : Type} {Q : β → Prop}

theorem At.trans {r r' : Iter} (h' : At r r') (h : At it r) : At it r' := ⟨h'.suf.trans h.suf, h'.ne⟩

theorem At.le {r : Iter} (h : At it r) : r.length ≤ it.length := h.suf.length_le

theorem At.mem {t : Token} {ts : Iter} (h : At it (t :: ts)) : t ∈ it := h.suf.subset List.mem_cons_self

/-- what every parser function assumes about its input iterator. `N` is the bound `Good` puts on offsets; that it is the
length of the text is a field because only `slice_step` needs it. -/
structure Ctx (N : Nat) (tx : Bytes) (it : Iter) : Prop where
  good : Good N it
  wf : ∀ t ∈ it, TokWF t
  ne : it ≠ []
  tx : tx.length = N

theorem Ctx.suffix (h : Ctx N tx it) {r : Iter} (hs : r <:+ it) (hne : r ≠ []) : Ctx N tx r :=
  ⟨h.good.suffix hs, fun t ht => h.wf t (hs.subset ht), hne, h.tx⟩

theorem Ctx.root (h : Ctx N tx it) : At it it := ⟨List.suffix_refl _, h.ne⟩

theorem Ctx.sub (h : Ctx N tx it) {r : Iter} (hr : At it r) : Ctx N tx r := h.suffix hr.suf hr.ne

theorem lexTL2_ctx {lx : Lexed} (h : lexTL2 tx = .ok lx) (he : lx.err = none) : Ctx tx.length tx lx.toks := by
  obtain ⟨lx', h', _, _, hok, _⟩ := lexTL2_spec tx
  obtain rfl := Res.ok.inj (h ▸ h')
  obtain ⟨_, hne, hg, hwf⟩ := hok he
  exact ⟨hg, hwf, hne, rfl⟩

theorem At.tail (hc : Ctx N tx it) {t : Token} {ts : Iter} (h : At it (t :: ts)) (hty : t.ty ≠ T.eof) : At it ts := by
  refine ⟨(List.suffix_cons t ts).trans h.suf, ?_⟩
  rintro rfl
  exact hty (hc.good.suffix h.suf).1

theorem front_at {rest : Iter} {x : Token → Res β} (h : At it rest) (k : ∀ t, t ∈ it → (x t).Sat Q) :
    (front rest >>= x).Sat Q := by
  cases rest with
  | nil => exact absurd rfl h.ne
  | cons t ts => exact k t h.mem

/-- a `front()` whose token is not used (the Go code takes it for a position range). -/
theorem front_ign {rest : Iter} {y : Res β} (h : At it rest) (k : y.Sat Q) : (front rest >>= fun _ => y).Sat Q :=
  front_at h fun _ _ => k

theorem popFront_at (hc : Ctx N tx it) {t : Token} {ts : Iter} {x : Token × Iter → Res β} (h : At it (t :: ts))
    (hty : t.ty ≠ T.eof) (k : At it ts → (x (t, ts)).Sat Q) : (popFront (t :: ts) >>= x).Sat Q :=
  k (h.tail hc hty)

theorem skipWS_ok (hc : Ctx N tx it) {rest : Iter} (h : At it rest) :
    ∃ r, skipWS rest = .ok r ∧ At it r ∧ r.length ≤ rest.length ∧ skipWS r = .ok r := by
  fun_induction skipWS rest with
  | case1 => exact absurd rfl h.ne
  | case2 t ts hw ih =>
    have ht : t.ty ≠ T.eof := by
      intro e
      simp only [isWS, e] at hw
      revert hw; decide
    obtain ⟨r, hr, h1, h2, h3⟩ := ih (h.tail hc ht)
    exact ⟨r, hr, h1, Nat.le_succ_of_le h2, h3⟩
  | case3 t ts hw => exact ⟨t :: ts, rfl, h, Nat.le_refl _, skipWS_nw (eq_false_of_ne_true hw)⟩

theorem skipWS_at (hc : Ctx N tx it) {rest : Iter} {x : Iter → Res β} (h : At it rest)
    (k : ∀ r, At it r → r.length ≤ rest.length → skipWS rest = .ok r → (x r).Sat Q) : (skipWS rest >>= x).Sat Q := by
  obtain ⟨r, hr, h1, h2, _⟩ := skipWS_ok hc h
  rw [hr]
  exact k r h1 h2 hr

-- `hit` also learns that `skipWS` stays put on the token found: the model skips again before it pops that token.
theorem checkAny_cases (hc : Ctx N tx it) {rest : Iter} {x : Bool × Iter → Res β} (h : At it rest) (tys : List Int)
    (miss : ∀ r, At it r → r.length ≤ rest.length → (x (false, r)).Sat Q)
    (hit : ∀ t ts, At it (t :: ts) → ts.length < rest.length → t.ty ∈ tys → skipWS (t :: ts) = .ok (t :: ts) →
      (x (true, t :: ts)).Sat Q) : (checkAny rest tys >>= x).Sat Q := by
  obtain ⟨r, hr, h1, h2, h3⟩ := skipWS_ok hc h
  cases r with
  | nil => exact absurd rfl h1.ne
  | cons t ts =>
    rw [checkAny_skip hr]
    cases hc : tys.contains t.ty with
    | false => exact miss _ h1 h2
    | true => exact hit t ts h1 h2 (by simpa using hc) h3

theorem checkToken_cases (hc : Ctx N tx it) {rest : Iter} {x : Bool × Iter → Res β} (h : At it rest) (ty : Int)
    (miss : ∀ r, At it r → r.length ≤ rest.length → (x (false, r)).Sat Q)
    (hit : ∀ t ts, At it (t :: ts) → ts.length < rest.length → t.ty = ty → skipWS (t :: ts) = .ok (t :: ts) →
      (x (true, t :: ts)).Sat Q) : (checkToken rest ty >>= x).Sat Q :=
  checkAny_cases hc h [ty] miss fun t ts h1 h2 hm => hit t ts h1 h2 (by simpa using hm)

-- `_any`: one continuation for both outcomes, for a caller that branches on the flag only later; `_cases`: one for each.
theorem checkToken_any (hc : Ctx N tx it) {rest : Iter} {x : Bool × Iter → Res β} (h : At it rest) (ty : Int)
    (k : ∀ b r, At it r → (b = true → ∃ t ts, r = t :: ts ∧ t.ty = ty ∧ skipWS r = .ok r) → (x (b, r)).Sat Q) :
    (checkToken rest ty >>= x).Sat Q :=
  checkToken_cases hc h ty (fun r h1 _ => k false r h1 nofun)
    (fun t ts h1 _ hm hid => k true _ h1 fun _ => ⟨t, ts, rfl, hm, hid⟩)

-- `ty ≠ eof`: a hit pops the token, and only behind a token other than `eof` is there a position left (`At.tail`).
theorem expect_any (hc : Ctx N tx it) {rest : Iter} {ty : Int} {x : Bool × Iter → Res β} (h : At it rest)
    (k : ∀ b r, At it r → r.length ≤ rest.length → (b = true → r.length < rest.length) → (x (b, r)).Sat Q)
    (hty : ty ≠ T.eof := by decide) : (expect rest ty >>= x).Sat Q := by
  rw [expect, Res.bind_assoc]
  refine checkToken_cases hc h ty (fun r h1 h2 => ?_) (fun t ts h1 h2 hm _ => ?_)
  · exact k false r h1 h2 nofun
  · exact k true ts (h1.tail hc (hm ▸ hty)) (Nat.le_of_lt h2) (fun _ => h2)

theorem expect_cases (hc : Ctx N tx it) {rest : Iter} {ty : Int} {x : Bool × Iter → Res β} (h : At it rest)
    (miss : ∀ r, At it r → r.length ≤ rest.length → (x (false, r)).Sat Q)
    (hit : ∀ r, At it r → r.length < rest.length → (x (true, r)).Sat Q)
    (hty : ty ≠ T.eof := by decide) : (expect rest ty >>= x).Sat Q :=
  expect_any hc h (hty := hty) fun b r h1 h2 h3 => by
    cases b with
    | false => exact miss r h1 h2
    | true => exact hit r h1 (h3 rfl)

theorem expect_sat (hc : Ctx N tx it) {rest : Iter} {ty : Int} (h : At it rest) (hty : ty ≠ T.eof := by decide) :
    (expect rest ty).Sat (fun q => At it q.2) := by
  -- the step lemmas are about `op >>= x`: a last `op` is read as `op >>= pure`
  rw [← Res.bind_pure (expect rest ty)]
  exact expect_any hc h (fun _ _ h1 _ _ => Res.Sat.pure h1) hty

theorem expectLazy_cases (hc : Ctx N tx it) {rest : Iter} {ty : Int} {x : Bool × Iter → Res β} (h : At it rest)
    (miss : (x (false, rest)).Sat Q) (hit : ∀ r, At it r → r.length < rest.length → (x (true, r)).Sat Q)
    (hty : ty ≠ T.eof := by decide) : (expectLazy rest ty >>= x).Sat Q := by
  rw [expectLazy, Res.bind_assoc]
  refine expect_cases hc h (fun r _ _ => ?_) (fun r h1 h2 => ?_) hty
  · exact miss
  · exact hit r h1 h2

theorem commentBeforeLoop_spec {e : Iter} (cur begin : Iter) (nonWS : Bool) (h : skipWS cur = .ok e)
    (hb1 : e <:+ begin) (hb2 : begin <:+ it) (hc : cur <:+ it) :
    (commentBeforeLoop e.length cur begin nonWS).Sat (fun b' => e <:+ b' ∧ b' <:+ it) := by
  fun_induction commentBeforeLoop e.length cur begin nonWS with
  | case1 | case2 => cases h
  | case3 t ts begin nonWS _ h1 ih =>
    simp only [skipWS, isWS, h1, Bool.true_or, ↓reduceIte] at h
    exact ih h hb1 hb2 ((List.suffix_cons t ts).trans hc)
  | case4 t ts begin nonWS _ _ h2 ih =>
    simp only [skipWS, isWS, h2, Bool.or_true, ↓reduceIte] at h
    have hts := (List.suffix_cons t ts).trans hc
    cases nonWS with
    | false => exact ih h (skipWS_inv h).1 hts hts
    | true => exact ih h hb1 hb2 hts
  | case5 t ts begin nonWS _ h1 _ h3 ih =>
    simp only [skipWS, isWS, h1, Bool.false_or, h3, Bool.true_or, ↓reduceIte] at h
    exact ih h hb1 hb2 ((List.suffix_cons t ts).trans hc)
  | case6 t ts begin nonWS hlen h1 h2 h3 =>
    -- `skipWS` stops at `t`, so `e` is all of `t :: ts`
    simp only [skipWS, isWS, h1, h2, h3, Bool.false_or, Bool.false_eq_true, ↓reduceIte] at h
    cases h
    exact absurd hlen (Nat.lt_irrefl _)
  | case7 => exact Res.Sat.pure ⟨hb1, hb2⟩

theorem slice_step (hc : Ctx N tx it) {b e : Iter} (hb : b <:+ it) (he : e <:+ b)
    (hne : e ≠ []) : (do
      let tb ← front b
      let te ← front e
      let s ← slice tx tb.pos.off te.pos.off
      pure (trimSpace s) : Res Bytes).Sat (fun _ => True) := by
  obtain ⟨te, tes, rfl⟩ := List.exists_cons_of_ne_nil hne
  obtain ⟨tb, tbs, rfl⟩ : ∃ tb tbs, b = tb :: tbs :=
    List.exists_cons_of_ne_nil (by rintro rfl; cases List.suffix_nil.mp he)
  have h1 := (hc.good.suffix hb).head_le (he.subset List.mem_cons_self)
  have : tb.pos.off ≤ te.pos.off ∧ te.pos.off ≤ tx.length := ⟨h1.1, by have := h1.2.2.2; have := hc.tx; omega⟩
  simp only [front, Res.ok_bind, slice, this, and_self, ↓reduceIte]
  exact Res.Sat.pure trivial

theorem parseCommentBefore_step (hc : Ctx N tx it) {b e : Iter} (hb : b <:+ it)
    (hsk : skipWS b = .ok e) : (parseCommentBefore tx b e).Sat (fun _ => True) := by
  unfold parseCommentBefore
  have hsuf := skipWS_inv hsk
  refine (commentBeforeLoop_spec b b false hsk hsuf.1 hb hb).bind ?_
  intro b' ⟨h1, h2⟩
  exact slice_step hc h2 h1 hsuf.2.1

theorem parseCommentRight_step (hc : Ctx N tx it) {b e : Iter} (hb : b <:+ it)
    (he : e <:+ b) (hne : e ≠ []) : (parseCommentRight tx b e).Sat (fun _ => True) := by
  unfold parseCommentRight
  exact slice_step hc hb he hne

theorem skipToNewline_at (hc : Ctx N tx it) {rest : Iter} (h : At it rest) :
    At it (skipToNewline rest).2 ∧ (skipToNewline rest).2 <:+ rest := by
  fun_induction skipToNewline rest with
  | case1 => exact absurd rfl h.ne
  | case2 t ts hw ih =>
    have ht : t.ty ≠ T.eof := by
      intro e
      rw [e] at hw
      revert hw; decide
    have := ih (h.tail hc ht)
    exact ⟨this.1, this.2.trans (List.suffix_cons t ts)⟩
  | case3 | case4 => exact ⟨h, List.suffix_refl _⟩

end

end TLVerif.Syntaxtl2
