import TLVerif.Syntaxtl2.ParserLemmas
import TLVerif.Syntaxtl2.ErrorPrint
/-! `consolePrint` never slices out of range; for an error range inside the text the context is not corrupted. -/
namespace TLVerif.Syntaxtl2

theorem slice_ok {s : Bytes} {b e : Nat} (h1 : b ≤ e) (h2 : e ≤ s.length) : slice s b e = .ok ((s.take e).drop b) :=
  if_pos ⟨h1, h2⟩

theorem safeRange_sat (s : Bytes) (b e : Nat) :
    (safeRange s b e).Sat (fun r => (b ≤ e → e ≤ s.length → r.2 = false)) := by
  unfold safeRange
  split
  · rename_i h
    refine Res.Sat.pure ?_
    intro h1 h2
    simp only [Bool.or_eq_true, decide_eq_true_eq] at h
    omega
  · rename_i h
    simp only [Bool.or_eq_true, decide_eq_true_eq, not_or, Nat.not_lt] at h
    rw [slice_ok h.1.2 h.2]
    exact Res.Sat.pure (fun _ _ => rfl)

theorem consoleParts_spec (fc : Bytes) (e : PErr) :
    (consoleParts fc e).Sat (fun p => ErrInText fc.length e → p.anyCorrupted = false) := by
  unfold consoleParts
  refine (safeRange_sat _ _ _).bind ?_; rintro ⟨x1, c1⟩ h1
  refine (safeRange_sat _ _ _).bind ?_; rintro ⟨x2, c2⟩ h2
  refine (safeRange_sat _ _ _).bind ?_; rintro ⟨x3, c3⟩ h3
  dsimp only at *
  refine Res.Sat.bind (P := fun r => ErrInText fc.length e → r.2.2 = false) ?_ ?_
  · split
    · refine (safeRange_sat _ _ _).bind ?_; rintro ⟨_, c5⟩ h5
      refine (safeRange_sat _ _ _).bind ?_; rintro ⟨_, c6⟩ h6
      refine Res.Sat.pure ?_
      intro ⟨_, b_e, e_N, _, _, sb_b, _⟩
      dsimp only at *
      rw [h5 sb_b (by omega), h6 b_e e_N]; rfl
    · exact Res.Sat.pure (fun _ => rfl)
  rintro ⟨y1, y2, c4⟩ h4'
  dsimp only at *
  refine Res.Sat.bind (P := fun r => e.e.off ≤ fc.length → r.2 = false) ?_ ?_
  · split
    · exact Res.Sat.pure (fun h => by omega)
    · rename_i h
      rw [slice_ok (Nat.le_of_not_gt h) (Nat.le_refl _)]
      exact Res.Sat.pure (fun _ => rfl)
  rintro ⟨z, c7⟩ h7'
  dsimp only at *
  refine Res.Sat.pure ?_
  intro hin
  -- `x_y` is `x ≤ y` (`se_sb`: `=`); `o`, `b`, `e` the offsets of outer, begin and end, `so`, `sb`, `se` those of their lines' starts
  obtain ⟨o_b, b_e, e_N, so_o, so_sb, sb_b, se_sb⟩ := hin
  dsimp only
  rw [h1 so_sb (by omega), h2 (by omega) (by omega), h3 (by omega) e_N, h4' ⟨o_b, b_e, e_N, so_o, so_sb, sb_b, se_sb⟩, h7' e_N]
  rfl

theorem consolePrint_total (fc : Bytes) (e : PErr) (c : Bytes) (w : Bool) :
    ∃ out, consolePrint fc e c w = .ok out := by
  unfold consolePrint
  obtain ⟨p, hp, _⟩ := consoleParts_spec fc e
  rw [hp]
  exact ⟨_, rfl⟩

end TLVerif.Syntaxtl2
