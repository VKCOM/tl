import TLVerif.Syntaxtl2.Format
/-! What the TL2 formatter reads: with `ignoreComments` (canonical options) only the declarations (`core`), with any
options never the right-hand comments and never the comments of function arguments (`vis`). Hence
idempotence of formatting follows from the round trip of the declarations. -/
namespace TLVerif.Syntaxtl2

def Field.core (f : Field) : Field := { f with cb := [], cr := [] }
def VBody.core : VBody → VBody
  | .alias t => .alias t
  | .fields fs => .fields (fs.map Field.core)
def Variant.core (v : Variant) : Variant := { v with body := v.body.core, cb := [] }
def StructDef.core : StructDef → StructDef
  | .union vs => .union (vs.map Variant.core)
  | .fields fs => .fields (fs.map Field.core)
def TypeDef.core : TypeDef → TypeDef
  | .alias t => .alias t
  | .struct s => .struct s.core
def Decl.core : Decl → Decl
  | .type d => .type { d with ty := d.ty.core }
  | .func d => .func { d with args := d.args.map Field.core, ret := d.ret.core }
def Comb.core (c : Comb) : Comb := { c with decl := c.decl.core, cb := [] }
def File.core (f : File) : File := f.map Comb.core

def Field.vis (f : Field) : Field := { f with cr := [] }
def VBody.vis : VBody → VBody
  | .alias t => .alias t
  | .fields fs => .fields (fs.map Field.vis)
def Variant.vis (v : Variant) : Variant := { v with body := v.body.vis }
def StructDef.vis : StructDef → StructDef
  | .union vs => .union (vs.map Variant.vis)
  | .fields fs => .fields (fs.map Field.vis)
def TypeDef.vis : TypeDef → TypeDef
  | .alias t => .alias t
  | .struct s => .struct s.vis
def Decl.vis : Decl → Decl
  | .type d => .type { d with ty := d.ty.vis }
  | .func d => .func { d with args := d.args.map Field.core, ret := d.ret.vis }
def Comb.vis (c : Comb) : Comb := { c with decl := c.decl.vis }
def File.vis (f : File) : File := f.map Comb.vis

theorem printField_core (f : Field) : printField f.core = printField f := rfl
theorem printField_vis (f : Field) : printField f.vis = printField f := rfl

section
variable (o : FormatOptions)

theorem printVariantFields_vis (fs : List Field) (sep : Bytes) :
    printVariantFields o (fs.map Field.vis) sep = printVariantFields o fs sep := by
  simp only [printVariantFields, List.map_map]
  congr 1

theorem printVariantFields_core (h : o.ignoreComments = true) (fs : List Field) (sep : Bytes) :
    printVariantFields o (fs.map Field.core) sep = printVariantFields o fs sep := by
  simp only [printVariantFields, List.map_map, h, Bool.not_true, Bool.false_and]
  congr 1

theorem any_cb_vis (fs : List Field) : (fs.map Field.vis).any (fun f => f.cb != []) = fs.any (fun f => f.cb != []) := by
  simp only [List.any_map]; congr 1

theorem hasBefore_vis (v : Variant) : v.vis.hasBeforeCommentIn = v.hasBeforeCommentIn := by
  cases v with
  | mk name body cb =>
    cases body with
    | alias t => rfl
    | fields fs => simp only [Variant.vis, VBody.vis, Variant.hasBeforeCommentIn, any_cb_vis]

theorem printVariant_vis (v : Variant) (n : Nat) : printVariant o v.vis n = printVariant o v n := by
  cases v with
  | mk name body cb =>
    cases body with
    | alias t => rfl
    | fields fs =>
      have hb := hasBefore_vis ⟨name, .fields fs, cb⟩
      simp only [Variant.vis, VBody.vis] at hb
      simp only [printVariant, Variant.vis, VBody.vis, printVariantFields_vis, hb]

theorem printVariant_core (h : o.ignoreComments = true) (v : Variant) (n : Nat) :
    printVariant o v.core n = printVariant o v n := by
  cases v with
  | mk name body cb =>
    cases body with
    | alias t => rfl
    | fields fs =>
      simp only [printVariant, Variant.core, VBody.core, printVariantFields_core o h, h, Bool.not_true, Bool.false_and]

theorem printVariants_vis (sep : Bytes) (single : Bool) (vs : List Variant) (i : Nat) (force : Bool) :
    printVariants o sep single (vs.map Variant.vis) i force = printVariants o sep single vs i force := by
  induction vs generalizing i force with
  | nil => rfl
  | cons v vs ih =>
    simp only [List.map_cons, printVariants, printVariant_vis, ih]
    rfl

theorem printVariants_core (h : o.ignoreComments = true) (sep : Bytes) (single : Bool) (vs : List Variant) (i : Nat)
    (force : Bool) :
    printVariants o sep single (vs.map Variant.core) i force = printVariants o sep single vs i force := by
  induction vs generalizing i force with
  | nil => rfl
  | cons v vs ih =>
    simp only [List.map_cons, printVariants, printVariant_core o h, ih, h, Bool.not_true, Bool.false_and]
    rfl

theorem printStructFields_vis (sep : Bytes) (force : Bool) (fs : List Field) (i : Nat) :
    printStructFields o sep force (fs.map Field.vis) i = printStructFields o sep force fs i := by
  induction fs generalizing i with
  | nil => rfl
  | cons f fs ih => simp only [List.map_cons, printStructFields, ih]; rfl

theorem printStructFields_core (h : o.ignoreComments = true) (sep : Bytes) (force : Bool) (fs : List Field) (i : Nat) :
    printStructFields o sep force (fs.map Field.core) i = printStructFields o sep force fs i := by
  induction fs generalizing i with
  | nil => rfl
  | cons f fs ih => simp only [List.map_cons, printStructFields, ih, h, Bool.not_true, Bool.false_and]; rfl

theorem printWithNewLineOption_vis (t : TypeDef) (force isRet : Bool) :
    printWithNewLineOption o t.vis force isRet = printWithNewLineOption o t force isRet := by
  cases t with
  | alias ty => rfl
  | struct s =>
    cases s with
    | union vs =>
      simp only [TypeDef.vis, StructDef.vis, printWithNewLineOption, printVariants_vis, List.any_map, List.length_map,
        Function.comp_def, hasBefore_vis]
    | fields fs =>
      simp only [TypeDef.vis, StructDef.vis, printWithNewLineOption, printStructFields_vis, any_cb_vis]

theorem printWithNewLineOption_core (h : o.ignoreComments = true) (t : TypeDef) (force isRet : Bool) :
    printWithNewLineOption o t.core force isRet = printWithNewLineOption o t force isRet := by
  cases t with
  | alias ty => rfl
  | struct s =>
    cases s with
    | union vs =>
      simp only [TypeDef.core, StructDef.core, printWithNewLineOption, printVariants_core o h, h, Bool.not_true,
        Bool.false_and, List.length_map]
    | fields fs =>
      simp only [TypeDef.core, StructDef.core, printWithNewLineOption, printStructFields_core o h, h, Bool.not_true,
        Bool.false_and]

theorem printTypeDef_vis (t : TypeDef) (n : Nat) (isRet : Bool) : printTypeDef o t.vis n isRet = printTypeDef o t n isRet := by
  simp only [printTypeDef, printWithNewLineOption_vis]

theorem printTypeDef_core (h : o.ignoreComments = true) (t : TypeDef) (n : Nat) (isRet : Bool) :
    printTypeDef o t.core n isRet = printTypeDef o t n isRet := by
  simp only [printTypeDef, printWithNewLineOption_core o h]

theorem args_core (args : List Field) (sep : Bytes) :
    ((args.map Field.core).map (fun a => sep ++ printField a)) = args.map (fun a => sep ++ printField a) := by
  simp only [List.map_map]; congr 1

theorem printFunction_vis (t : FuncDecl) (sep : Bytes) (n : Nat) :
    printFunction o { t with args := t.args.map Field.core, ret := t.ret.vis } sep n = printFunction o t sep n := by
  simp only [printFunction, args_core, printTypeDef_vis]

theorem printFunction_core (h : o.ignoreComments = true) (t : FuncDecl) (sep : Bytes) (n : Nat) :
    printFunction o { t with args := t.args.map Field.core, ret := t.ret.core } sep n = printFunction o t sep n := by
  simp only [printFunction, args_core, printTypeDef_core o h]

theorem printComb_vis (c : Comb) : printComb o c.vis = printComb o c := by
  cases c with
  | mk anns decl cb =>
    cases decl with
    | type d => simp only [printComb, Comb.vis, Decl.vis, printTypeDecl, printTypeDef_vis]; rfl
    | func d =>
      have := printFunction_vis o d
      simp only [printComb, Comb.vis, Decl.vis, printFuncDecl, this]; rfl

theorem printComb_core (h : o.ignoreComments = true) (c : Comb) : printComb o c.core = printComb o c := by
  cases c with
  | mk anns decl cb =>
    cases decl with
    | type d =>
      simp only [printComb, Comb.core, Decl.core, printTypeDecl, printTypeDef_core o h, h, Bool.not_true, Bool.false_and,
        Bool.false_eq_true, ↓reduceIte]
    | func d =>
      have := printFunction_core o h d
      simp only [printComb, Comb.core, Decl.core, printFuncDecl, this, h, Bool.not_true,
        Bool.false_and, Bool.false_eq_true, ↓reduceIte]

theorem printFile_vis (f : File) : printFile o (File.vis f) = printFile o f := by
  simp only [printFile, File.vis, List.map_map, Function.comp_def, printComb_vis]

theorem printFile_core (h : o.ignoreComments = true) (f : File) : printFile o (File.core f) = printFile o f := by
  simp only [printFile, File.core, List.map_map, Function.comp_def, printComb_core o h]

end
end TLVerif.Syntaxtl2
