import TLVerif.Syntaxtl2.IterLemmas
import TLVerif.Syntaxtl2.Format
/-! Token-level round trip of type expressions: the parser recovers every well-formed `TypeRef` (any depth) from the
tokens its printed text consists of. Proved once for tokens laid out with any white space and comments before each
of them (`Lay`); tokens directly one after the other (`type_rt`) and a token list given up to white space (`strip`,
`typeS`) are its two instances. Also: number formatting parses back; and the reading positions (`Rd`, `On`) with the step
lemmas through which the later files walk the parser on the constructs above types. -/
namespace TLVerif.Syntaxtl2

abbrev TK := Int × Bytes
def Token.tk (t : Token) : TK := (t.ty, t.val)

/-- an identifier as the lexer produces it (`Type` lexes to a token of its own, `tl2typeSign`). -/
def isIdent (s : Bytes) : Bool :=
  match s with
  | [] => false
  | c :: t => letter c && t.all identChar && s != typeWord

def identTy (s : Bytes) : Int := match s with
  | c :: _ => if lowerCase c then T.lcIdent else T.ucIdent
  | [] => T.lcIdent
def identNSTy (s : Bytes) : Int := match s with
  | c :: _ => if lowerCase c then T.lcIdentNS else T.ucIdentNS
  | [] => T.lcIdentNS

def TName.wf (n : TName) : Bool := isIdent n.name && (n.ns == [] || isIdent n.ns)

/-- tokens the formatter's text for a type name lexes to. The `…Toks` functions, here and in the files above, are a printer at
token level: no lemma ties them to `print…` of Format.lean, only the per-file `lexCert` (FileLemmas) does. -/
def tnameToks (n : TName) : List TK :=
  if n.ns == [] then [(identTy n.name, n.name)] else [(identNSTy n.name, n.ns ++ [46] ++ n.name)]

mutual
def TypeRef.wf : TypeRef → Bool
  | .app name args => name.wf && argsWf args
  | .bracket none elem => elem.wf
  | .bracket (some a) elem => a.wf && elem.wf
def argsWf : List TypeArg → Bool
  | [] => true
  | a :: as => a.wf && argsWf as
def TypeArg.wf : TypeArg → Bool
  | .num n => decide (n < 4294967296)
  | .ty t => t.wf
end

mutual
def typeToks : TypeRef → List TK
  | .app name [] => tnameToks name
  | .app name (a :: as) =>
    tnameToks name ++ ([(T.lAngle, bs "<")] ++ argToks a ++ argsTailToks as ++ [(T.rAngle, bs ">")])
  | .bracket none elem => [(T.lSquare, bs "[")] ++ [(T.rSquare, bs "]")] ++ typeToks elem
  | .bracket (some a) elem => [(T.lSquare, bs "[")] ++ argToks a ++ [(T.rSquare, bs "]")] ++ typeToks elem
def argsTailToks : List TypeArg → List TK
  | [] => []
  | a :: as => [(T.commaSign, bs ",")] ++ argToks a ++ argsTailToks as
def argToks : TypeArg → List TK
  | .num n => [(T.number, decimal n)]
  | .ty t => typeToks t
end

theorem digitVal_digitChar {b d : Nat} (hb : b ≤ 16) (h : d < b) : digitVal b (digitChar d) = some d := by
  have h16 : ∀ d : Fin 16, digitVal 16 (digitChar d.val) = some d.val := by decide
  -- the digit value does not depend on the base, only the range check does
  have val {p : Prop} [Decidable p] {x : Nat} (e : (if p then some x else none) = some d) : x = d := by
    split at e
    · exact Option.some.inj e
    · cases e
  have hv := val (h16 ⟨d, by omega⟩)
  unfold digitVal
  dsimp only at hv ⊢
  rw [hv]
  exact if_pos h

theorem parseDigits_append (b : Nat) (l r : Bytes) (a : Nat) :
    parseDigits b (l ++ r) a = (parseDigits b l a).bind (fun v => parseDigits b r v) := by
  induction l generalizing a with
  | nil => rfl
  | cons c l ih =>
    simp only [List.cons_append, parseDigits]
    cases digitVal b c with
    | none => rfl
    | some v => exact ih _

theorem natDigits_acc (b f n : Nat) (acc : Bytes) : natDigits b f n acc = natDigits b f n [] ++ acc := by
  induction f generalizing n acc with
  | zero => rfl
  | succ f ih =>
    simp only [natDigits]
    split
    · rfl
    · rw [ih, ih (n / b) [digitChar (n % b)]]; simp

theorem parseDigits_natDigits {b : Nat} (hb2 : 2 ≤ b) (hb : b ≤ 16) (f n : Nat) (h : n < f) :
    parseDigits b (natDigits b f n []) 0 = some n ∧ natDigits b f n [] ≠ [] := by
  induction f generalizing n with
  | zero => omega
  | succ f ih =>
    simp only [natDigits]
    split
    · rename_i hn
      simp only [parseDigits, digitVal_digitChar hb hn]
      exact ⟨by simp, by simp⟩
    · rename_i hn
      rw [natDigits_acc]
      have hlt : n / b < n := Nat.div_lt_self (by omega) hb2
      refine ⟨?_, by simp⟩
      rw [parseDigits_append, (ih (n / b) (by omega)).1]
      simp only [Option.bind, parseDigits, digitVal_digitChar hb (Nat.mod_lt n (by omega : b > 0))]
      rw [Nat.mul_comm, Nat.div_add_mod]

theorem parseUint32_decimal (n : Nat) (h : n < 4294967296) : parseUint32 10 (decimal n) = some n := by
  have := parseDigits_natDigits (b := 10) (by decide) (by decide) (n + 1) n (by omega)
  simp only [parseUint32, decimal]
  simp [this.1, this.2, h]

-- `need…`: a fuel with which the parser gets through the construct (`typeLs`): a unit for each function on the way down, the
-- parts added where their maximum would do. Not tight: what counts is three per token (`needT_le`), the rate of `fuelFor`.
mutual
def needT : TypeRef → Nat
  | .app _ args => 3 + needArgs args
  | .bracket none elem => 3 + needT elem
  | .bracket (some a) elem => 3 + needA a + needT elem
def needArgs : List TypeArg → Nat
  | [] => 0
  | a :: as => 2 + needA a + needArgs as
def needA : TypeArg → Nat
  | .num _ => 1
  | .ty t => 1 + needT t
end

/-- what follows a type: after optional white space a token that is not `<` (which would continue a type application). -/
def Follow (rest : Iter) : Prop := ∃ h r, skipWS rest = .ok (h :: r) ∧ h.ty ≠ T.lAngle

theorem identChar_not_dot (c : UInt8) (h : identChar c = true) : (c.toNat != 46) = true := by
  simp only [identChar, letter, lowerCase, upperCase, digit, Bool.or_eq_true, Bool.and_eq_true, decide_eq_true_eq,
    beq_iff_eq] at h
  simp only [bne_iff_ne, ne_eq]
  omega
theorem letter_identChar (c : UInt8) (h : letter c = true) : identChar c = true := by
  simp only [identChar, h, Bool.true_or]

theorem isIdent_no_dot {s : Bytes} (h : isIdent s = true) : s.all (fun c => c.toNat != 46) = true := by
  cases s with
  | nil => simp [isIdent] at h
  | cons c t =>
    simp only [isIdent, Bool.and_eq_true] at h
    simp only [List.all_cons, Bool.and_eq_true]
    refine ⟨identChar_not_dot c (letter_identChar c h.1.1), ?_⟩
    rw [List.all_eq_true] at h ⊢
    intro x hx
    exact identChar_not_dot x (h.1.2 x hx)

theorem spanLen_append_eq (p : UInt8 → Bool) (a : Bytes) (d : UInt8) (b : Bytes) (ha : a.all p = true) (hd : p d = false) :
    spanLen p (a ++ d :: b) = a.length := by
  induction a with
  | nil => simp [spanLen, hd]
  | cons x a ih =>
    simp only [List.all_cons, Bool.and_eq_true] at ha
    simp only [List.cons_append, spanLen, ha.1, ↓reduceIte, ih ha.2, List.length_cons]

theorem isIdent_ne_nil {s : Bytes} (h : isIdent s = true) : ∃ c t, s = c :: t ∧ letter c = true := by
  cases s with
  | nil => simp [isIdent] at h
  | cons c t => simp only [isIdent, Bool.and_eq_true] at h; exact ⟨c, t, rfl, h.1.1⟩

theorem identTy_mem (s : Bytes) : identTy s = T.lcIdent ∨ identTy s = T.ucIdent := by
  fun_cases identTy s <;> simp
theorem identNSTy_mem (s : Bytes) : identNSTy s = T.lcIdentNS ∨ identNSTy s = T.ucIdentNS := by
  fun_cases identNSTy s <;> simp

theorem parseTypeName_rt (n : TName) (hwf : n.wf = true) (t : Token) (rest : Iter) (pos : Pos) (hnw : NW t)
    (hm : [t.tk] = tnameToks n) : parseTypeName (t :: rest) pos = .ok ({ start := true }, rest, n) := by
  simp only [TName.wf, Bool.and_eq_true, Bool.or_eq_true, beq_iff_eq] at hwf
  unfold tnameToks at hm
  cases n with
  | mk ns name =>
  dsimp only at *
  by_cases hns : ns = []
  · subst hns
    simp only [BEq.rfl, ↓reduceIte, List.cons.injEq, and_true] at hm
    have hty : t.ty = identTy name := congrArg Prod.fst hm
    have hval : t.val = name := congrArg Prod.snd hm
    have hc : [T.lcIdent, T.ucIdent].contains t.ty = true := by
      rcases identTy_mem name with h | h <;> simp [hty, h]
    simp only [parseTypeName, checkAny_nw hnw, Res.ok_bind, hc, ↓reduceIte, popFront, Res.pure_eq, hval]
  · have hb : (ns == []) = false := by simpa using hns
    simp only [hb, Bool.false_eq_true, ↓reduceIte, List.cons.injEq, and_true] at hm
    have hty : t.ty = identNSTy name := congrArg Prod.fst hm
    have hval : t.val = ns ++ [46] ++ name := congrArg Prod.snd hm
    have hc1 : [T.lcIdent, T.ucIdent].contains t.ty = false := by
      rcases identNSTy_mem name with h | h <;> rw [hty, h] <;> decide
    have hc2 : [T.lcIdentNS, T.ucIdentNS].contains t.ty = true := by
      rcases identNSTy_mem name with h | h <;> simp [hty, h]
    have hnsid : isIdent ns = true := hwf.2.resolve_left hns
    have hsp : spanLen (fun c => c.toNat != 46) (ns ++ [46] ++ name) = ns.length := by
      rw [List.append_assoc]
      exact spanLen_append_eq _ ns 46 name (isIdent_no_dot hnsid) (by decide)
    simp only [parseTypeName, checkAny_nw hnw, Res.ok_bind, hc1, hc2, Bool.false_eq_true, ↓reduceIte, popFront,
      Res.pure_eq, hval, hsp]
    have hlt : ns.length < (ns ++ [46] ++ name).length := by simp
    simp only [hlt, ↓reduceIte]
    simp -- `take`/`drop` at the dot give back `ns` and `name`

theorem parseTypeName_skip {its : Iter} {hd : Token} {r : Iter} (e : skipWS its = .ok (hd :: r)) (pos : Pos) :
    parseTypeName its pos = parseTypeName (hd :: r) pos := by
  simp only [parseTypeName, checkAny_skip e, checkAny_nw (skipWS_head e)]

theorem parseTypeName_omitted {h : Token} {r : Iter} (hnw : NW h) (pos : Pos)
    (h1 : [T.lcIdent, T.ucIdent].contains h.ty = false) (h2 : [T.lcIdentNS, T.ucIdentNS].contains h.ty = false) :
    parseTypeName (h :: r) pos = .ok ({ start := false }, h :: r, { ns := [], name := [] }) := by
  simp only [parseTypeName, checkAny_nw hnw, Res.ok_bind, h1, h2, Bool.false_eq_true, ↓reduceIte, Res.pure_eq]

theorem parseApp_omitted {h : Token} {r : Iter} (hnw : NW h) (pos : Pos) (f : Nat)
    (h1 : [T.lcIdent, T.ucIdent].contains h.ty = false) (h2 : [T.lcIdentNS, T.ucIdentNS].contains h.ty = false) :
    parseApp (f + 1) (h :: r) pos = .ok ({ start := false }, h :: r, .app { ns := [], name := [] } []) := by
  rw [parseApp]
  simp only [skipWS_nw hnw, Res.ok_bind, parseTypeName_omitted hnw pos h1 h2, OState.hasProgress, Bool.false_and,
    Bool.not_false, ↓reduceIte, Res.pure_eq]

theorem parseType_omitted {its : Iter} {h : Token} {r : Iter} (e : skipWS its = .ok (h :: r)) (pos : Pos) (fuel : Nat)
    (hf : 3 ≤ fuel) (h1 : [T.lcIdent, T.ucIdent].contains h.ty = false) (h2 : [T.lcIdentNS, T.ucIdentNS].contains h.ty = false)
    (h3 : (h.ty == T.lSquare) = false) :
    parseType fuel its pos = .ok ({ start := false }, h :: r, default) := by
  have hnw := skipWS_head e
  obtain ⟨f, rfl⟩ : ∃ f, fuel = f + 3 := ⟨fuel - 3, by omega⟩
  rw [show f + 3 = (f + 2) + 1 from rfl, parseType]
  simp only [e, Res.ok_bind, parseApp_omitted hnw pos (f + 1) h1 h2, Bool.not_false, ↓reduceIte]
  rw [parseBracket]
  simp only [skipWS_nw hnw, Res.ok_bind, expectLazy_nw hnw, h3, Bool.false_eq_true, ↓reduceIte, front, Res.pure_eq]

-- the list is the one `typeToks_head` states (a name does not begin with `[`)
theorem tnameToks_head (n : TName) : ∃ k, tnameToks n = [k] ∧
    k.1 ∈ [T.lcIdent, T.ucIdent, T.lcIdentNS, T.ucIdentNS, T.lSquare] := by
  unfold tnameToks; split
  · refine ⟨_, rfl, ?_⟩; rcases identTy_mem n.name with h | h <;> simp [h]
  · refine ⟨_, rfl, ?_⟩; rcases identNSTy_mem n.name with h | h <;> simp [h]

theorem needT_pos (t : TypeRef) : 3 ≤ needT t := by
  fun_cases needT t <;> omega

theorem tnameToks_len (n : TName) : (tnameToks n).length = 1 := by
  obtain ⟨k, hk, _⟩ := tnameToks_head n; rw [hk]; rfl

mutual
theorem needT_le : (t : TypeRef) → needT t ≤ 3 * (typeToks t).length
  | .app name [] => by simp only [needT, needArgs, typeToks, tnameToks_len]; omega
  | .app name (a :: as) => by
    have h1 := needA_le a
    have h2 := needArgs_le as
    simp only [needT, needArgs, typeToks, List.length_append, tnameToks_len, List.length_cons, List.length_nil]
    omega
  | .bracket none e => by
    have := needT_le e
    simp only [needT, typeToks, List.length_append, List.length_cons, List.length_nil]; omega
  | .bracket (some a) e => by
    have h1 := needA_le a
    have h2 := needT_le e
    simp only [needT, typeToks, List.length_append, List.length_cons, List.length_nil]; omega
theorem needArgs_le : (as : List TypeArg) → needArgs as ≤ 3 * (argsTailToks as).length
  | [] => by simp [needArgs, argsTailToks]
  | a :: as => by
    have h1 := needA_le a
    have h2 := needArgs_le as
    simp only [needArgs, argsTailToks, List.length_append, List.length_cons, List.length_nil]; omega
theorem needA_le : (a : TypeArg) → needA a ≤ 3 * (argToks a).length + 1
  | .num n => by simp [needA, argToks]
  | .ty t => by have := needT_le t; simp only [needA, argToks]; omega
end

theorem front_cons (t : Token) (r : Iter) : front (t :: r) = .ok t := rfl
theorem popFront_cons (t : Token) (r : Iter) : popFront (t :: r) = .ok (t, r) := rfl

theorem follow_ne {rest : Iter} (h : Follow rest) : rest ≠ [] := by
  obtain ⟨h, r, hs, _⟩ := h
  intro e; subst e; simp [skipWS] at hs

theorem front_follow {rest : Iter} (h : Follow rest) : front rest = .ok (rest.head (follow_ne h)) := by
  cases rest with
  | nil => exact absurd rfl (follow_ne h)
  | cons t r => rfl

theorem expectLazy_follow {rest : Iter} (h : Follow rest) : expectLazy rest T.lAngle = .ok (false, rest) := by
  obtain ⟨h, r, hs, hne⟩ := h
  rw [expectLazy_skip hs, if_neg (by simpa using hne)]

theorem expectProgress_ok (e : PErr) : (({ start := true } : OState).expectProgress e) = (true, { start := true }) := rfl

theorem typeToks_head (t : TypeRef) : ∃ k ks, typeToks t = k :: ks ∧
    k.1 ∈ [T.lcIdent, T.ucIdent, T.lcIdentNS, T.ucIdentNS, T.lSquare] ∧
    (k.1 = T.lSquare ∨ ks = [] ∨ ∃ ks1, ks = (T.lAngle, bs "<") :: ks1) := by
  fun_cases typeToks t with
  | case1 name =>
    obtain ⟨k, hk, hm⟩ := tnameToks_head name
    exact ⟨k, [], hk, hm, .inr (.inl rfl)⟩
  | case2 name =>
    obtain ⟨k, hk, hm⟩ := tnameToks_head name
    exact ⟨k, _, by rw [hk]; rfl, hm, .inr (.inr ⟨_, rfl⟩)⟩
  | case3 | case4 => exact ⟨_, _, rfl, by simp, .inl rfl⟩

/-- `Lay ks its rest`: from `its` on, the tokens `skipWS` stops at are `ks` in turn, and `rest` begins right behind the last. -/
def Lay : List TK → Iter → Iter → Prop
  | [], its, rest => its = rest
  | k :: ks, its, rest => ∃ hd r, skipWS its = .ok (hd :: r) ∧ hd.tk = k ∧ Lay ks r rest

theorem Lay.append {b : List TK} {rest : Iter} : ∀ {a : List TK} {its : Iter}, Lay (a ++ b) its rest →
    ∃ mid, Lay a its mid ∧ Lay b mid rest
  | [], its, h => ⟨its, rfl, h⟩
  | _ :: _, _, ⟨hd, r, e, htk, h⟩ =>
    have ⟨mid, h1, h2⟩ := Lay.append h
    ⟨mid, ⟨hd, r, e, htk, h1⟩, h2⟩

theorem Lay.follow {k : TK} {ks : List TK} {its rest : Iter} (h : Lay (k :: ks) its rest) (hk : k.1 ≠ T.lAngle) :
    Follow its := by
  obtain ⟨hd, r, e, htk, _⟩ := h
  exact ⟨hd, r, e, by rw [show hd.ty = k.1 from congrArg Prod.fst htk]; exact hk⟩

theorem argsTail_follow {as : List TypeArg} {its rest : Iter}
    (h : Lay (argsTailToks as ++ [(T.rAngle, bs ">")]) its rest) : Follow its := by
  cases as with
  | nil => exact Lay.follow h (by decide)
  | cons a as =>
    simp only [argsTailToks, List.append_assoc, List.singleton_append] at h
    exact Lay.follow h (by decide)

/-- the white space in front is skipped by the caller. -/
theorem nameL {n : TName} (hwf : n.wf = true) {ks : List TK} {its rest : Iter} (pos : Pos)
    (h : Lay (tnameToks n ++ ks) its rest) :
    ∃ hd r, skipWS its = .ok (hd :: r) ∧ parseTypeName (hd :: r) pos = .ok ({ start := true }, r, n) ∧ Lay ks r rest := by
  obtain ⟨k, hk, _⟩ := tnameToks_head n
  rw [hk] at h
  obtain ⟨hd, r, e, htk, hl⟩ := h
  exact ⟨hd, r, e, parseTypeName_rt n hwf hd r pos (skipWS_head e) (by rw [hk, htk]), hl⟩

/-- `parseTL2Type` on the tokens of `TL2TypeRef.Print` of a well-formed type, laid out in any way and followed by
anything that does not continue a type, returns that type and stops right after its last token; with it the `, arg`
repetitions up to the closing `>`, and `parseTL2TypeArgument`. By induction on the fuel: the calls go down by one or two. -/
theorem typeLs (fuel : Nat) :
    (∀ t : TypeRef, t.wf = true → ∀ its rest pos, Lay (typeToks t) its rest → Follow rest → needT t ≤ fuel →
      parseType fuel its pos = .ok ({ start := true }, rest, t)) ∧
    (∀ as, argsWf as = true → ∀ its rest pos st acc, Lay (argsTailToks as ++ [(T.rAngle, bs ">")]) its rest → rest ≠ [] →
      needArgs as + 1 ≤ fuel → parseArgsLoop fuel pos st its acc = .ok (st, rest, acc ++ as)) ∧
    (∀ a : TypeArg, a.wf = true → ∀ its rest pos, Lay (argToks a) its rest → Follow rest → needA a ≤ fuel →
      parseArg fuel its pos = .ok ({ start := true }, rest, a)) := by
  induction fuel using Nat.strongRecOn with
  | _ fuel ih =>
  refine ⟨fun t => ?_, fun as => ?_, fun a => ?_⟩
  · match t with
    | .app name [] =>
      -- parseType: skipWS; parseApp: skipWS twice, parseTypeName (nameL), front, expectLazy `<` misses (hfol), front; front
      intro hwf its rest pos hm hfol hf
      simp only [TypeRef.wf, argsWf, Bool.and_true] at hwf
      simp only [needT, needArgs] at hf
      obtain ⟨f, rfl⟩ : ∃ f, fuel = f + 2 := ⟨fuel - 2, by omega⟩
      rw [typeToks, ← List.append_nil (tnameToks name)] at hm
      obtain ⟨hd, r, e, en, rfl⟩ := nameL hwf pos hm
      rw [show f + 2 = (f + 1) + 1 from rfl, parseType]
      simp only [e, Res.ok_bind]
      rw [parseApp]
      simp only [skipWS_nw (skipWS_head e), Res.ok_bind, en, OState.hasProgress, Option.isNone, Bool.and_self,
        Bool.not_true, Bool.false_eq_true, ↓reduceIte, front_follow hfol, expectLazy_follow hfol, Res.pure_eq]
    | .app name (a :: as) =>
      -- parseType: skipWS; parseApp: skipWS twice, parseTypeName (nameL), front, expectLazy `<`, parseArg (ih: ea), front,
      -- expectProgress, parseArgsLoop (ih: eloop); front
      intro hwf its rest pos hm hfol hf
      simp only [TypeRef.wf, argsWf, Bool.and_eq_true] at hwf
      simp only [needT, needArgs] at hf
      obtain ⟨f, rfl⟩ : ∃ f, fuel = f + 3 := ⟨fuel - 3, by omega⟩
      simp only [typeToks, List.append_assoc, List.singleton_append] at hm
      obtain ⟨hd, r, e, en, la, r2, e2, hla, hm⟩ := nameL hwf.1 pos hm
      obtain ⟨r3, ha, hm⟩ := Lay.append hm
      have hfa := argsTail_follow hm
      have ea := (ih (f + 1) (by omega)).2.2 a hwf.2.1 r2 r3 pos ha hfa (by omega)
      have eloop := (ih (f + 1) (by omega)).2.1 as hwf.2.2 r3 rest pos { start := true } [a] hm (follow_ne hfol) (by omega)
      have hlaty : la.ty = T.lAngle := congrArg Prod.fst hla
      obtain ⟨t1, ht1⟩ := front_skipWS e2
      rw [show f + 3 = (f + 2) + 1 from rfl, parseType]
      simp only [e, Res.ok_bind]
      rw [show f + 2 = (f + 1) + 1 from rfl, parseApp]
      simp only [skipWS_nw (skipWS_head e), Res.ok_bind, en, OState.hasProgress, Option.isNone, Bool.and_self,
        Bool.not_true, Bool.false_eq_true, ↓reduceIte, ht1, expectLazy_skip e2, hlaty, BEq.rfl, ea, front_follow hfa,
        expectProgress_ok, eloop, front_follow hfol, Res.pure_eq, List.singleton_append]
    | .bracket none elem =>
      -- parseType: skipWS; parseApp declines on `[`; parseBracket: skipWS, expectLazy `[`, parseArg on `]` (skipWS,
      -- checkToken number misses, parseType declines: hom, front) gives no index, expect `]`, parseType (ih: et), front,
      -- expectProgress, front; front
      intro hwf its rest pos hm hfol hf
      simp only [TypeRef.wf] at hwf
      simp only [needT] at hf
      have hpos := needT_pos elem
      obtain ⟨f, rfl⟩ : ∃ f, fuel = f + 6 := ⟨fuel - 6, by omega⟩
      simp only [typeToks, List.cons_append, List.nil_append] at hm
      obtain ⟨lb, r, e, hlb, rb, r2, e2, hrb, hm⟩ := hm
      have hty : lb.ty = T.lSquare := congrArg Prod.fst hlb
      have hty2 : rb.ty = T.rSquare := congrArg Prod.fst hrb
      have hnw := skipWS_head e
      have hnw2 := skipWS_head e2
      have hom := parseType_omitted (skipWS_nw (r := r2) hnw2) pos (f + 3) (by omega) (by rw [hty2]; decide) (by rw [hty2]; decide)
        (by rw [hty2]; decide)
      have et := (ih (f + 4) (by omega)).1 elem hwf r2 rest pos hm hfol (by omega)
      rw [show f + 6 = (f + 5) + 1 from rfl, parseType]
      simp only [e, Res.ok_bind]
      rw [parseApp_omitted hnw pos (f + 4) (by rw [hty]; decide) (by rw [hty]; decide)]
      simp only [Res.ok_bind, Bool.not_false, ↓reduceIte]
      rw [parseBracket]
      simp only [skipWS_nw hnw, Res.ok_bind, expectLazy_nw hnw, hty, BEq.rfl, ↓reduceIte]
      rw [show f + 4 = (f + 3) + 1 from rfl, parseArg]
      simp only [e2, Res.ok_bind, checkToken_nw hnw2, hty2, show (T.rSquare == T.number) = false by decide,
        Bool.false_eq_true, ↓reduceIte, hom, front_cons, Res.pure_eq, OState.isOmitted, Bool.not_false, OState.inherit,
        Bool.or_false, OState.hasProgress, Option.isNone, Bool.and_self, Bool.not_true, expect_nw hnw2, BEq.rfl, et,
        front_follow hfol, expectProgress_ok]
    | .bracket (some a) elem =>
      -- parseType: skipWS; parseApp declines on `[`; parseBracket: skipWS, expectLazy `[`, parseArg (ih: ea), expect `]`,
      -- parseType (ih: et), front, expectProgress, front; front
      intro hwf its rest pos hm hfol hf
      simp only [TypeRef.wf, Bool.and_eq_true] at hwf
      simp only [needT] at hf
      have hpos := needT_pos elem
      obtain ⟨f, rfl⟩ : ∃ f, fuel = f + 6 := ⟨fuel - 6, by omega⟩
      simp only [typeToks, List.append_assoc, List.cons_append, List.nil_append] at hm
      obtain ⟨lb, r, e, hlb, hm⟩ := hm
      obtain ⟨r3, ha, rb, r4, e4, hrb, hm⟩ := Lay.append hm
      have hty : lb.ty = T.lSquare := congrArg Prod.fst hlb
      have hty4 : rb.ty = T.rSquare := congrArg Prod.fst hrb
      have hnw := skipWS_head e
      have ea := (ih (f + 4) (by omega)).2.2 a hwf.1 r r3 pos ha ⟨rb, r4, e4, by rw [hty4]; decide⟩ (by omega)
      have et := (ih (f + 4) (by omega)).1 elem hwf.2 r4 rest pos hm hfol (by omega)
      rw [show f + 6 = (f + 5) + 1 from rfl, parseType]
      simp only [e, Res.ok_bind]
      rw [parseApp_omitted hnw pos (f + 4) (by rw [hty]; decide) (by rw [hty]; decide)]
      simp only [Res.ok_bind, Bool.not_false, ↓reduceIte]
      rw [parseBracket]
      simp only [skipWS_nw hnw, Res.ok_bind, expectLazy_nw hnw, hty, BEq.rfl, ↓reduceIte, ea, OState.isOmitted,
        Bool.not_true, Bool.false_eq_true, OState.inherit, Bool.or_self, OState.hasProgress, Option.isNone, Bool.and_self,
        expect_skip e4, hty4, et, front_follow hfol, expectProgress_ok, Res.pure_eq]
  · match as with
    | [] =>
      intro _ its rest pos st acc hm hne hf
      obtain ⟨f, rfl⟩ : ∃ f, fuel = f + 1 := ⟨fuel - 1, by omega⟩
      obtain ⟨ra, r, e, hra, rfl⟩ := hm
      have hty : ra.ty = T.rAngle := congrArg Prod.fst hra
      obtain ⟨t2, ts, rfl⟩ := List.exists_cons_of_ne_nil hne
      rw [parseArgsLoop]
      simp only [expect_skip e, hty, show (T.rAngle == T.commaSign) = false by decide, Bool.false_eq_true, ↓reduceIte,
        Res.ok_bind, expect_nw (skipWS_head e), BEq.rfl, Bool.not_true, front_cons, Res.pure_eq, List.append_nil]
    | a :: as =>
      intro hwf its rest pos st acc hm hne hf
      simp only [argsWf, Bool.and_eq_true] at hwf
      simp only [argsTailToks, List.append_assoc, List.singleton_append] at hm
      simp only [needArgs] at hf
      obtain ⟨f, rfl⟩ : ∃ f, fuel = f + 1 := ⟨fuel - 1, by omega⟩
      obtain ⟨cm, r1, e1, hcm, hm⟩ := hm
      obtain ⟨r2, ha, hm⟩ := Lay.append hm
      have hty : cm.ty = T.commaSign := congrArg Prod.fst hcm
      have hfa := argsTail_follow hm
      have ea := (ih f (by omega)).2.2 a hwf.1 r1 r2 pos ha hfa (by omega)
      have el := (ih f (by omega)).2.1 as hwf.2 r2 rest pos st (acc ++ [a]) hm hne (by omega)
      rw [parseArgsLoop]
      simp only [expect_skip e1, hty, BEq.rfl, Res.ok_bind, ↓reduceIte, ea, front_follow hfa, expectProgress_ok,
        Bool.not_true, Bool.false_eq_true, el, List.append_assoc, List.singleton_append]
  · match a with
    | .num n =>
      intro hwf its rest pos hm hfol hf
      simp only [TypeArg.wf, decide_eq_true_eq] at hwf
      simp only [needA] at hf
      obtain ⟨f, rfl⟩ : ∃ f, fuel = f + 1 := ⟨fuel - 1, by omega⟩
      obtain ⟨hd, r, e, htk, rfl⟩ := hm
      have hty : hd.ty = T.number := congrArg Prod.fst htk
      have hval : hd.val = decimal n := congrArg Prod.snd htk
      rw [parseArg]
      simp only [e, Res.ok_bind, checkToken_nw (skipWS_head e), hty, BEq.rfl, ↓reduceIte, popFront_cons, front_follow hfol,
        hval, parseUint32_decimal n hwf, Res.pure_eq]
    | .ty t =>
      intro hwf its rest pos hm hfol hf
      simp only [TypeArg.wf] at hwf
      simp only [argToks] at hm
      simp only [needA] at hf
      obtain ⟨f, rfl⟩ : ∃ f, fuel = f + 1 := ⟨fuel - 1, by omega⟩
      -- the first token of a type is a name or `[`: not a number
      obtain ⟨k, ks0, hk, hmem, _⟩ := typeToks_head t
      obtain ⟨hd, r, e, htk, hl⟩ := hk ▸ hm
      have hnw := skipWS_head e
      have hnn : (hd.ty == T.number) = false := by
        rw [show hd.ty = k.1 from congrArg Prod.fst htk]
        exact (by decide : ∀ x ∈ _, (x == T.number) = false) _ hmem
      have et := (ih f (by omega)).1 t hwf (hd :: r) rest pos (hk ▸ ⟨hd, r, skipWS_nw hnw, htk, hl⟩) hfol (by omega)
      rw [parseArg]
      simp only [e, Res.ok_bind, checkToken_nw hnw, hnn, Bool.false_eq_true, ↓reduceIte, et, front_follow hfol, Res.pure_eq]

/-- a token type that `skipWS` does not skip. -/
def nwK (k : TK) : Bool := !(k.1 == T.comment || k.1 == T.whiteSpace || k.1 == T.tab || k.1 == T.newLine)

theorem tnameToks_nw (n : TName) : (tnameToks n).all nwK = true := by
  obtain ⟨k, hk, hm⟩ := tnameToks_head n
  rw [hk, List.all_cons, List.all_nil, Bool.and_true]
  exact (by decide : ∀ ty ∈ _, (!(ty == T.comment || ty == T.whiteSpace || ty == T.tab || ty == T.newLine)) = true) _ hm

mutual
theorem typeToks_nw : (t : TypeRef) → (typeToks t).all nwK = true
  | .app name [] => by rw [typeToks]; exact tnameToks_nw name
  | .app name (a :: as) => by
    simp only [typeToks, List.all_append, tnameToks_nw, argToks_nw a, argsTailToks_nw as]; rfl
  | .bracket none elem => by simp only [typeToks, List.all_append, typeToks_nw elem]; rfl
  | .bracket (some a) elem => by simp only [typeToks, List.all_append, argToks_nw a, typeToks_nw elem]; rfl
theorem argsTailToks_nw : (as : List TypeArg) → (argsTailToks as).all nwK = true
  | [] => rfl
  | a :: as => by simp only [argsTailToks, List.all_append, argToks_nw a, argsTailToks_nw as]; rfl
theorem argToks_nw : (a : TypeArg) → (argToks a).all nwK = true
  | .num n => rfl
  | .ty t => by rw [argToks]; exact typeToks_nw t
end

theorem Lay.of_map {rest : Iter} : ∀ {toks : Iter}, (toks.map Token.tk).all nwK = true →
    Lay (toks.map Token.tk) (toks ++ rest) rest
  | [], _ => rfl
  | t :: ts, h => by
    simp only [List.map_cons, List.all_cons, Bool.and_eq_true] at h
    exact ⟨t, ts ++ rest, skipWS_nw (by simpa [NW, isWS, nwK, Token.tk] using h.1), rfl, Lay.of_map h.2⟩

theorem type_rt : (t : TypeRef) → t.wf = true → ∀ (toks rest : Iter) (pos : Pos) (fuel : Nat),
    toks.map Token.tk = typeToks t → needT t ≤ fuel → Follow rest →
    parseType fuel (toks ++ rest) pos = .ok ({ start := true }, rest, t) :=
  fun t hwf _ rest pos fuel hm hf hfol =>
    (typeLs fuel).1 t hwf _ rest pos (hm ▸ Lay.of_map (hm ▸ typeToks_nw t)) hfol hf

theorem argsTail_rt : (as : List TypeArg) → argsWf as = true → ∀ (toks rest : Iter) (pos : Pos) (fuel : Nat)
    (st : OState) (acc : List TypeArg),
    toks.map Token.tk = argsTailToks as ++ [(T.rAngle, bs ">")] → needArgs as + 1 ≤ fuel → rest ≠ [] →
    parseArgsLoop fuel pos st (toks ++ rest) acc = .ok (st, rest, acc ++ as) :=
  fun as hwf toks rest pos fuel st acc hm hf hrest =>
    (typeLs fuel).2.1 as hwf _ rest pos st acc
      (hm ▸ Lay.of_map (hm ▸ by rw [List.all_append, argsTailToks_nw as]; rfl)) hrest hf

theorem arg_rt : (a : TypeArg) → a.wf = true → ∀ (toks rest : Iter) (pos : Pos) (fuel : Nat),
    toks.map Token.tk = argToks a → needA a ≤ fuel → Follow rest →
    parseArg fuel (toks ++ rest) pos = .ok ({ start := true }, rest, a) :=
  fun a hwf _ rest pos fuel hm hf hfol =>
    (typeLs fuel).2.2 a hwf _ rest pos (hm ▸ Lay.of_map (hm ▸ argToks_nw a)) hfol hf

def strip (its : Iter) : List TK := (its.filter (fun t => !isWS t)).map Token.tk

theorem strip_cons_ws {t : Token} {r : Iter} (h : isWS t = true) : strip (t :: r) = strip r := by
  simp [strip, List.filter, h]

theorem strip_cons_nw {t : Token} {r : Iter} (h : NW t) : strip (t :: r) = t.tk :: strip r := by
  have h' : isWS t = false := h
  simp [strip, List.filter, h']

theorem strip_len (its : Iter) : (strip its).length ≤ its.length := by
  simp only [strip, List.length_map]
  exact List.length_filter_le _ _

theorem exists_cons_of_append_cons {α : Type} (a : List α) (x : α) (b : List α) : ∃ k ks, a ++ x :: b = k :: ks := by
  cases a with
  | nil => exact ⟨x, b, rfl⟩
  | cons k a => exact ⟨k, a ++ x :: b, rfl⟩

theorem skipWS_strip {its : Iter} {k : TK} {ks : List TK} (h : strip its = k :: ks) :
    ∃ h r, skipWS its = .ok (h :: r) ∧ NW h ∧ h.tk = k ∧ strip r = ks ∧ (h :: r) <:+ its := by
  fun_induction skipWS its with
  | case1 => simp [strip] at h
  | case2 t r hw ih =>
    obtain ⟨h', r', e, a, b, c, d⟩ := ih (strip_cons_ws hw ▸ h)
    exact ⟨h', r', e, a, b, c, d.trans (List.suffix_cons t r)⟩
  | case3 t r hw =>
    have hnw : NW t := by unfold NW; simpa using hw
    rw [strip_cons_nw hnw] at h
    injection h with h1 h2
    exact ⟨t, r, rfl, hnw, h1, h2, List.suffix_refl _⟩

theorem front_strip {its : Iter} {k : TK} {ks : List TK} (h : strip its = k :: ks) : ∃ t, front its = .ok t := by
  cases its with
  | nil => simp [strip] at h
  | cons t r => exact ⟨t, rfl⟩

def FollowK (ks : List TK) : Prop := ∃ k ks', ks = k :: ks' ∧ k.1 ≠ T.lAngle

theorem follow_of_strip {rest : Iter} {ks : List TK} (h : strip rest = ks) (hf : FollowK ks) : Follow rest := by
  obtain ⟨k, ks', rfl, hk⟩ := hf
  obtain ⟨hd, r, e, _, b, _, _⟩ := skipWS_strip h
  exact ⟨hd, r, e, by rw [show hd.ty = k.1 from by rw [← b]; rfl]; exact hk⟩

theorem Lay.of_strip : ∀ {a : List TK} {its : Iter} {ks : List TK}, strip its = a ++ ks →
    ∃ rest, Lay a its rest ∧ strip rest = ks ∧ rest <:+ its
  | [], its, _, h => ⟨its, rfl, h, List.suffix_refl _⟩
  | _ :: _, _, _, h => by
    obtain ⟨hd, r, e, _, htk, hr, hsuf⟩ := skipWS_strip h
    obtain ⟨rest, hl, hs, hsuf2⟩ := Lay.of_strip hr
    exact ⟨rest, ⟨hd, r, e, htk, hl⟩, hs, hsuf2.trans ((List.suffix_cons hd r).trans hsuf)⟩

theorem typeS : (t : TypeRef) → t.wf = true → ∀ (its : Iter) (ks : List TK) (pos : Pos) (fuel : Nat),
    strip its = typeToks t ++ ks → FollowK ks → needT t ≤ fuel →
    ∃ rest, parseType fuel its pos = .ok ({ start := true }, rest, t) ∧ strip rest = ks ∧ rest <:+ its :=
  fun t hwf its _ pos fuel hm hfol hf =>
    have ⟨rest, hl, hr, hs⟩ := Lay.of_strip hm
    ⟨rest, (typeLs fuel).1 t hwf its rest pos hl (follow_of_strip hr hfol) hf, hr, hs⟩

theorem argsTailS : (as : List TypeArg) → argsWf as = true → ∀ (its : Iter) (ks : List TK) (pos : Pos) (fuel : Nat)
    (st : OState) (acc : List TypeArg),
    strip its = argsTailToks as ++ ([(T.rAngle, bs ">")] ++ ks) → (∃ k ks', ks = k :: ks') → needArgs as + 1 ≤ fuel →
    ∃ rest, parseArgsLoop fuel pos st its acc = .ok (st, rest, acc ++ as) ∧ strip rest = ks ∧ rest <:+ its :=
  fun as hwf its _ pos fuel st acc hm hne hf =>
    have ⟨rest, hl, hr, hs⟩ := Lay.of_strip ((List.append_assoc ..).symm ▸ hm)
    have hrest : rest ≠ [] := by
      obtain ⟨k, ks', rfl⟩ := hne
      rintro rfl; cases hr
    ⟨rest, (typeLs fuel).2.1 as hwf its rest pos st acc hl hrest hf, hr, hs⟩

theorem argS : (a : TypeArg) → a.wf = true → ∀ (its : Iter) (ks : List TK) (pos : Pos) (fuel : Nat),
    strip its = argToks a ++ ks → FollowK ks → needA a ≤ fuel →
    ∃ rest, parseArg fuel its pos = .ok ({ start := true }, rest, a) ∧ strip rest = ks ∧ rest <:+ its :=
  fun a hwf its _ pos fuel hm hfol hf =>
    have ⟨rest, hl, hr, hs⟩ := Lay.of_strip hm
    ⟨rest, (typeLs fuel).2.2 a hwf its rest pos hl (follow_of_strip hr hfol) hf, hr, hs⟩

theorem skipToNewline_strip (r : Iter) : strip (skipToNewline r).2 = strip r ∧ (skipToNewline r).2 <:+ r := by
  fun_induction skipToNewline r with
  | case2 t ts hw ih =>
    have hws : isWS t = true := by rw [isWS, hw, Bool.true_or]
    exact ⟨by rw [strip_cons_ws hws]; exact ih.1, ih.2.trans (List.suffix_cons t ts)⟩
  | case1 | case3 | case4 => exact ⟨rfl, List.suffix_refl _⟩

/-! Reading positions. The constructs above types (fields, variants, declarations, files) are stepped through like the
specifications of ParserLemmas, one step lemma per line of the model; a position `Rd it ks r` says which tokens `ks`
are still to come at `r` (`On`: standing on the first of them), so every step has one outcome. Positions are suffixes of
one good list `it`, so that no step has to compose suffix proofs. `typeLs` is an equation at a layout `Lay` because `type_rt`,
`arg_rt`, `argsTail_rt` state where the parser stops, which `Rd` (the rest up to white space) cannot say; from fields upward the
parser eats trailing white space, resets the iterator and slices comments out of the text (`Ctx`; results up to `core`), so only
`Rd` is known: hence `Sat` and steps; `typeR`, `nameR`, `typeOmittedR` carry an equation to an `Rd` step.
`Gives it ks st P` is the postcondition of a function that has read its tokens: it returns the state `st`, a value with `P` (an
equation for types and names, equality of `core` from fields upward) and a rest at which `ks` are still to come.
`frApp` is `fr` where the tokens to come, `a ++ k :: ks`, do not show their head; `check` serves `checkToken` too, by unfolding. -/
section
variable {N : Nat} {tx : Bytes} {it : Iter} {k : TK} {ks : List TK} {β : Type} {Q : β → Prop}

structure Rd (it : Iter) (ks : List TK) (r : Iter) : Prop where
  suf : r <:+ it
  toks : strip r = ks

structure On (it : Iter) (k : TK) (ks : List TK) (hd : Token) (r : Iter) : Prop where
  suf : (hd :: r) <:+ it
  nw : NW hd
  tk : hd.tk = k
  toks : strip r = ks

structure Gives {α : Type} (it : Iter) (ks : List TK) (st : OState) (P : α → Prop) (p : OState × Iter × α) : Prop where
  st : p.1 = st
  val : P p.2.2
  pos : Rd it ks p.2.1

theorem On.ty {hd : Token} {r : Iter} (h : On it k ks hd r) : hd.ty = k.1 := congrArg Prod.fst h.tk

theorem On.val {hd : Token} {r : Iter} (h : On it k ks hd r) : hd.val = k.2 := congrArg Prod.snd h.tk

theorem On.here {hd : Token} {r : Iter} (h : On it k ks hd r) : Rd it (k :: ks) (hd :: r) :=
  ⟨h.suf, by rw [strip_cons_nw h.nw, h.tk, h.toks]⟩

theorem On.next {hd : Token} {r : Iter} (h : On it k ks hd r) : Rd it ks r :=
  ⟨(List.suffix_cons hd r).trans h.suf, h.toks⟩

theorem Rd.cast {ks' : List TK} {r : Iter} (h : Rd it ks r) (e : ks = ks') : Rd it ks' r := e ▸ h

theorem Rd.on {its : Iter} (h : Rd it (k :: ks) its) : ∃ hd r, skipWS its = .ok (hd :: r) ∧ On it k ks hd r := by
  obtain ⟨hd, r, e, a, b, c, d⟩ := skipWS_strip h.toks
  exact ⟨hd, r, e, d.trans h.suf, a, b, c⟩

theorem Rd.ne {r : Iter} (h : Rd it (k :: ks) r) : r ≠ [] := by
  rintro rfl
  cases h.toks

/-- for a statement about a suffix `its` of `it` whose conclusion speaks of suffixes of `its`: read from `its` itself. -/
theorem Rd.root {its : Iter} {a : List TK} (hc : Ctx N tx it) (hs : its <:+ it) (hm : strip its = a ++ k :: ks) :
    Ctx N tx its ∧ Rd its (a ++ k :: ks) its :=
  ⟨hc.suffix hs (by rintro rfl; simp [strip] at hm), List.suffix_refl _, hm⟩

/-- `parseTL2File` hands the fuel it starts with, `fuelFor`, down unchanged to every function above types (the type functions
count it down, and each loop a counter of its own that starts from it): at any reading position it covers three units for each
token still to come and the constant, which is what the bounds on `need…` (`needT_le`, `structNeed_le`, …) and on loop lengths
are compared with; `a` is read off the index of `h`. The 20 is slack the model chose (the Go code has no bound): the largest
constant met here is the 4 of `structNeed_le`, totality uses 3 (`Spec`). Declarations and files (`typeDeclR`, `funcDeclR`,
`combR`, `fileR`) assume `fuelFor it ≤ fuel` and get each callee's bound from this lemma; fields, variants and struct bodies
assume `need… ≤ fuel` instead, which is how C22 states them (`fields_roundtrip_tokens`, `struct_roundtrip_tokens`: for any
fuel, not only the file's). -/
theorem Rd.fuel {a : List TK} {r : Iter} {fuel : Nat} (h : Rd it (a ++ ks) r) (hfu : fuelFor it ≤ fuel) :
    3 * a.length + 20 ≤ fuel := by
  have h1 := strip_len r
  have h2 := h.suf.length_le
  rw [h.toks, List.length_append] at h1
  unfold fuelFor at hfu
  omega

theorem Rd.toNewline {r : Iter} (h : Rd it ks r) : Rd it ks (skipToNewline r).2 :=
  ⟨(skipToNewline_strip r).2.trans h.suf, (skipToNewline_strip r).1.trans h.toks⟩

theorem Rd.skip {its : Iter} {x : Iter → Res β} (h : Rd it (k :: ks) its)
    (c : ∀ hd r, skipWS its = .ok (hd :: r) → On it k ks hd r → (x (hd :: r)).Sat Q) : (skipWS its >>= x).Sat Q := by
  obtain ⟨hd, r, e, ho⟩ := h.on
  rw [e]
  exact c hd r e ho

theorem On.skip {hd : Token} {r : Iter} {x : Iter → Res β} (h : On it k ks hd r) (c : (x (hd :: r)).Sat Q) :
    (skipWS (hd :: r) >>= x).Sat Q := by
  rw [skipWS_nw h.nw]
  exact c

theorem On.check {hd : Token} {r : Iter} {x : Bool × Iter → Res β} {tys : List Int} {b : Bool} (h : On it k ks hd r)
    (hb : tys.contains k.1 = b) (c : (x (b, hd :: r)).Sat Q) : (checkAny (hd :: r) tys >>= x).Sat Q := by
  rw [checkAny_nw h.nw, h.ty, hb]
  exact c

theorem Rd.fr {r : Iter} {x : Token → Res β} (h : Rd it (k :: ks) r) (c : ∀ t, (x t).Sat Q) : (front r >>= x).Sat Q := by
  obtain ⟨t, e⟩ := front_strip h.toks
  rw [e]
  exact c t

theorem Rd.frApp {r : Iter} {a : List TK} {x : Token → Res β} (h : Rd it (a ++ k :: ks) r) (c : ∀ t, (x t).Sat Q) :
    (front r >>= x).Sat Q := by
  obtain ⟨k', ks', e⟩ := exists_cons_of_append_cons a k ks
  exact Rd.fr (e ▸ h) c

theorem Rd.check {its : Iter} {x : Bool × Iter → Res β} {tys : List Int} {b : Bool} (h : Rd it (k :: ks) its)
    (hb : tys.contains k.1 = b) (c : ∀ hd r, On it k ks hd r → (x (b, hd :: r)).Sat Q) : (checkAny its tys >>= x).Sat Q := by
  obtain ⟨hd, r, e, ho⟩ := h.on
  rw [checkAny_skip e, ho.ty, hb]
  exact c hd r ho

/-- `expect` on the expected token; the token is kept for what is known about its neighbours in `it`. -/
theorem Rd.hitOn {its : Iter} {x : Bool × Iter → Res β} {ty : Int} (h : Rd it (k :: ks) its) (hk : k.1 = ty)
    (c : ∀ hd r, On it k ks hd r → (x (true, r)).Sat Q) : (expect its ty >>= x).Sat Q := by
  obtain ⟨hd, r, e, ho⟩ := h.on
  rw [expect_skip e, ho.ty, hk, beq_self_eq_true]
  exact c hd r ho

theorem Rd.hit {its : Iter} {x : Bool × Iter → Res β} {ty : Int} (h : Rd it (k :: ks) its) (hk : k.1 = ty)
    (c : ∀ r, Rd it ks r → (x (true, r)).Sat Q) : (expect its ty >>= x).Sat Q :=
  h.hitOn hk fun _ r o => c r o.next

theorem Rd.miss {its : Iter} {x : Bool × Iter → Res β} {ty : Int} (h : Rd it (k :: ks) its) (hk : k.1 ≠ ty)
    (c : ∀ hd r, On it k ks hd r → (x (false, hd :: r)).Sat Q) : (expect its ty >>= x).Sat Q := by
  obtain ⟨hd, r, e, ho⟩ := h.on
  rw [expect_skip e, ho.ty, if_neg (by simpa using hk)]
  exact c hd r ho

theorem Rd.lazyHit {its : Iter} {x : Bool × Iter → Res β} {ty : Int} (h : Rd it (k :: ks) its) (hk : k.1 = ty)
    (c : ∀ r, Rd it ks r → (x (true, r)).Sat Q) : (expectLazy its ty >>= x).Sat Q := by
  obtain ⟨hd, r, e, ho⟩ := h.on
  rw [expectLazy_skip e, ho.ty, hk, beq_self_eq_true]
  exact c r ho.next

theorem Rd.lazyMiss {its : Iter} {x : Bool × Iter → Res β} {ty : Int} (h : Rd it (k :: ks) its) (hk : k.1 ≠ ty)
    (c : (x (false, its)).Sat Q) : (expectLazy its ty >>= x).Sat Q := by
  obtain ⟨hd, r, e, ho⟩ := h.on
  rw [expectLazy_skip e, ho.ty, if_neg (by simpa using hk)]
  exact c

theorem typeR (t : TypeRef) (hwf : t.wf = true) {its : Iter} (pos : Pos) {fuel : Nat}
    (h : Rd it (typeToks t ++ ks) its) (hfol : FollowK ks) (hf : needT t ≤ fuel) :
    (parseType fuel its pos).Sat (Gives it ks { start := true } (t = ·)) := by
  obtain ⟨rest, e, hr, hs⟩ := typeS t hwf its ks pos fuel h.toks hfol hf
  exact ⟨_, e, rfl, rfl, hs.trans h.suf, hr⟩

theorem typeOmittedR {its : Iter} (h : Rd it (k :: ks) its) (pos : Pos) {fuel : Nat} (hf : 3 ≤ fuel)
    (h1 : [T.lcIdent, T.ucIdent].contains k.1 = false) (h2 : [T.lcIdentNS, T.ucIdentNS].contains k.1 = false)
    (h3 : (k.1 == T.lSquare) = false) :
    (parseType fuel its pos).Sat (Gives it (k :: ks) { start := false } fun _ => True) := by
  obtain ⟨hd, r, e, o⟩ := h.on
  exact ⟨_, parseType_omitted e pos fuel hf (o.ty ▸ h1) (o.ty ▸ h2) (o.ty ▸ h3), rfl, trivial, o.here⟩

theorem nameR (n : TName) (hwf : n.wf = true) {its : Iter} (pos : Pos) (h : Rd it (tnameToks n ++ ks) its) :
    (parseTypeName its pos).Sat (Gives it ks { start := true } (n = ·)) := by
  obtain ⟨k, hk, _⟩ := tnameToks_head n
  rw [hk] at h
  obtain ⟨hd, r, e, o⟩ := h.on
  rw [parseTypeName_skip e]
  exact ⟨_, parseTypeName_rt n hwf hd r pos o.nw (by rw [hk, o.tk]), rfl, rfl, o.next⟩

end

end TLVerif.Syntaxtl2
