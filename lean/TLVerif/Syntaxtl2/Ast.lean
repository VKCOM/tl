import TLVerif.Syntaxtl2.Basic
/-! TL2 AST of internal/tlast/tlparser_tl2.go, by the selected branches (IsFunction, IsTypeAlias, IsUnionType,
BracketType != nil, IsNumber, HasIndex), without position ranges. Comments are kept (the default formatter prints them). -/
namespace TLVerif.Syntaxtl2

structure TName where
  ns : Bytes
  name : Bytes
deriving DecidableEq, Repr, Inhabited

mutual
inductive TypeRef where
  | app (name : TName) (args : List TypeArg)
  | bracket (index : Option TypeArg) (elem : TypeRef)
inductive TypeArg where
  | num (n : Nat)
  | ty (t : TypeRef)
end

instance : Inhabited TypeRef := ⟨.app ⟨[], []⟩ []⟩
instance : Inhabited TypeArg := ⟨.ty default⟩

structure Field where
  name : Bytes
  optional : Bool
  ignored : Bool
  ty : TypeRef
  cb : Bytes      -- CommentBefore
  cr : Bytes      -- CommentRight
deriving Inhabited

inductive VBody where
  | alias (t : TypeRef)
  | fields (fs : List Field)
deriving Inhabited

structure Variant where
  name : Bytes
  body : VBody
  cb : Bytes
deriving Inhabited

inductive StructDef where
  | union (vs : List Variant)
  | fields (fs : List Field)
deriving Inhabited

inductive TypeDef where
  | alias (t : TypeRef)
  | struct (s : StructDef)
deriving Inhabited

structure Templ where
  name : Bytes
  isNat : Bool
deriving DecidableEq, Repr, Inhabited

structure TypeDecl where
  name : TName
  magic : Nat
  templs : List Templ
  ty : TypeDef
deriving Inhabited

structure FuncDecl where
  name : TName
  magic : Nat
  args : List Field
  ret : TypeDef
deriving Inhabited

inductive Decl where
  | type (d : TypeDecl)
  | func (d : FuncDecl)
deriving Inhabited

structure Comb where
  anns : List Bytes
  decl : Decl
  cb : Bytes
deriving Inhabited

abbrev File := List Comb

/-! The shape on which `TL2File.Print` is known not to round-trip (deprecated-name fields, known_findings.json),
and the one on which it did not until /repo 11a4a9c8 (one-variant unions). -/

/-- a deprecated-name field `_name:T` (`IsIgnored` with `Name != "_"`). -/
def Field.isDep (f : Field) : Bool := f.ignored && f.name != [95]

def fieldsHaveDep (fs : List Field) : Bool := fs.any Field.isDep

def TypeDef.hasDep : TypeDef → Bool
  | .alias _ => false
  | .struct (.fields fs) => fieldsHaveDep fs
  | .struct (.union vs) => vs.any (fun v => match v.body with | .alias _ => false | .fields fs => fieldsHaveDep fs)

def TypeDef.hasSingletonUnion : TypeDef → Bool
  | .struct (.union vs) => vs.length == 1
  | _ => false

def Comb.hasDep (c : Comb) : Bool :=
  match c.decl with
  | .type d => d.ty.hasDep
  | .func d => fieldsHaveDep d.args || d.ret.hasDep

def Comb.hasSingletonUnion (c : Comb) : Bool :=
  match c.decl with
  | .type d => d.ty.hasSingletonUnion
  | .func d => d.ret.hasSingletonUnion

end TLVerif.Syntaxtl2
