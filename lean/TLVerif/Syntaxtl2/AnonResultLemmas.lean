import TLVerif.Syntaxtl2.StructLemmas
/-! The function result given as a bare type reference (`=> T`), which `funcDeclR`/`File.wf` do not cover: on the tokens
of a type followed by `;` the struct-definition parser makes no progress and resets the iterator, whether the type
starts with a plain identifier (taken as a union constructor, and the union then fails) or not (nothing starts). -/
namespace TLVerif.Syntaxtl2
variable {N : Nat} {tx : Bytes} {it : Iter} {ks : List TK}

theorem constructorOnTypeNameR (hc : Ctx N tx it) {its : Iter} {k0 k1 : TK} (pos : Pos) {fuel : Nat} (hf : 3 ≤ fuel)
    (h : Rd it (k0 :: k1 :: ks) its) (hvs : variantStart.contains k0.1 = true) (hk1 : k1.1 ∈ [T.semiColon, T.lAngle]) :
    (parseUnionConstructor tx fuel its pos).Sat (fun p => p.1 = { start := true } ∧ Rd it (k1 :: ks) p.2.1) := by
  unfold parseUnionConstructor
  refine h.skip fun hd r _ o => ?_
  refine o.check hvs ?_
  refine o.skip ?_
  refine o.next.fr fun _ => ?_
  rcases List.mem_cons.mp hk1 with h1 | h1
  · refine o.next.check (show variantEnd.contains k1.1 = true by rw [h1]; rfl) fun _ _ _ => ?_
    refine o.next.fr fun _ => ?_
    exact Res.Sat.pure ⟨rfl, o.next⟩
  · have h1 : k1.1 = T.lAngle := by simpa using h1
    refine o.next.check (show variantEnd.contains k1.1 = false by rw [h1]; rfl) fun _ _ _ => ?_
    dsimp only
    rw [parseFields_omitted (by omega) (fieldStopR hc pos fuel o.next (h1 ▸ by decide))]
    refine (typeOmittedR o.next pos hf (h1 ▸ by decide) (h1 ▸ by decide) (h1 ▸ by decide)).bind ?_
    rintro ⟨_, r3, _⟩ ⟨rfl, _, h3⟩
    refine h3.check (show [T.colon, T.questionMark].contains k1.1 = false by rw [h1]; rfl) fun _ _ _ => ?_
    refine o.next.fr fun _ => ?_
    exact Res.Sat.pure ⟨rfl, o.next⟩

/-- the identifier is taken as a constructor without fields and no `|` follows it, so the union, having no leading `|`,
fails with one variant ("union with one constructor can't be without vertical bar"). -/
theorem unionOnTypeNameR (hc : Ctx N tx it) {its : Iter} {k0 k1 : TK} (pos : Pos) {fuel : Nat} (hf : 3 ≤ fuel)
    (h : Rd it (k0 :: k1 :: ks) its) (hvs : variantStart.contains k0.1 = true) (hnvb : k0.1 ≠ T.verticalBar)
    (hk1 : k1.1 ∈ [T.semiColon, T.lAngle]) :
    (parseUnionType tx fuel its pos).Sat (fun p => p.1.hasProgress = false ∧ p.1.isFailed = true ∧ p.2.2.length = 1) := by
  unfold parseUnionType
  refine h.skip fun hd r e o => ?_
  refine (parseCommentBefore_step hc h.suf e).bind fun cb _ => ?_
  dsimp only
  refine o.here.miss hnvb fun hd' r' o' => ?_
  refine (constructorOnTypeNameR hc pos hf o'.here hvs hk1).bind ?_
  rintro ⟨_, r2, v⟩ ⟨rfl, h2⟩
  refine Res.Sat.bind (P := fun q => q.1 = { start := true } ∧ q.2.2.2 = false ∧ q.2.2.1.length = 1 ∧ Rd it (k1 :: ks) q.2.1) ?_ ?_
  · obtain ⟨fz, rfl⟩ := Nat.exists_eq_add_one.mpr (Nat.zero_lt_of_lt hf)
    rw [parseVariantsLoop]
    dsimp only
    refine h2.skip fun _ _ _ _ => ?_
    refine h2.miss ((by decide : ∀ x ∈ [T.semiColon, T.lAngle], x ≠ T.verticalBar) _ hk1) fun hd3 r3 o3 => ?_
    exact Res.Sat.pure ⟨rfl, rfl, rfl, o3.here⟩
  rintro ⟨_, r4, vs, _⟩ ⟨rfl, rfl, hlen, h4⟩
  dsimp only at hlen h4 ⊢
  simp only [Bool.false_eq_true, ↓reduceIte, OState.isFailed, Option.isSome, Bool.and_false, hlen, Nat.lt_irrefl, BEq.rfl,
    Bool.not_false, Bool.and_self]
  refine h4.fr fun _ => ?_
  refine h4.fr fun _ => ?_
  exact Res.Sat.pure ⟨rfl, rfl, hlen⟩

theorem structDefNoProgressR (hc : Ctx N tx it) (t : TypeRef) {its : Iter} (pos : Pos) {fuel : Nat} (hf : 3 ≤ fuel)
    (h : Rd it (typeToks t ++ semiTK :: ks) its) :
    (parseStructDef tx fuel its pos).Sat (fun p => p.2.1 = its ∧ p.1.hasProgress = false) := by
  -- only the first two tokens of `t` matter
  obtain ⟨k0, ks0, hk0, hmem, htl⟩ := typeToks_head t
  have h0 : Rd it (k0 :: (ks0 ++ semiTK :: ks)) its := h.cast (by rw [hk0]; rfl)
  have hnvb : k0.1 ≠ T.verticalBar := (by decide : ∀ x ∈ _, x ≠ T.verticalBar) _ hmem
  unfold parseStructDef
  refine h0.fr fun _ => ?_
  dsimp only
  by_cases hvs : variantStart.contains k0.1 = true
  · -- the type starts with a plain identifier, followed by `<` or `;`
    obtain ⟨k1, ks1, hk1, hk1m⟩ : ∃ k1 ks1, ks0 ++ semiTK :: ks = k1 :: ks1 ∧ k1.1 ∈ [T.semiColon, T.lAngle] := by
      rcases htl.resolve_left (fun h => absurd (h ▸ hvs) (by decide)) with rfl | ⟨ks1, rfl⟩
      · exact ⟨semiTK, ks, rfl, by decide⟩
      · exact ⟨_, _, rfl, by decide⟩
    refine (unionOnTypeNameR hc pos hf (hk1 ▸ h0) hvs hnvb hk1m).bind ?_
    rintro ⟨st, r1, vs⟩ ⟨hnp, hfl, hlen⟩
    dsimp only at hnp hfl hlen ⊢
    rw [hnp, hfl, hlen]
    exact Res.Sat.pure ⟨rfl, hnp⟩
  · -- a namespaced name or `[`: neither a union constructor nor a field starts
    have hfs : fieldStart.contains k0.1 = false :=
      (by decide : ∀ x ∈ _, ¬ variantStart.contains x = true → fieldStart.contains x = false) _ hmem hvs
    refine (unionOmittedR hc pos fuel h0 hnvb (by simpa using hvs)).bind ?_
    rintro ⟨_, r1, vs⟩ rfl
    dsimp only
    rw [parseFields_omitted (by omega) (fieldStopR hc pos fuel h0 hfs)]
    refine h0.fr fun _ => ?_
    exact Res.Sat.pure ⟨rfl, rfl⟩

/-- `parseTL2StructTypeDefinition` makes no progress on the tokens of a bare type reference followed by `;` and resets the
iterator (so `parseTL2FuncDeclarationWithoutName` falls back to `parseTL2Type`). The last clause says nothing: it records
only that the state may or may not have failed. -/
theorem structDefNoProgressOnType (hc : Ctx N tx it) (t : TypeRef) (hwf : t.wf = true) (its : Iter) (hsuf0 : its <:+ it)
    (ks : List TK) (pos : Pos) (fuel : Nat) (hf : 3 ≤ fuel) (hm : strip its = typeToks t ++ semiTK :: ks) :
    ∃ st sd, parseStructDef tx fuel its pos = .ok (st, its, sd) ∧ st.hasProgress = false ∧
      (st.isFailed = false ∨ st.isFailed = true) := by
  have _ := hwf
  obtain ⟨⟨st, _, sd⟩, e, rfl, hnp⟩ := structDefNoProgressR hc t pos hf ⟨hsuf0, hm⟩
  exact ⟨st, sd, e, hnp, Bool.eq_false_or_eq_true _ |>.symm⟩

end TLVerif.Syntaxtl2
