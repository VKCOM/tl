import TLVerif.Prim.TL1String
/-!
Model of `pkg/basictl/basictl2.go`: `TL2ParseSize`, `TL2WriteSize`, `TL2PutSize`,
`TL2CalculateSize`, `StringWriteTL2`, `StringReadTL2`, `VectorBitContentWriteTL2/ReadTL2`.
Go `int` is 64-bit; lengths are `Nat` with the `int(uint64(l)) != l` panic unreachable for
non-negative 64-bit ints: the round-trip lemmas assume `l < 2^63`.
-/
namespace TLVerif.Prim
open TLVerif.Facts.Prim

def le16 (n : Nat) : Bytes := [byteOf n, byteOf (n >>> 8)]
def le64 (n : Nat) : Bytes :=
  [byteOf n, byteOf (n >>> 8), byteOf (n >>> 16), byteOf (n >>> 24),
   byteOf (n >>> 32), byteOf (n >>> 40), byteOf (n >>> 48), byteOf (n >>> 56)]

/-- `TL2WriteSize` (appended to an empty buffer) -/
def tl2WriteSize (l : Nat) : Bytes :=
  if l < mediumStringMarker then [byteOf l]
  else if l < mediumStringMarker + (1 <<< 16) then byteOf mediumStringMarker :: le16 (l - mediumStringMarker)
  else byteOf hugeStringMarker :: le64 l

/-- `TL2CalculateSize` -/
def tl2CalculateSize (l : Nat) : Nat :=
  if l < mediumStringMarker then 1
  else if l < mediumStringMarker + (1 <<< 16) then 3
  else 9

/-- `TL2PutSize`: bytes stored at the front of the buffer, and the count returned -/
def tl2PutSize (l : Nat) : Bytes × Nat :=
  if l < mediumStringMarker then ([byteOf l], 1)
  else if l < mediumStringMarker + (1 <<< 16) then
    (byteOf mediumStringMarker :: le16 (l - mediumStringMarker), 3)
  else (byteOf hugeStringMarker :: le64 l, 9)

/-- `TL2ParseSize` -/
def tl2ParseSize (r : Bytes) : Except RErr (Nat × Bytes) :=
  match r with
  | [] => .error .eof
  | b0 :: r1 =>
    if b0.toNat < mediumStringMarker then .ok (b0.toNat, r1)
    else if b0.toNat = mediumStringMarker then
      match r1 with
      | x1 :: x2 :: r3 => .ok (mediumStringMarker + (x1.toNat + (x2.toNat <<< 8)), r3)
      | _ => .error .eof
    else
      match r1 with
      | x1 :: x2 :: x3 :: x4 :: x5 :: x6 :: x7 :: x8 :: r9 =>
        let l := x1.toNat + (x2.toNat <<< 8) + (x3.toNat <<< 16) + (x4.toNat <<< 24)
                 + (x5.toNat <<< 32) + (x6.toNat <<< 40) + (x7.toNat <<< 48) + (x8.toNat <<< 56)
        if l > 9223372036854775807 then .error .tooLong else .ok (l, r9)
      | _ => .error .eof

/-- `StringWriteTL2` -/
def stringWriteTL2 (s : Bytes) : Bytes := tl2WriteSize s.length ++ s

/-- `StringReadTL2` -/
def stringReadTL2 (r : Bytes) : Except RErr (Bytes × Bytes) :=
  match tl2ParseSize r with
  | .error e => .error e
  | .ok (l, r) => if r.length < l then .error .eof else .ok (r.take l, r.drop l)

/-- one packed block: bit `j` set iff `bs[j]` (at most 8 entries) -/
def packBlock : List Bool → Nat
  | [] => 0
  | b :: t => (if b then 1 else 0) + 2 * packBlock t

/-- `VectorBitContentWriteTL2` -/
def bitsWrite (v : List Bool) : Bytes :=
  if h : v.length ≤ 8 then
    (if v.isEmpty then [] else [byteOf (packBlock v)])
  else byteOf (packBlock (v.take 8)) :: bitsWrite (v.drop 8)
termination_by v.length
decreasing_by simp; omega

def unpackBlock (b : UInt8) (n : Nat) : List Bool :=
  (List.range n).map (fun j => (b.toNat >>> j) % 2 == 1)

/-- `VectorBitContentReadTL2` for a vector of `n` entries -/
def bitsRead (n : Nat) (r : Bytes) : Except RErr (List Bool × Bytes) :=
  if n = 0 then .ok ([], r)
  else match r with
    | [] => .error .eof
    | b :: r' =>
      if h : n ≤ 8 then .ok (unpackBlock b n, r')
      else match bitsRead (n - 8) r' with
        | .error e => .error e
        | .ok (v, r'') => .ok (unpackBlock b 8 ++ v, r'')
termination_by n
decreasing_by omega

end TLVerif.Prim
