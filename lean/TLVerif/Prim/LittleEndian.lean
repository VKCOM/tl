import TLVerif.Prim.TL1String
/-!
Little-endian numbers as byte strings.  Every length header of `pkg/basictl` (TL1 string lengths,
TL2 sizes) and the 32-bit counts of the generated readers store a number as its low-order bytes,
least significant first; the readers spell the value out as a sum of shifted bytes and the writers
as a list of shifted-and-truncated copies of the number.  `LE.toNat` and `LE.ofNat` are those two
shapes for any width, and are inverse to each other.
-/
namespace TLVerif.Prim

@[simp] theorem byteOf_toNat (n : Nat) : (byteOf n).toNat = n % 256 := by
  simp [byteOf]

theorem byteOf_eq_of_mod {n : Nat} {x : UInt8} (h : n % 256 = x.toNat) : byteOf n = x := by
  apply UInt8.toNat_inj.mp
  simp [h]

namespace LE

def toNat : Bytes → Nat
  | [] => 0
  | b :: t => b.toNat + 256 * toNat t

/-- the `k` low-order bytes of `n` -/
def ofNat : Nat → Nat → Bytes
  | 0, _ => []
  | k + 1, n => byteOf n :: ofNat k (n >>> 8)

theorem ofNat_succ_div (k n : Nat) : ofNat (k + 1) n = byteOf n :: ofNat k (n / 256) := by
  rw [ofNat, Nat.shiftRight_eq_div_pow]

@[simp] theorem length_ofNat (k n : Nat) : (ofNat k n).length = k := by
  induction k generalizing n with
  | zero => rfl
  | succ k ih => simp [ofNat, ih]

theorem toNat_lt {bs : Bytes} {k : Nat} (h : bs.length = k) : toNat bs < 256 ^ k := by
  subst h
  induction bs with
  | nil => simp [toNat]
  | cons b t ih =>
    have := b.toNat_lt
    simp only [toNat, List.length_cons, Nat.pow_succ]
    omega

theorem toNat_ofNat (k n : Nat) : toNat (ofNat k n) = n % 256 ^ k := by
  induction k generalizing n with
  | zero => simp [ofNat, toNat, Nat.mod_one]
  | succ k ih =>
    rw [ofNat_succ_div, toNat, ih, byteOf_toNat, Nat.pow_succ, Nat.mul_comm (256 ^ k), Nat.mod_mul]

theorem toNat_ofNat_of_lt {k n : Nat} (h : n < 256 ^ k) : toNat (ofNat k n) = n := by
  rw [toNat_ofNat, Nat.mod_eq_of_lt h]

theorem ofNat_toNat {bs : Bytes} {k : Nat} (h : bs.length = k) : ofNat k (toNat bs) = bs := by
  subst h
  induction bs with
  | nil => rfl
  | cons b t ih =>
    have hb := b.toNat_lt
    rw [List.length_cons, toNat, ofNat_succ_div, Nat.add_mul_div_left _ _ (by decide),
      Nat.div_eq_of_lt hb, Nat.zero_add, ih, byteOf_eq_of_mod]
    rw [Nat.add_mul_mod_self_left, Nat.mod_eq_of_lt hb]

/-! The 4- and 8-byte word in the spellings the models use (shifts, divisions, products) as instances of `LE.toNat` / `LE.ofNat`,
and `Reads`, the form in which the codec families state "the reader inverts the writer". -/

theorem ofNat4_shift (n : Nat) : [byteOf n, byteOf (n >>> 8), byteOf (n >>> 16), byteOf (n >>> 24)] = ofNat 4 n := by
  simp only [ofNat, ← Nat.shiftRight_add, Nat.reduceAdd]

theorem ofNat8_shift (n : Nat) :
    [byteOf n, byteOf (n >>> 8), byteOf (n >>> 16), byteOf (n >>> 24),
     byteOf (n >>> 32), byteOf (n >>> 40), byteOf (n >>> 48), byteOf (n >>> 56)] = ofNat 8 n := by
  simp only [ofNat, ← Nat.shiftRight_add, Nat.reduceAdd]

theorem ofNat4_div (n : Nat) : [byteOf n, byteOf (n / 256), byteOf (n / 65536), byteOf (n / 16777216)] = ofNat 4 n := by
  simp only [ofNat, Nat.shiftRight_eq_div_pow, Nat.div_div_eq_div_mul, Nat.reducePow, Nat.reduceMul]

theorem toNat4_shift (a b c d : UInt8) :
    a.toNat + (b.toNat <<< 8) + (c.toNat <<< 16) + (d.toNat <<< 24) = toNat [a, b, c, d] := by
  simp +arith only [toNat, Nat.shiftLeft_eq]

theorem toNat8_shift (a b c d e f g h : UInt8) :
    a.toNat + (b.toNat <<< 8) + (c.toNat <<< 16) + (d.toNat <<< 24)
      + (e.toNat <<< 32) + (f.toNat <<< 40) + (g.toNat <<< 48) + (h.toNat <<< 56) = toNat [a, b, c, d, e, f, g, h] := by
  simp +arith only [toNat, Nat.shiftLeft_eq]

theorem toNat4_mul (a b c d : UInt8) :
    a.toNat + 256 * b.toNat + 65536 * c.toNat + 16777216 * d.toNat = toNat [a, b, c, d] := by
  simp +arith only [toNat]

end LE

abbrev Reads {ε α : Type} (rd : Bytes → Except ε (α × Bytes)) (w : Bytes) (x : α) : Prop :=
  ∀ rest, rd (w ++ rest) = .ok (x, rest)

/-- One step through a reader written in `do` notation. -/
theorem Reads.bind {ε α γ : Type} {rd : Bytes → Except ε (α × Bytes)} {w : Bytes} {x : α} (h : Reads rd w x)
    {k : α × Bytes → Except ε γ} {r : Bytes} {y : Except ε γ} (hk : k (x, r) = y) :
    (rd (w ++ r) >>= k) = y := by
  rw [h r]; exact hk

end TLVerif.Prim
