import TLVerif.Prim.TL2Size
import TLVerif.Prim.TL1StringLemmas
/-! The TL2 size header form by form (one byte; `254` and 2 bytes; `255` and 8 bytes): writer and reader are each put in
terms of `LE.ofNat`/`LE.toNat`, whose round trip then gives the header's. Bit vectors go by blocks of 8. -/
namespace TLVerif.Prim
open TLVerif.Facts.Prim

theorem le64_eq (n : Nat) : le64 n = LE.ofNat 8 n := LE.ofNat8_shift n

theorem tl2WriteSize_tiny {l : Nat} (h : l < 254) : tl2WriteSize l = [byteOf l] :=
  if_pos h

theorem tl2WriteSize_medium {l : Nat} (h1 : 254 ≤ l) (h2 : l < 254 + 65536) :
    tl2WriteSize l = 254 :: LE.ofNat 2 (l - 254) := by
  have c1 : ¬ l < mediumStringMarker := Nat.not_lt.mpr h1
  have c2 : l < mediumStringMarker + (1 <<< 16) := h2
  rw [tl2WriteSize, if_neg c1, if_pos c2]; rfl

theorem tl2WriteSize_huge {l : Nat} (h : 254 + 65536 ≤ l) : tl2WriteSize l = 255 :: LE.ofNat 8 l := by
  have c1 : ¬ l < mediumStringMarker := by rw [mediumMarker_eq]; omega
  have c2 : ¬ l < mediumStringMarker + (1 <<< 16) := Nat.not_lt.mpr h
  rw [tl2WriteSize, if_neg c1, if_neg c2, le64_eq]; rfl

theorem tl2ParseSize_tiny {b : UInt8} (h : b.toNat < 254) (r : Bytes) :
    tl2ParseSize (b :: r) = .ok (b.toNat, r) :=
  if_pos h

theorem tl2ParseSize_medium {bs : Bytes} (h : bs.length = 2) (r : Bytes) :
    tl2ParseSize (254 :: (bs ++ r)) = .ok (254 + LE.toNat bs, r) :=
  match bs, h with
  | [x1, x2], _ => by
    have e : x1.toNat + (x2.toNat <<< 8) = LE.toNat [x1, x2] := by
      simp only [LE.toNat, Nat.shiftLeft_eq]; omega
    rw [← e]; rfl

theorem tl2ParseSize_huge {bs : Bytes} (h : bs.length = 8) (r : Bytes) :
    tl2ParseSize (255 :: (bs ++ r)) =
      if LE.toNat bs > 9223372036854775807 then .error .tooLong else .ok (LE.toNat bs, r) :=
  match bs, h with
  | [x1, x2, x3, x4, x5, x6, x7, x8], _ => by
    simp only [tl2ParseSize, List.cons_append, List.nil_append]
    rw [if_neg (by decide), if_neg (by decide), LE.toNat8_shift]

theorem tl2ParseSize_medium_short {bs : Bytes} (h : bs.length < 2) :
    tl2ParseSize (254 :: bs) = .error .eof :=
  match bs, h with
  | [], _ | [_], _ => rfl

theorem tl2ParseSize_huge_short {bs : Bytes} (h : bs.length < 8) :
    tl2ParseSize (255 :: bs) = .error .eof := by
  unfold tl2ParseSize
  dsimp only
  rw [if_neg (by decide), if_neg (by decide)]
  split
  · simp only [List.length_cons] at h; omega
  · rfl

theorem tl2_huge_form_accepted (l : Nat) (rest : Bytes) (h : l < 2^63) :
    tl2ParseSize (byteOf hugeStringMarker :: le64 l ++ rest) = .ok (l, rest) := by
  rw [le64_eq]
  show tl2ParseSize (255 :: (LE.ofNat 8 l ++ rest)) = _
  rw [tl2ParseSize_huge (LE.length_ofNat 8 l), LE.toNat_ofNat_of_lt (by omega), if_neg (by omega)]

theorem tl2_size_roundtrip (l : Nat) (rest : Bytes) (h : l < 2^63) :
    tl2ParseSize (tl2WriteSize l ++ rest) = .ok (l, rest) := by
  by_cases h1 : l < 254
  · have hb : (byteOf l).toNat = l := by rw [byteOf_toNat]; omega
    rw [tl2WriteSize_tiny h1, List.singleton_append, tl2ParseSize_tiny (by omega), hb]
  by_cases h2 : l < 254 + 65536
  · rw [tl2WriteSize_medium (by omega) h2, List.cons_append, tl2ParseSize_medium (LE.length_ofNat 2 _),
      LE.toNat_ofNat_of_lt (by omega), Nat.add_sub_cancel' (by omega)]
  · rw [tl2WriteSize_huge (by omega), ← le64_eq]
    exact tl2_huge_form_accepted l rest h

theorem tl2PutSize_eq (l : Nat) : tl2PutSize l = (tl2WriteSize l, tl2CalculateSize l) := by
  unfold tl2PutSize tl2WriteSize tl2CalculateSize; split <;> (try split) <;> rfl

theorem tl2_calc_eq_len (l : Nat) : tl2CalculateSize l = (tl2WriteSize l).length := by
  unfold tl2CalculateSize tl2WriteSize; split <;> (try split) <;> rfl

theorem tl2_size_truncation_eof (l n : Nat) (hn : n < (tl2WriteSize l).length) :
    tl2ParseSize ((tl2WriteSize l).take n) = .error .eof := by
  cases n with
  | zero => rfl
  | succ n =>
    by_cases h1 : l < 254
    · rw [tl2WriteSize_tiny h1] at hn
      exact absurd hn (by simp)
    by_cases h2 : l < 254 + 65536
    · rw [tl2WriteSize_medium (by omega) h2] at hn ⊢
      exact tl2ParseSize_medium_short (by
        rw [List.length_cons, LE.length_ofNat] at hn; rw [List.length_take, LE.length_ofNat]; omega)
    · rw [tl2WriteSize_huge (by omega)] at hn ⊢
      exact tl2ParseSize_huge_short (by
        rw [List.length_cons, LE.length_ofNat] at hn; rw [List.length_take, LE.length_ofNat]; omega)

theorem string_tl2_roundtrip (s rest : Bytes) (h : s.length < 2^63) :
    stringReadTL2 (stringWriteTL2 s ++ rest) = .ok (s, rest) := by
  unfold stringReadTL2 stringWriteTL2
  rw [List.append_assoc, tl2_size_roundtrip _ _ h]
  simp only [List.length_append, List.take_left', List.drop_left', if_neg (Nat.not_lt.mpr (Nat.le_add_right _ _))]

theorem packBlock_spec (v : List Bool) :
    packBlock v < 2 ^ v.length ∧ ∀ j (hj : j < v.length), ((packBlock v >>> j) % 2 == 1) = v[j] := by
  induction v with
  | nil => exact ⟨by simp [packBlock], fun j hj => absurd hj (Nat.not_lt_zero j)⟩
  | cons b t ih =>
    have hdiv : ((if b = true then 1 else 0) + 2 * packBlock t) / 2 = packBlock t := by
      cases b <;> simp <;> omega
    refine ⟨?_, fun j hj => ?_⟩
    · simp only [packBlock, List.length_cons, Nat.pow_succ]
      split <;> omega
    · cases j with
      | zero =>
        simp only [packBlock, Nat.shiftRight_zero, List.getElem_cons_zero]
        cases b <;> simp <;> omega
      | succ j =>
        simp only [packBlock, Nat.shiftRight_succ_inside, List.getElem_cons_succ, hdiv]
        exact ih.2 j (Nat.lt_of_succ_lt_succ hj)

theorem unpack_pack (v : List Bool) (h : v.length ≤ 8) :
    unpackBlock (byteOf (packBlock v)) v.length = v := by
  unfold unpackBlock
  have hlt := (packBlock_spec v).1
  have : 2 ^ v.length ≤ 256 := by
    calc 2 ^ v.length ≤ 2 ^ 8 := Nat.pow_le_pow_right (by omega) h
      _ = 256 := rfl
  have e : (byteOf (packBlock v)).toNat = packBlock v := by
    simp; omega
  rw [e]
  apply List.ext_getElem
  · simp
  · intro i h1 h2
    simp only [List.getElem_map, List.getElem_range]
    exact (packBlock_spec v).2 i h2

theorem bits_roundtrip (v : List Bool) (rest : Bytes) :
    bitsRead v.length (bitsWrite v ++ rest) = .ok (v, rest) := by
  fun_induction bitsWrite v with
  | case1 v h he => rw [List.isEmpty_iff.mp he, bitsRead.eq_def]; rfl
  | case2 v h he =>
    have h0 : v.length ≠ 0 := fun e => he (List.isEmpty_iff.mpr (List.length_eq_zero_iff.mp e))
    rw [bitsRead.eq_def, if_neg h0]
    simp only [List.cons_append, List.nil_append, h, dite_true, unpack_pack v h]
  | case3 v h ih =>
    have ht : (v.take 8).length = 8 := by rw [List.length_take]; omega
    have hu := unpack_pack (v.take 8) (by omega)
    rw [ht] at hu
    rw [List.length_drop] at ih
    rw [bitsRead.eq_def, if_neg (by omega)]
    simp only [List.cons_append, h, dite_false, ih, hu, List.take_append_drop]

theorem bits_write_length (v : List Bool) : (bitsWrite v).length = (v.length + 7) / 8 := by
  fun_induction bitsWrite v with
  | case1 v h he => rw [List.isEmpty_iff.mp he]; rfl
  | case2 v h he =>
    have : v.length ≠ 0 := fun e => he (List.isEmpty_iff.mpr (List.length_eq_zero_iff.mp e))
    rw [List.length_singleton]
    omega
  | case3 v h ih =>
    rw [List.length_cons, ih, List.length_drop]
    omega

end TLVerif.Prim
