import TLVerif.Acks.Heap
import TLVerif.Acks.AcksLemmas
/-! Refinement: the pointer-level `hAddAckRange` implements the list-level `addAckRange` (all inputs, no guard).
`Refines` is the simulation relation; every loop of `Heap.lean` is shown to establish it, the insertion loop from an
invariant stated with list segments (`IsSeg`). -/
namespace TLVerif.Acks

/-- `p` points to a chain of nodes at indices `idxs` holding exactly the ranges `l`, ending in `nil`. -/
def IsList (nodes : Array Node) : Option Nat → List Nat → List Range → Prop
  | p, [], [] => p = none
  | p, i :: is, r :: rs => p = some i ∧ ∃ nx, nodes[i]? = some ⟨r.ackFrom, r.ackTo, nx⟩ ∧ IsList nodes nx is rs
  | _, [], _ :: _ => False
  | _, _ :: _, [] => False

/-- The heap holds the list `l`: an acyclic chain of distinct, allocated nodes from `first`. -/
def HeapInv (h : Heap) (l : List Range) : Prop :=
  ∃ idxs, IsList h.nodes h.first idxs l ∧ idxs.Nodup ∧ (∀ i ∈ idxs, i < h.nodes.size) ∧ idxs.length ≤ h.nodes.size

section
variable {nodes nodes' : Array Node} {p q : Option Nat} {is : List Nat} {l : List Range}

/-- A list segment: the chain from `p` over the nodes `idxs` holds `l`, and its last `next` (`p` itself when it is empty)
is `q`.  `IsList` is the case `q = none`. -/
inductive IsSeg (nodes : Array Node) (q : Option Nat) : Option Nat → List Nat → List Range → Prop
  | nil : IsSeg nodes q q [] []
  | cons {i : Nat} {r : Range} {nx : Option Nat} {is : List Nat} {rs : List Range} :
    nodes[i]? = some ⟨r.ackFrom, r.ackTo, nx⟩ → IsSeg nodes q nx is rs → IsSeg nodes q (some i) (i :: is) (r :: rs)

theorem IsList_of_IsSeg (h : IsSeg nodes none p is l) : IsList nodes p is l := by
  induction h with
  | nil => exact rfl
  | cons hn _ ih => exact ⟨rfl, _, hn, ih⟩

theorem lt_size_of_get {i : Nat} {n : Node} (hn : nodes[i]? = some n) : i < nodes.size :=
  (Array.getElem?_eq_some_iff.mp hn).1

theorem IsSeg_lt (h : IsSeg nodes q p is l) : ∀ i ∈ is, i < nodes.size := by
  induction h with
  | nil => exact fun _ hi => nomatch hi
  | cons hn _ ih => exact List.forall_mem_cons.mpr ⟨lt_size_of_get hn, ih⟩

theorem IsSeg_frame (hf : ∀ i ∈ is, nodes'[i]? = nodes[i]?) (h : IsSeg nodes q p is l) : IsSeg nodes' q p is l := by
  induction h with
  | nil => exact .nil
  | cons hn _ ih =>
    obtain ⟨hi, hf⟩ := List.forall_mem_cons.mp hf
    exact .cons (hi.trans hn) (ih hf)

/-- Allocation (`&ackRange{…}`) leaves every segment as it is. -/
theorem IsSeg_push (x : Node) (h : IsSeg nodes q p is l) : IsSeg (nodes.push x) q p is l :=
  IsSeg_frame (fun i hi => by rw [Array.getElem?_push, if_neg (Nat.ne_of_lt (IsSeg_lt h i hi))]) h

theorem IsSeg_set {j : Nat} (x : Node) (hj : j ∉ is) (h : IsSeg nodes q p is l) :
    IsSeg (nodes.setIfInBounds j x) q p is l :=
  IsSeg_frame (fun i hi => Array.getElem?_setIfInBounds_ne (fun (he : j = i) => hj (he ▸ hi))) h

theorem IsSeg_append {r : Option Nat} {is₂ : List Nat} {l₂ : List Range} (h : IsSeg nodes q p is l)
    (h₂ : IsSeg nodes r q is₂ l₂) : IsSeg nodes r p (is ++ is₂) (l ++ l₂) := by
  induction h with
  | nil => exact h₂
  | cons hn _ ih => exact .cons hn ih

theorem IsSeg_length (h : IsSeg nodes q p is l) : is.length = l.length := by
  induction h with
  | nil => rfl
  | cons _ _ ih => rw [List.length_cons, List.length_cons, ih]

/-- Distinct nodes below `size` are at most `size` many: a loop that visits each node of an acyclic chain once
has enough fuel. -/
theorem IsSeg_length_le (h : IsSeg nodes q p is l) (nd : is.Nodup) : l.length ≤ nodes.size := by
  rw [← IsSeg_length h]
  simpa only [List.length_range] using
    nd.length_le_of_subset (fun i hi => List.mem_range.mpr (IsSeg_lt h i hi))

theorem toRanges_of_IsSeg {fuel : Nat} (h : IsSeg nodes none p is l) (hf : l.length ≤ fuel) :
    toRanges nodes (fuel + 1) p = l := by
  induction h generalizing fuel with
  | nil => rfl
  | cons hn _ ih =>
    obtain _ | fuel := fuel
    · exact nomatch hf
    simp only [toRanges, hn]
    rw [ih (Nat.le_of_succ_le_succ hf)]

end

theorem hNoIntersectNext_eq {h : Heap} {nx : Option Nat} {is : List Nat} {rest : List Range} (ackTo : Nat)
    (hl : IsSeg h.nodes none nx is rest) : hNoIntersectNext h ackTo nx = noIntersectNext ackTo rest := by
  cases hl with
  | nil => rfl
  | cons hn _ => simp only [hNoIntersectNext, hn, noIntersectNext]

theorem setLink_none (h : Heap) (x : Option Nat) : h.setLink none x = { h with first := x } := rfl
theorem setLink_some_some (h : Heap) (pi : Nat) (x : Option Nat) (n : Node) (hn : h.nodes[pi]? = some n) :
    h.setLink (some pi) x = { h with nodes := h.nodes.setIfInBounds pi { n with next := x } } := by
  simp only [Heap.setLink, hn]
theorem setLink_some_none (h : Heap) (pi : Nat) (x : Option Nat) (hn : h.nodes[pi]? = none) :
    h.setLink (some pi) x = h := by
  simp only [Heap.setLink, hn]

theorem setLink_size (h : Heap) (prev x : Option Nat) : (h.setLink prev x).nodes.size = h.nodes.size := by
  unfold Heap.setLink
  split
  · rfl
  · split
    · exact Array.size_setIfInBounds
    · rfl

theorem setLink_pfx (h : Heap) (prev x : Option Nat) : (h.setLink prev x).ackPrefix = h.ackPrefix := by
  unfold Heap.setLink
  split
  · rfl
  · split <;> rfl

theorem setLink_first (h : Heap) (pi : Nat) (x : Option Nat) : (h.setLink (some pi) x).first = h.first := by
  simp only [Heap.setLink]
  split <;> rfl

theorem setLink_get_ne (h : Heap) (prev x : Option Nat) (j : Nat) (hj : prev ≠ some j) :
    (h.setLink prev x).nodes[j]? = h.nodes[j]? := by
  unfold Heap.setLink
  split
  · rfl
  · split
    · exact Array.getElem?_setIfInBounds_ne (fun he => hj (congrArg some he))
    · rfl

theorem setLink_get_self (h : Heap) (pi : Nat) (x : Option Nat) (n : Node) (hn : h.nodes[pi]? = some n) :
    (h.setLink (some pi) x).nodes[pi]? = some { n with next := x } := by
  rw [setLink_some_some h pi x n hn]
  exact Array.getElem?_setIfInBounds_self_of_lt (lt_size_of_get hn)

theorem link_setLink (h : Heap) (prev x : Option Nat) (hv : ∀ pi, prev = some pi → pi < h.nodes.size) :
    (h.setLink prev x).link prev = x := by
  cases prev with
  | none => rfl
  | some pi =>
    unfold Heap.link
    simp only [setLink_get_self h pi x _ (Array.getElem?_eq_getElem (hv pi rfl))]

section
variable {h : Heap} {p q r : Option Nat} {is pre idxs : List Nat} {l lp : List Range}

theorem IsSeg_setLink_some {pi : Nat} (x : Option Nat)
    (hs : IsSeg h.nodes q p is l) (nd : is.Nodup) (hl : is.getLast? = some pi) :
    IsSeg (h.setLink (some pi) x).nodes x p is l := by
  induction hs with
  | nil => cases hl
  | @cons i _ _ _ _ hi hr ih =>
    cases hr with
    | nil => cases hl; exact .cons (setLink_get_self h i x _ hi) .nil
    | cons =>
      obtain ⟨hnot, nd'⟩ := List.nodup_cons.mp nd
      have hne : some pi ≠ some i := fun he => hnot (Option.some.inj he ▸ List.mem_of_getLast? hl)
      exact .cons ((setLink_get_ne h _ x i hne).trans hi) (ih nd' hl)

theorem setLink_getLast_get (h : Heap) (x : Option Nat) {j : Nat} (hj : j ∉ is) :
    (h.setLink is.getLast? x).nodes[j]? = h.nodes[j]? :=
  setLink_get_ne h _ x j (fun he => hj (List.mem_of_getLast? he))

/-- `if prevRange == nil { a.firstRange = x } else { prevRange.next = x }` where `prevRange` is the last node of the
segment passed since `firstRange` (`nil` when nothing was passed): that segment now leads to `x`, and a segment over
other nodes is untouched. -/
theorem IsSeg_relink (x : Option Nat) (hs : IsSeg h.nodes p h.first pre lp) (hl : IsSeg h.nodes r q idxs l)
    (nd : (pre ++ idxs).Nodup) :
    IsSeg (h.setLink pre.getLast? x).nodes x (h.setLink pre.getLast? x).first pre lp ∧
      IsSeg (h.setLink pre.getLast? x).nodes r q idxs l := by
  obtain ⟨ndp, -, hdisj⟩ := List.nodup_append.mp nd
  refine ⟨?_, IsSeg_frame (fun i hi => setLink_getLast_get h x (fun hm => hdisj i hm i hi rfl)) hl⟩
  cases hlast : pre.getLast? with
  | none =>
    cases List.getLast?_eq_none_iff.mp hlast
    generalize h.first = fst at hs
    cases hs
    exact .nil
  | some pi => exact (setLink_first h pi x).symm ▸ IsSeg_setLink_some x hs ndp hlast

/-- The simulation relation: the heap `h` represents the list-level state `a`, as an acyclic chain of distinct nodes
from `firstRange` to `nil`. -/
def Refines (h : Heap) (a : AcksToSend) : Prop :=
  h.ackPrefix = a.ackPrefix ∧ ∃ idxs, IsSeg h.nodes none h.first idxs a.ranges ∧ idxs.Nodup

theorem refines_empty (p : Nat) : Refines (Heap.empty p) ⟨p, []⟩ := ⟨rfl, [], .nil, List.nodup_nil⟩

theorem Refines.abs_eq {a : AcksToSend} (hr : Refines h a) : h.abs = a := by
  obtain ⟨hp, idxs, hl, nd⟩ := hr
  unfold Heap.abs
  rw [toRanges_of_IsSeg hl (IsSeg_length_le hl nd), hp]

theorem Refines.heapInv {a : AcksToSend} (hr : Refines h a) : HeapInv h a.ranges := by
  obtain ⟨-, idxs, hl, nd⟩ := hr
  exact ⟨idxs, IsList_of_IsSeg hl, nd, IsSeg_lt hl, IsSeg_length hl ▸ IsSeg_length_le hl nd⟩

/-- `newRange := &ackRange{ackFrom, ackTo, next: tmpRange}` linked after `prevRange`, the last node of the segment `pre`. -/
theorem hLoop_new (f t : Nat)
    (hs : IsSeg h.nodes p h.first pre lp) (hl : IsSeg h.nodes none p idxs l) (nd : (pre ++ idxs).Nodup) :
    Refines (({ h with nodes := h.nodes.push ⟨f, t, p⟩ } : Heap).setLink pre.getLast? (some h.nodes.size))
      ⟨h.ackPrefix, lp ++ ⟨f, t⟩ :: l⟩ := by
  have hnew : h.nodes.size ∉ pre ++ idxs := fun hm =>
    Nat.lt_irrefl _ ((List.mem_append.mp hm).elim (IsSeg_lt hs _) (IsSeg_lt hl _))
  obtain ⟨s1, s2⟩ := IsSeg_relink (h := { h with nodes := h.nodes.push ⟨f, t, p⟩ }) (some h.nodes.size)
    (IsSeg_push _ hs) (IsSeg_push _ hl) nd
  exact ⟨setLink_pfx _ _ _, _, IsSeg_append s1 (.cons (r := ⟨f, t⟩)
      ((setLink_getLast_get _ _ (fun hm => hnew (List.mem_append_left _ hm))).trans Array.getElem?_push_size) s2),
    (List.nodup_cons.mpr ⟨hnew, nd⟩).perm List.perm_middle.symm⟩

/-- The loop invariant: the nodes passed so far form a segment from `firstRange` to `tmpRange` holding `lp`, with `prevRange`
its last node (`nil` when it is empty); the chain from `tmpRange` holds `l`.  What was passed stays, the rest becomes
`insertLoop ackFrom ackTo l`. -/
theorem hLoop_spec (ackTo fuel ackFrom : Nat) (hs : IsSeg h.nodes p h.first pre lp) (hl : IsSeg h.nodes none p idxs l)
    (nd : (pre ++ idxs).Nodup) (hf : l.length ≤ fuel) :
    Refines (hLoop ackTo (fuel + 1) h pre.getLast? p ackFrom) ⟨h.ackPrefix, lp ++ insertLoop ackFrom ackTo l⟩ := by
  induction l generalizing h p pre idxs lp fuel ackFrom with
  | nil =>
    cases hl
    exact hLoop_new ackFrom ackTo hs .nil nd
  | cons tmp rest ih =>
    obtain _ | fuel := fuel
    · exact nomatch hf
    obtain _ | @⟨ti, _, nx, is, _, hn, hr⟩ := id hl  -- `id`: `hl` itself is used below
    have hf' : rest.length ≤ fuel := Nat.le_of_succ_le_succ hf
    rw [hLoop]
    simp only [hn, insertLoop]
    by_cases c1 : inc32 ackTo < tmp.ackFrom
    · rw [if_pos c1, if_pos c1]
      exact hLoop_new ackFrom ackTo hs hl nd
    rw [if_neg c1, if_neg c1]
    by_cases c2 : inc32 tmp.ackTo < ackFrom
    · rw [if_pos c2, if_pos c2]
      -- advance: prevRange = tmpRange; tmpRange = tmpRange.next
      have P := ih fuel ackFrom (IsSeg_append hs (.cons hn .nil)) hr (List.append_cons pre ti is ▸ nd) hf'
      rwa [List.getLast?_concat, ← List.append_cons] at P
    rw [if_neg c2, if_neg c2, hNoIntersectNext_eq ackTo hr]
    obtain ⟨hti, nd'⟩ := List.nodup_cons.mp (nd.perm List.perm_middle)
    by_cases c3 : noIntersectNext ackTo rest = true
    · rw [if_pos c3, if_pos c3]
      -- in place: tmpRange.ackFrom = min(…); tmpRange.ackTo = max(…)
      exact ⟨rfl, _, IsSeg_append (IsSeg_set _ (fun hm => hti (List.mem_append_left _ hm)) hs)
        (.cons (r := ⟨_, _⟩) (Array.getElem?_setIfInBounds_self_of_lt (lt_size_of_get hn))
          (IsSeg_set _ (fun hm => hti (List.mem_append_right _ hm)) hr)), nd⟩
    · rw [if_neg c3, if_neg c3]
      -- unlink tmpRange and continue with the widened ackFrom
      obtain ⟨s1, s2⟩ := IsSeg_relink nx hs hr nd'
      have P := ih fuel (min tmp.ackFrom ackFrom) s1 s2 nd' hf'
      rwa [setLink_pfx] at P

/-- The prefix loop only moves `firstRange` along the chain and raises `ackPrefix`; the nodes stay. -/
theorem hAbsorb_spec {nodes : Array Node} {first : Option Nat} (pfx fuel : Nat)
    (hl : IsSeg nodes none first idxs l) (nd : idxs.Nodup) (hf : l.length ≤ fuel) :
    Refines (hAbsorb (fuel + 1) ⟨nodes, first, pfx⟩) ⟨(absorb pfx l).1, (absorb pfx l).2⟩ := by
  induction hl generalizing pfx fuel with
  | nil => exact ⟨rfl, [], .nil, nd⟩
  | @cons i r nx is rs hn hr ih =>
    obtain _ | fuel := fuel
    · exact nomatch hf
    rw [hAbsorb]
    simp only [hn, absorb]
    by_cases c : r.ackFrom ≤ pfx
    · rw [if_pos c, if_pos c]
      exact ih _ fuel (List.nodup_cons.mp nd).2 (Nat.le_of_succ_le_succ hf)
    · rw [if_neg c, if_neg c]
      exact ⟨rfl, _, .cons hn hr, nd⟩

end

/-- The `firstRange == nil` shortcut is what the loop does when `tmpRange` starts as `nil`. -/
theorem hAddAckRange_of_gt {h : Heap} {f : Nat} (t : Nat) (c : ¬ f ≤ h.ackPrefix) :
    hAddAckRange h f t = hLoop t (h.nodes.size + 1) h none h.first f := by
  unfold hAddAckRange
  rw [if_neg c]
  obtain ⟨nodes, first, pfx⟩ := h
  cases first <;> rfl

theorem hAddAckRange_refines {h : Heap} {a : AcksToSend} (f t : Nat) (hr : Refines h a) :
    Refines (hAddAckRange h f t) (addAckRange a f t) := by
  obtain ⟨pa, l⟩ := a
  obtain ⟨rfl, idxs, hl, nd⟩ := hr
  have hf := IsSeg_length_le hl nd
  by_cases c : f ≤ h.ackPrefix
  · rw [hAddAckRange, if_pos c, addAckRange_eq, if_pos c]
    exact hAbsorb_spec _ _ hl nd hf
  · rw [hAddAckRange_of_gt t c, addAckRange_eq, if_neg c]
    exact hLoop_spec t _ f (pre := []) (lp := []) .nil hl nd hf

theorem hRun_sim (ops : List (Nat × Nat)) {h : Heap} {a : AcksToSend} (hr : Refines h a) :
    Refines (hRun h ops) (run a ops) := by
  induction ops generalizing h a with
  | nil => exact hr
  | cons op rest ih => exact ih (hAddAckRange_refines op.1 op.2 hr)

end TLVerif.Acks
