import TLVerif.Util.Hex
import TLVerif.Acks.Heap
/-! Line-protocol handler for the `acks` family.

`acks.seq <prefix0> <from>:<to>,<from>:<to>,…` (`-` for no operations): start from
`AcksToSend{ackPrefix: prefix0}`, apply `AddAckRange` for every pair; the result line is `ok ` followed by the observation
after the initial state and after every operation, joined by ` ; `:
`p=<ackPrefix> r=<from>:<to>,… e=<checkInvariantsCommon errors> ap=<AckPrefix|-> ar=<AckFrom>:<AckTo>|- as=<AckSet csv|-> n=<resend ranges|->`.
-/
namespace TLVerif.Acks

def parseU32 (s : String) : Option Nat :=
  if s.isEmpty || s.length > 10 || !s.toList.all Char.isDigit then none else
  match s.toNat? with
  | some n => if n < 4294967296 then some n else none
  | none => none

def parsePair (s : String) : Option (Nat × Nat) :=
  match s.splitOn ":" with
  | [a, b] => match parseU32 a, parseU32 b with
    | some x, some y => some (x, y)
    | _, _ => none
  | _ => none

def parseOps (s : String) : Option (List (Nat × Nat)) :=
  if s == "-" then some [] else (s.splitOn ",").mapM parsePair

def showPairs (l : List (Nat × Nat)) : String :=
  if l.isEmpty then "-" else ",".intercalate (l.map fun p => s!"{p.1}:{p.2}")

def showNats (l : List Nat) : String :=
  if l.isEmpty then "-" else ",".intercalate (l.map toString)

def observe (a : AcksToSend) : String :=
  let h := buildAck a
  let ap := match h.pfx with | some p => toString p | none => "-"
  let ar := match h.range with | some (f, t) => s!"{f}:{t}" | none => "-"
  let as := match h.set with | some s => showNats s | none => "-"
  s!"p={a.ackPrefix} r={showPairs (a.ranges.map fun r => (r.ackFrom, r.ackTo))} e={checkInvariantsCommon a} ap={ap} ar={ar} as={as} n={showPairs (buildNegativeAck a)}"

/-- Runs the pointer-level model (`Heap.lean`); every observation is made on its list view `Heap.abs`
(`Props.C37.heap_refines`: this is the list-level model the theorems are about). -/
def observeAll : Heap → List (Nat × Nat) → List String → List String
  | h, [], acc => (observe h.abs :: acc).reverse
  | h, op :: rest, acc => observeAll (hAddAckRange h op.1 op.2) rest (observe h.abs :: acc)

def handle (op : String) (args : List String) : String :=
  match op, args with
  | "seq", [p, o] =>
    match parseU32 p, parseOps o with
    | some p0, some ops => "ok " ++ " ; ".intercalate (observeAll (Heap.empty p0) ops [])
    | _, _ => "bad-op"
  | _, _ => "bad-op"

end TLVerif.Acks
