import TLVerif.Acks.AcksLemmas
/-! The representation is canonical (the state is a function of the recorded set), the prefix only grows,
`HaveHoles` is exact; for C37. -/
namespace TLVerif.Acks

theorem head_mem {r : Range} (h : r.ackFrom ≤ r.ackTo) (rest : List Range) : memRanges (r :: rest) r.ackFrom :=
  (memRanges_cons ..).mpr (Or.inl ⟨Nat.le_refl _, h⟩)

theorem sortedFrom_ge_head {lo : Nat} {r : Range} {rest : List Range} (hs : sortedFrom lo (r :: rest)) {n : Nat}
    (hm : memRanges (r :: rest) n) : r.ackFrom ≤ n := by
  obtain ⟨_, h2, _, h4⟩ := hs
  rcases (memRanges_cons ..).mp hm with hm | hm
  · exact hm.1
  · exact Nat.le_of_lt (Nat.lt_of_le_of_lt h2 (Nat.lt_of_succ_lt (sortedFrom_above h4 hm)))

/-- If a sorted list covers a list whose first range starts where its own first range starts, its own first range ends
no earlier: otherwise the number just above it would be covered. -/
theorem head_to_le {lo : Nat} {r1 r2 : Range} {t1 t2 : List Range} (hf : r1.ackFrom = r2.ackFrom)
    (h2 : sortedFrom lo (r2 :: t2)) (hsub : ∀ n, memRanges (r1 :: t1) n → memRanges (r2 :: t2) n) : r1.ackTo ≤ r2.ackTo :=
  Nat.le_of_not_lt fun hlt =>
    ((memRanges_cons ..).mp (hsub _ ((memRanges_cons ..).mpr
      (Or.inl ⟨Nat.le_trans (Nat.le_of_eq hf) (Nat.le_succ_of_le h2.2.1), hlt⟩)))).elim
      (fun hm => Nat.not_succ_le_self _ hm.2) (fun hm => Nat.lt_irrefl _ (sortedFrom_above h2.2.2.2 hm))

/-- A common part of two sets that lies at or below `lo` cancels: lists sorted from `lo` lie strictly above it. -/
theorem tail_iff {lo : Nat} {P : Nat → Prop} (hP : ∀ n, P n → n ≤ lo) {t1 t2 : List Range} (s1 : sortedFrom lo t1)
    (s2 : sortedFrom lo t2) (h : ∀ n, (P n ∨ memRanges t1 n) ↔ (P n ∨ memRanges t2 n)) (n : Nat) :
    memRanges t1 n ↔ memRanges t2 n :=
  ⟨fun m => ((h n).mp (Or.inr m)).resolve_left fun p => Nat.not_lt.mpr (hP n p) (sortedFrom_above s1 m),
    fun m => ((h n).mpr (Or.inr m)).resolve_left fun p => Nat.not_lt.mpr (hP n p) (sortedFrom_above s2 m)⟩

theorem ranges_unique {lo : Nat} {l1 l2 : List Range} (h1 : sortedFrom lo l1) (h2 : sortedFrom lo l2)
    (h : ∀ n, memRanges l1 n ↔ memRanges l2 n) : l1 = l2 := by
  induction l1 generalizing lo l2 with
  | nil =>
    cases l2 with
    | nil => rfl
    | cons r rest => exact absurd ((h r.ackFrom).mpr (head_mem h2.2.1 rest)) (by simp)
  | cons r1 t1 ih =>
    cases l2 with
    | nil => exact absurd ((h r1.ackFrom).mp (head_mem h1.2.1 t1)) (by simp)
    | cons r2 t2 =>
      have hf : r1.ackFrom = r2.ackFrom := Nat.le_antisymm
        (sortedFrom_ge_head h1 ((h _).mpr (head_mem h2.2.1 t2)))
        (sortedFrom_ge_head h2 ((h _).mp (head_mem h1.2.1 t1)))
      have ht : r1.ackTo = r2.ackTo := Nat.le_antisymm
        (head_to_le hf h2 fun n => (h n).mp) (head_to_le hf.symm h1 fun n => (h n).mpr)
      have hr : r1 = r2 := congr (congrArg Range.mk hf) ht
      subst hr
      rw [ih h1.2.2.2 h2.2.2.2 (tail_iff (fun _ hr => Nat.le_succ_of_le hr.2) h1.2.2.2 h2.2.2.2 fun n =>
        (memRanges_cons ..).symm.trans ((h n).trans (memRanges_cons ..)))]

theorem not_mem_prefix {a : AcksToSend} (hs : sortedFrom a.ackPrefix a.ranges) : ¬ a.mem a.ackPrefix := fun hm =>
  hm.elim (Nat.lt_irrefl _) (fun hm => Nat.lt_irrefl _ (sortedFrom_above hs hm))

theorem state_unique (a b : AcksToSend) (ha : Inv a) (hb : Inv b) (h : ∀ n, a.mem n ↔ b.mem n) : a = b := by
  obtain ⟨_, sa⟩ := ha
  obtain ⟨_, sb⟩ := hb
  have hp : a.ackPrefix = b.ackPrefix := Nat.le_antisymm
    (Nat.le_of_not_lt fun hlt => not_mem_prefix sb ((h _).mp (Or.inl hlt)))
    (Nat.le_of_not_lt fun hlt => not_mem_prefix sa ((h _).mpr (Or.inl hlt)))
  obtain ⟨pa, la⟩ := a
  obtain ⟨pb, lb⟩ := b
  obtain rfl : pa = pb := hp
  rw [ranges_unique (l1 := la) (l2 := lb) sa sb (tail_iff (fun _ => Nat.le_of_lt) sa sb h)]

theorem absorb_ge (p : Nat) (l : List Range) : p ≤ (absorb p l).1 := by
  fun_induction absorb p l
  case case1 | case3 => exact Nat.le_refl _
  case case2 ih => exact Nat.le_trans (Nat.le_max_left ..) ih

theorem addAckRange_prefix_mono (a : AcksToSend) (f t : Nat) : a.ackPrefix ≤ (addAckRange a f t).ackPrefix := by
  rw [addAckRange_eq]
  split
  · exact Nat.le_trans (Nat.le_max_left ..) (absorb_ge _ _)
  · exact Nat.le_refl _

theorem haveHoles_iff (a : AcksToSend) (hi : Inv a) :
    haveHoles a = true ↔ ∃ n m, n < m ∧ ¬ a.mem n ∧ a.mem m := by
  obtain ⟨p, l⟩ := a
  cases l with
  | nil =>
    refine ⟨fun h => (nomatch h), ?_⟩
    rintro ⟨n, m, hlt, hn, hm | hm⟩
    · exact (hn (Or.inl (Nat.lt_trans hlt hm))).elim
    · exact ((memRanges_nil m).mp hm).elim
  | cons r rest =>
    exact ⟨fun _ => ⟨p, r.ackFrom, hi.2.1, not_mem_prefix hi.2, Or.inr (head_mem hi.2.2.1 rest)⟩, fun _ => rfl⟩

end TLVerif.Acks
