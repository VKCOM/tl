import TLVerif.Acks.Acks
/-! Invariant (`Inv`) and set semantics (`AcksToSend.mem`) of `addAckRange`, for C37. -/
namespace TLVerif.Acks
open TLVerif.Facts.Acks

theorem inc32_of_lt {x : Nat} (h : x < 4294967295) : inc32 x = x + 1 := Nat.mod_eq_of_lt (by omega)
theorem dec32_of_pos {x : Nat} (h : 0 < x) (h2 : x ≤ 4294967295) : dec32 x = x - 1 := by
  obtain ⟨y, rfl⟩ := Nat.exists_eq_add_one_of_ne_zero (Nat.ne_of_gt h)
  rw [dec32, Nat.add_assoc, Nat.add_mod_right,
    Nat.mod_eq_of_lt (Nat.lt_of_lt_of_le (Nat.lt_of_succ_le h2) (Nat.le_add_left ..)), Nat.add_sub_cancel]

def Range.mem (r : Range) (n : Nat) : Prop := r.ackFrom ≤ n ∧ n ≤ r.ackTo
def memRanges (l : List Range) (n : Nat) : Prop := ∃ r ∈ l, r.mem n
/-- The set the data structure represents. -/
def AcksToSend.mem (a : AcksToSend) (n : Nat) : Prop := n < a.ackPrefix ∨ memRanges a.ranges n

/-- Ranges start strictly above `lo`, are non-empty, wrap-free, sorted, disjoint and non-adjacent. -/
def sortedFrom (lo : Nat) : List Range → Prop
  | [] => True
  | r :: rest => lo < r.ackFrom ∧ r.ackFrom ≤ r.ackTo ∧ r.ackTo < 4294967295 ∧ sortedFrom (r.ackTo + 1) rest

instance decSortedFrom : (lo : Nat) → (l : List Range) → Decidable (sortedFrom lo l)
  | _, [] => isTrue trivial
  | lo, r :: rest => by
    unfold sortedFrom
    have := decSortedFrom (r.ackTo + 1) rest
    exact inferInstance

def Inv (a : AcksToSend) : Prop := a.ackPrefix ≤ 4294967295 ∧ sortedFrom a.ackPrefix a.ranges

instance (a : AcksToSend) : Decidable (Inv a) := by unfold Inv; exact inferInstance

@[simp] theorem memRanges_nil (n : Nat) : memRanges [] n ↔ False := by simp [memRanges]
@[simp] theorem memRanges_cons (r : Range) (l : List Range) (n : Nat) :
    memRanges (r :: l) n ↔ (r.mem n ∨ memRanges l n) := by simp [memRanges]

theorem sortedFrom_weaken {lo lo' : Nat} {l : List Range} (h : sortedFrom lo l) (hl : lo' ≤ lo) : sortedFrom lo' l := by
  cases l with
  | nil => trivial
  | cons r rest => exact ⟨Nat.lt_of_le_of_lt hl h.1, h.2⟩

theorem sortedFrom_above {lo n : Nat} {l : List Range} (hs : sortedFrom lo l) (hm : memRanges l n) : lo < n := by
  induction l generalizing lo with
  | nil => exact ((memRanges_nil n).mp hm).elim
  | cons r rest ih =>
    obtain ⟨h1, h2, -, h4⟩ := hs
    rcases (memRanges_cons ..).mp hm with hm | hm
    · exact Nat.lt_of_lt_of_le h1 hm.1
    · exact Nat.lt_trans (Nat.lt_of_lt_of_le h1 h2) (Nat.lt_of_succ_lt (ih h4 hm))

theorem mem_hull {a b f t n : Nat} (h1 : a ≤ t + 1) (h2 : f ≤ b + 1) :
    (min a f ≤ n ∧ n ≤ max b t) ↔ ((f ≤ n ∧ n ≤ t) ∨ (a ≤ n ∧ n ≤ b)) := by
  rw [Std.min_le, Std.le_max]; omega

theorem lt_max_succ {a b p n : Nat} (h : a ≤ p) : n < max p (b + 1) ↔ (n < p ∨ (a ≤ n ∧ n ≤ b)) := by
  rw [Nat.lt_iff_add_one_le, Std.le_max]; omega

/-- A range of a sorted list that overlaps or touches the new one is absorbed into it: the loop goes on as if it had
been called with the hull of the two. -/
theorem insertLoop_merge {lo f t : Nat} {tmp : Range} {rest : List Range} (hs : sortedFrom lo (tmp :: rest))
    (ht : t < 4294967295) (c1 : ¬ t + 1 < tmp.ackFrom) (c2 : ¬ tmp.ackTo + 1 < f) :
    insertLoop f t (tmp :: rest) = insertLoop (min tmp.ackFrom f) (max tmp.ackTo t) rest := by
  obtain ⟨-, -, h3, h4⟩ := hs
  rw [insertLoop, inc32_of_lt ht, inc32_of_lt h3, if_neg c1, if_neg c2]
  cases rest with
  | nil => rfl
  | cons nxt rest =>
    have g1 : tmp.ackTo + 1 < nxt.ackFrom := h4.1
    rw [noIntersectNext, inc32_of_lt ht]
    by_cases c3 : t + 1 < nxt.ackFrom
    · rw [if_pos (decide_eq_true c3), insertLoop, inc32_of_lt (Nat.max_lt.mpr ⟨h3, ht⟩),
        if_pos (Nat.add_max_add_right .. ▸ Nat.max_lt.mpr ⟨g1, c3⟩)]
    · -- the hull reaches `nxt`: `tmp` is dropped and the loop goes on with the widened start; `t` was its end already
      rw [if_neg (mt of_decide_eq_true c3), Nat.max_eq_right
        (Nat.le_of_lt (Nat.lt_of_succ_lt_succ (Nat.lt_of_lt_of_le g1 (Nat.le_of_not_lt c3))))]

theorem insertLoop_spec {lo f t : Nat} {l : List Range} (hs : sortedFrom lo l) (hlo : lo < f) (hft : f ≤ t)
    (ht : t < 4294967295) :
    sortedFrom lo (insertLoop f t l) ∧ ∀ n, memRanges (insertLoop f t l) n ↔ ((f ≤ n ∧ n ≤ t) ∨ memRanges l n) := by
  induction l generalizing lo f t with
  | nil => exact ⟨⟨hlo, hft, ht, trivial⟩, fun n => memRanges_cons ..⟩
  | cons tmp rest ih =>
    obtain ⟨h1, h2, h3, h4⟩ := id hs  -- `id`: `hs` itself is used below
    by_cases c1 : t + 1 < tmp.ackFrom
    · rw [insertLoop, inc32_of_lt ht, if_pos c1]
      exact ⟨⟨hlo, hft, ht, c1, h2, h3, h4⟩, fun n => memRanges_cons ..⟩
    by_cases c2 : tmp.ackTo + 1 < f
    · rw [insertLoop, inc32_of_lt ht, inc32_of_lt h3, if_neg c1, if_pos c2]
      obtain ⟨ih1, ih2⟩ := ih h4 c2 hft ht
      refine ⟨⟨h1, h2, h3, ih1⟩, fun n => ?_⟩
      rw [memRanges_cons, memRanges_cons, ih2]
      exact or_left_comm
    rw [insertLoop_merge hs ht c1 c2]
    obtain ⟨ih1, ih2⟩ := ih
      (sortedFrom_weaken h4 (Nat.le_succ_of_le (Nat.le_of_lt (Nat.lt_of_lt_of_le h1 h2)))) (Nat.lt_min.mpr ⟨h1, hlo⟩)
      (Nat.le_trans (Nat.min_le_left ..) (Nat.le_trans h2 (Nat.le_max_left ..))) (Nat.max_lt.mpr ⟨h3, ht⟩)
    refine ⟨ih1, fun n => ?_⟩
    rw [ih2, memRanges_cons, ← or_assoc]
    exact or_congr_left (mem_hull (Nat.le_of_not_lt c1) (Nat.le_of_not_lt c2))

/-- The prefix loop on a prefix `p` (any `p`, not only one below the first range). -/
theorem absorb_spec {lo p : Nat} {l : List Range} (hs : sortedFrom lo l) (hp : p ≤ 4294967295) :
    Inv ⟨(absorb p l).1, (absorb p l).2⟩ ∧
    ∀ n, AcksToSend.mem ⟨(absorb p l).1, (absorb p l).2⟩ n ↔ (n < p ∨ memRanges l n) := by
  induction l generalizing lo p with
  | nil => exact ⟨⟨hp, trivial⟩, fun n => Iff.rfl⟩
  | cons r rest ih =>
    obtain ⟨_, h2, h3, h4⟩ := hs
    unfold absorb
    by_cases c : r.ackFrom ≤ p
    · rw [if_pos c, inc32_of_lt h3]
      obtain ⟨i1, i2⟩ := ih h4 (Nat.max_le.mpr ⟨hp, h3⟩)
      refine ⟨i1, fun n => ?_⟩
      rw [i2, memRanges_cons, ← or_assoc]
      exact or_congr_left (lt_max_succ c)
    · rw [if_neg c]
      exact ⟨⟨hp, Nat.lt_of_not_le c, h2, h3, h4⟩, fun n => Iff.rfl⟩

/-- `AddAckRange` in closed form: the `firstRange == nil` shortcut is what the loop does on the empty list. -/
theorem addAckRange_eq (a : AcksToSend) (f t : Nat) :
    addAckRange a f t =
      if f ≤ a.ackPrefix then
        ⟨(absorb (max a.ackPrefix (inc32 t)) a.ranges).1, (absorb (max a.ackPrefix (inc32 t)) a.ranges).2⟩
      else ⟨a.ackPrefix, insertLoop f t a.ranges⟩ := by
  unfold addAckRange
  split
  · rfl
  · obtain ⟨p, l⟩ := a
    cases l <;> rfl

theorem addAckRange_spec (a : AcksToSend) (f t : Nat) (hi : Inv a) (hft : f ≤ t) (ht : t < 4294967295) :
    Inv (addAckRange a f t) ∧ ∀ n, (addAckRange a f t).mem n ↔ (a.mem n ∨ (f ≤ n ∧ n ≤ t)) := by
  obtain ⟨hp, hs⟩ := hi
  by_cases c : f ≤ a.ackPrefix
  · rw [addAckRange_eq, if_pos c, inc32_of_lt ht]
    obtain ⟨i1, i2⟩ := absorb_spec hs (Nat.max_le.mpr ⟨hp, ht⟩)
    refine ⟨i1, fun n => ?_⟩
    rw [i2, AcksToSend.mem, or_right_comm]
    exact or_congr_left (lt_max_succ c)
  · rw [addAckRange_eq, if_neg c]
    obtain ⟨i1, i2⟩ := insertLoop_spec hs (Nat.lt_of_not_le c) hft ht
    refine ⟨⟨hp, i1⟩, fun n => ?_⟩
    show n < a.ackPrefix ∨ memRanges (insertLoop f t a.ranges) n ↔ _
    rw [i2, ← or_assoc, or_right_comm]
    rfl

def WrapFree (ops : List (Nat × Nat)) : Prop := ∀ op ∈ ops, op.1 ≤ op.2 ∧ op.2 < 4294967295

instance (ops : List (Nat × Nat)) : Decidable (WrapFree ops) := by unfold WrapFree; exact inferInstance

def inOps (ops : List (Nat × Nat)) (n : Nat) : Prop := ∃ op ∈ ops, op.1 ≤ n ∧ n ≤ op.2

theorem inOps_cons (op : Nat × Nat) (ops : List (Nat × Nat)) (n : Nat) :
    inOps (op :: ops) n ↔ ((op.1 ≤ n ∧ n ≤ op.2) ∨ inOps ops n) := by
  simp only [inOps, List.mem_cons, exists_eq_or_imp]

@[simp] theorem run_nil (a : AcksToSend) : run a [] = a := rfl
@[simp] theorem run_cons (a : AcksToSend) (op : Nat × Nat) (ops : List (Nat × Nat)) :
    run a (op :: ops) = run (addAckRange a op.1 op.2) ops := rfl

theorem run_spec {a : AcksToSend} {ops : List (Nat × Nat)} (hi : Inv a) (hw : WrapFree ops) :
    Inv (run a ops) ∧ ∀ n, (run a ops).mem n ↔ (a.mem n ∨ inOps ops n) := by
  induction ops generalizing a with
  | nil => exact ⟨hi, fun n => by simp [inOps]⟩
  | cons op rest ih =>
    have h0 := hw op (List.mem_cons_self ..)
    obtain ⟨s1, s2⟩ := addAckRange_spec a op.1 op.2 hi h0.1 h0.2
    obtain ⟨r1, r2⟩ := ih s1 (fun o ho => hw o (List.mem_cons_of_mem _ ho))
    refine ⟨r1, fun n => ?_⟩
    rw [run_cons, r2, s2, or_assoc, inOps_cons]

end TLVerif.Acks
