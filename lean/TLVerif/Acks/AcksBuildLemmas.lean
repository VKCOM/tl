import TLVerif.Acks.AcksLemmas
/-! Exact content of the headers `buildAck` / `buildNegativeAck` produce under the invariant, and that
`checkInvariantsCommon` then reports nothing; for C37. -/
namespace TLVerif.Acks
open TLVerif.Facts.Acks

/-- All numbers of a range, ascending (`[]` when `ackFrom > ackTo`). -/
def Range.enum (r : Range) : List Nat := List.range' r.ackFrom (r.ackTo + 1 - r.ackFrom)
def enumRanges (l : List Range) : List Nat := l.flatMap Range.enum

theorem Range.mem_enum (r : Range) (n : Nat) : n ∈ r.enum ↔ r.mem n := by
  rw [Range.enum, List.mem_range'_1, Range.mem]
  refine and_congr_right fun h => ?_
  by_cases c : r.ackFrom ≤ r.ackTo + 1
  · rw [Nat.add_sub_cancel' c, Nat.lt_succ_iff]
  · -- an empty range: nothing is enumerated, nothing is covered
    rw [Nat.sub_eq_zero_of_le (Nat.le_of_not_le c)]
    exact iff_of_false (Nat.not_lt.mpr h) fun h' => c (Nat.le_succ_of_le (Nat.le_trans h h'))

theorem enumRanges_cons (r : Range) (l : List Range) : enumRanges (r :: l) = r.enum ++ enumRanges l :=
  List.flatMap_cons

theorem mem_enumRanges (l : List Range) (n : Nat) : n ∈ enumRanges l ↔ memRanges l n := by
  simp [enumRanges, memRanges, Range.mem_enum]

/-! The three loops of the header builders append to a buffer until it holds `MaxAckSet` entries:
each computes `(acc ++ everything it would append).take maxAckSet`. -/

theorem ackSetRange_eq (seq ackTo : Nat) (acc : List Nat) :
    acc.length ≤ maxAckSet → seq ≤ ackTo + 1 → ackTo < 4294967295 →
    ackSetRange seq ackTo acc = (acc ++ List.range' seq (ackTo + 1 - seq)).take maxAckSet := by
  fun_induction ackSetRange seq ackTo acc with
  | case1 seq acc h ih =>
    intro _ _ ht
    rw [inc32_of_lt (Nat.lt_of_le_of_lt h.1 ht)] at ih ⊢
    rw [ih (by rw [List.length_append]; exact h.2) (Nat.succ_le_succ h.1) ht, Nat.succ_sub h.1, List.range'_succ,
      Nat.add_sub_add_right, List.append_assoc]
    rfl
  | case2 seq acc h =>
    intro hl hs _
    by_cases c : seq ≤ ackTo
    · rw [List.take_left' (Nat.le_antisymm hl (Nat.le_of_not_lt fun hlt => h ⟨c, hlt⟩))]
    · rw [Nat.sub_eq_zero_of_le (Nat.succ_le_of_lt (Nat.lt_of_not_le c)), List.range'_zero, List.append_nil,
        List.take_of_length_le hl]

theorem take_take_append {α} (x b : List α) (k : Nat) : ((x.take k) ++ b).take k = (x ++ b).take k := by
  induction k generalizing x with
  | zero => rfl
  | succ k ih =>
    cases x with
    | nil => rfl
    | cons a x => exact congrArg (a :: ·) (ih x)

theorem ackSetLoop_eq {lo : Nat} {l : List Range} {acc : List Nat} (hs : sortedFrom lo l) (hl : acc.length ≤ maxAckSet) :
    ackSetLoop l acc = (acc ++ enumRanges l).take maxAckSet := by
  induction l generalizing lo acc with
  | nil => rw [ackSetLoop, enumRanges, List.flatMap_nil, List.append_nil, List.take_of_length_le hl]
  | cons r rest ih =>
    obtain ⟨_, h2, h3, h4⟩ := hs
    unfold ackSetLoop
    rw [ackSetRange_eq _ _ _ hl (Nat.le_succ_of_le h2) h3, ih h4 (List.length_take_le ..),
      take_take_append, enumRanges_cons, List.append_assoc]
    rfl

/-- What a receiver (`Transport.handleAck`) takes as acknowledged from the header. -/
def ackedBy (h : AckHeader) (n : Nat) : Prop :=
  (∃ p, h.pfx = some p ∧ n ≤ p) ∨ (∃ f t, h.range = some (f, t) ∧ f ≤ n ∧ n ≤ t) ∨ (∃ s, h.set = some s ∧ n ∈ s)

/-- `if len(s) > 0 { SetPacketAckSet(s) }` -/
def nonEmptyOpt (s : List Nat) : Option (List Nat) :=
  match s with
  | [] => none
  | _ :: _ => some s

theorem nonEmptyOpt_eq (s : List Nat) : (if s.length > 0 then some s else none) = nonEmptyOpt s := by
  cases s <;> simp [nonEmptyOpt]

theorem nonEmptyOpt_some {s t : List Nat} (h : nonEmptyOpt s = some t) : t = s ∧ s ≠ [] := by
  cases s with
  | nil => simp [nonEmptyOpt] at h
  | cons x xs => simp [nonEmptyOpt] at h; subst h; simp

theorem mem_nonEmptyOpt {s : List Nat} {n : Nat} : (∃ t, nonEmptyOpt s = some t ∧ n ∈ t) ↔ n ∈ s := by
  cases s <;> simp [nonEmptyOpt]

theorem buildAck_eq (a : AcksToSend) (hi : Inv a) :
    buildAck a = { pfx := if a.ackPrefix > 0 then some (a.ackPrefix - 1) else none
                   range := a.ranges.head?.map fun r => (r.ackFrom, r.ackTo)
                   set := nonEmptyOpt ((enumRanges a.ranges.tail).take maxAckSet) } := by
  obtain ⟨hp, hs⟩ := hi
  unfold buildAck
  rw [ite_congr rfl (fun c => congrArg some (dec32_of_pos c hp)) fun _ => rfl]
  cases hr : a.ranges with
  | nil => rfl
  | cons r rest =>
    rw [hr] at hs
    simp only [List.head?_cons, Option.map_some, List.tail_cons]
    rw [ackSetLoop_eq hs.2.2.2 (Nat.zero_le _), List.nil_append, nonEmptyOpt_eq]

theorem ackedBy_buildAck (a : AcksToSend) (hi : Inv a) (n : Nat) :
    ackedBy (buildAck a) n ↔ (n < a.ackPrefix ∨ (∃ r, a.ranges.head? = some r ∧ r.mem n) ∨
      n ∈ (enumRanges a.ranges.tail).take maxAckSet) := by
  rw [buildAck_eq a hi]
  simp only [ackedBy]
  refine or_congr ?_ (or_congr ?_ mem_nonEmptyOpt)
  · by_cases c : a.ackPrefix > 0
    · simp only [if_pos c, Option.some.injEq, exists_eq_left']
      exact Nat.le_sub_one_iff_lt c
    · simp only [if_neg c, reduceCtorEq, false_and, exists_false, false_iff]
      exact fun h => c (Nat.zero_lt_of_lt h)
  · cases a.ranges.head? with
    | none => simp
    | some r =>
      exact ⟨fun ⟨f, t, e, h⟩ => ⟨r, rfl, by cases e; exact h⟩,
        fun ⟨r', e, h⟩ => by cases e; exact ⟨_, _, rfl, h⟩⟩

theorem memRanges_head_tail {l : List Range} {n : Nat} :
    memRanges l n ↔ ((∃ r, l.head? = some r ∧ r.mem n) ∨ memRanges l.tail n) := by
  cases l <;> simp

theorem buildAck_sound (a : AcksToSend) (hi : Inv a) (n : Nat) (h : ackedBy (buildAck a) n) : a.mem n := by
  rcases (ackedBy_buildAck a hi n).mp h with h | h | h
  · exact Or.inl h
  · exact Or.inr (memRanges_head_tail.mpr (Or.inl h))
  · exact Or.inr (memRanges_head_tail.mpr (Or.inr ((mem_enumRanges _ _).mp (List.mem_of_mem_take h))))

/-- The holes of a sorted range list from `lo` up to its last range: `[lo, first.from-1]`, then the holes between
consecutive ranges. -/
def gapsFrom (lo : Nat) : List Range → List (Nat × Nat)
  | [] => []
  | r :: rest => (lo, r.ackFrom - 1) :: gapsFrom (r.ackTo + 1) rest

theorem gapsFrom_length (lo : Nat) (l : List Range) : (gapsFrom lo l).length = l.length := by
  induction l generalizing lo with
  | nil => rfl
  | cons r rest ih => rw [gapsFrom, List.length_cons, ih, List.length_cons]

theorem nackLoop_eq {tmp : Range} {rest : List Range} {acc : List (Nat × Nat)} (h3 : tmp.ackTo < 4294967295)
    (hs : sortedFrom (tmp.ackTo + 1) rest) (hl : acc.length ≤ maxAckSet) :
    nackLoop tmp rest acc = (acc ++ gapsFrom (tmp.ackTo + 1) rest).take maxAckSet := by
  induction rest generalizing tmp acc with
  | nil => rw [nackLoop, gapsFrom, List.append_nil, List.take_of_length_le hl]
  | cons nxt rest ih =>
    obtain ⟨g1, g2, g3, g4⟩ := hs
    unfold nackLoop
    by_cases c : acc.length < maxAckSet
    · rw [if_pos c, inc32_of_lt h3, dec32_of_pos (Nat.zero_lt_of_lt g1) (Nat.le_of_lt (Nat.lt_of_le_of_lt g2 g3)),
        ih g3 g4 (by rw [List.length_append]; exact c), gapsFrom, List.append_assoc]
      rfl
    · rw [if_neg c, List.take_left' (Nat.le_antisymm hl (Nat.le_of_not_lt c))]

theorem buildNegativeAck_eq (a : AcksToSend) (hi : Inv a) (hk : 1 ≤ maxAckSet) :
    buildNegativeAck a = (gapsFrom a.ackPrefix a.ranges).take maxAckSet := by
  obtain ⟨p, l⟩ := a
  cases l with
  | nil => rfl
  | cons r rest =>
    obtain ⟨-, h1, h2, h3, h4⟩ := hi
    show nackLoop r rest [(p, dec32 r.ackFrom)] = _
    rw [nackLoop_eq (acc := [_]) h3 h4 hk,
      dec32_of_pos (Nat.zero_lt_of_lt h1) (Nat.le_of_lt (Nat.lt_of_le_of_lt h2 h3))]
    rfl

/-- What a receiver takes as requested for resending. -/
def requestedBy (l : List (Nat × Nat)) (n : Nat) : Prop := ∃ g ∈ l, g.1 ≤ n ∧ n ≤ g.2

theorem requestedBy_cons (g : Nat × Nat) (l : List (Nat × Nat)) (n : Nat) :
    requestedBy (g :: l) n ↔ ((g.1 ≤ n ∧ n ≤ g.2) ∨ requestedBy l n) :=
  inOps_cons g l n  -- `requestedBy` and `inOps` have the same body

theorem requestedBy_take {l : List (Nat × Nat)} {k n : Nat} (h : requestedBy (l.take k) n) : requestedBy l n := by
  obtain ⟨g, hg, hn⟩ := h
  exact ⟨g, List.mem_of_mem_take hg, hn⟩

theorem requestedBy_gapsFrom {lo : Nat} {l : List Range} (hs : sortedFrom lo l) (n : Nat) :
    requestedBy (gapsFrom lo l) n ↔ lo ≤ n ∧ ¬ memRanges l n ∧ ∃ r ∈ l, n ≤ r.ackTo := by
  induction l generalizing lo with
  | nil => simp [requestedBy, gapsFrom]
  | cons r rest ih =>
    obtain ⟨h1, h2, h3, h4⟩ := hs
    have above : memRanges rest n → r.ackTo < n := fun m => Nat.lt_of_succ_lt (sortedFrom_above h4 m)
    simp only [gapsFrom, requestedBy_cons, ih h4, memRanges_cons, List.mem_cons, exists_eq_or_imp, not_or, Range.mem,
      Nat.le_sub_one_iff_lt (Nat.zero_lt_of_lt h1)]
    constructor
    · rintro (⟨a, b⟩ | ⟨a, b, c⟩)
      · have hn : n < r.ackTo := Nat.lt_of_lt_of_le b h2
        exact ⟨a, ⟨fun m => Nat.lt_irrefl _ (Nat.lt_of_lt_of_le b m.1), fun m => Nat.lt_asymm hn (above m)⟩,
          Or.inl (Nat.le_of_lt hn)⟩
      · exact ⟨Nat.le_of_lt (Nat.lt_trans (Nat.lt_of_lt_of_le h1 h2) a),
          ⟨fun m => Nat.not_succ_le_self _ (Nat.le_trans a m.2), b⟩, Or.inr c⟩
    · rintro ⟨a, ⟨b1, b2⟩, c⟩
      by_cases hn : n < r.ackFrom
      · exact Or.inl ⟨a, hn⟩
      · have hgt : r.ackTo < n := Nat.lt_of_not_le fun h => b1 ⟨Nat.le_of_not_lt hn, h⟩
        exact Or.inr ⟨hgt, b2, c.resolve_left (Nat.not_le.mpr hgt)⟩

theorem requestedBy_holes (a : AcksToSend) (hi : Inv a) (n : Nat) :
    requestedBy (gapsFrom a.ackPrefix a.ranges) n ↔ ¬ a.mem n ∧ ∃ r ∈ a.ranges, n ≤ r.ackTo := by
  rw [requestedBy_gapsFrom hi.2, ← and_assoc, AcksToSend.mem, not_or, Nat.not_lt]

/-- Every hole is a non-empty interval (a receiver iterating `from..to` never wraps). -/
theorem gapsFrom_nonempty {lo : Nat} {l : List Range} (hs : sortedFrom lo l) :
    ∀ g ∈ gapsFrom lo l, g.1 ≤ g.2 ∧ g.2 < 4294967295 := by
  induction l generalizing lo with
  | nil => exact fun g hg => nomatch hg
  | cons r rest ih =>
    obtain ⟨h1, h2, h3, h4⟩ := hs
    exact List.forall_mem_cons.mpr
      ⟨⟨Nat.le_sub_one_of_lt h1, Nat.lt_of_le_of_lt (Nat.sub_le ..) (Nat.lt_of_le_of_lt h2 h3)⟩, ih h4⟩

theorem checkLoop_zero {lo : Nat} {tmp : Range} {rest : List Range} (hs : sortedFrom lo (tmp :: rest)) :
    checkLoop tmp rest = 0 := by
  induction rest generalizing lo tmp with
  | nil => rfl
  | cons nxt rest ih =>
    obtain ⟨_, h2, h3, h4⟩ := hs
    unfold checkLoop
    rw [inc32_of_lt h3, ih h4,
      if_neg (Nat.not_lt.mpr (Nat.le_of_lt (Nat.lt_of_le_of_lt h2 (Nat.lt_of_lt_of_le (Nat.lt_of_succ_lt h4.1) h4.2.1)))),
      if_neg (Nat.not_le.mpr h4.1)]

theorem checkInvariantsCommon_zero (a : AcksToSend) (hi : Inv a) : checkInvariantsCommon a = 0 := by
  obtain ⟨p, l⟩ := a
  cases l with
  | nil => rfl
  | cons r rest =>
    show (if p ≥ r.ackFrom then 1 else 0) + checkLoop r rest = 0
    rw [checkLoop_zero hi.2, if_neg (Nat.not_le.mpr hi.2.1)]

end TLVerif.Acks
