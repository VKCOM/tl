import TLVerif.Algo.Circular
/-! Proofs about the circular slice. The invariant `Inv` and the abstraction function `abs` speak of single cells.
The proofs use one equation in their place (`Rep`): the array, read from `read_pos` on and round its end, is the
queue followed by empty cells. `Inv.rep` and `Rep.done` pass between the two, and each method becomes a fact
about `take`, `drop` and `set` on that reading. The last part refines the step function on a pair of slices to a
pair of FIFO lists. -/
namespace TLVerif.Algo
namespace CS

/-- Physical index of logical position `j`. -/
def phys (s : CS) (j : Nat) : Nat :=
  if s.readPos.toNat + j < s.elements.length then s.readPos.toNat + j
  else s.readPos.toNat + j - s.elements.length

/-- Abstraction function: the queue content, front first. -/
def abs (s : CS) : List Nat :=
  (List.range (s.writePos - s.readPos).toNat).map (fun j => s.elements.getD (s.phys j) 0)

structure Inv (s : CS) : Prop where
  r0 : 0 ≤ s.readPos
  rw : s.readPos ≤ s.writePos
  wc : s.writePos - s.readPos ≤ s.elements.length
  rc : s.readPos < s.elements.length ∨ (s.elements.length = 0 ∧ s.readPos = 0)
  /-- cells outside the live window hold the empty value -/
  dead : ∀ i : Nat, i < s.elements.length → ¬ (s.readPos ≤ i ∧ (i : Int) < s.writePos) →
    ¬ ((i : Int) + s.elements.length < s.writePos) → s.elements[i]? = some 0

theorem abs_length (s : CS) : (abs s).length = (s.writePos - s.readPos).toNat := by simp [abs]

theorem abs_getElem? (s : CS) (j : Nat) (hj : j < (abs s).length) :
    (abs s)[j]? = some (s.elements.getD (s.phys j) 0) := by
  simp [abs, List.getElem?_map, List.getElem?_range (abs_length s ▸ hj)]

theorem getD_of_lt (l : List Nat) (i : Nat) (h : i < l.length) : l[i]? = some (l.getD i 0) := by
  simp [List.getD_eq_getElem?_getD, List.getElem?_eq_getElem h]

theorem goGet_nat (l : List Nat) (i : Int) (n : Nat) (h : i = n) : goGet l i = l[n]? := by
  subst h; simp [goGet]; omega

theorem goSet_nat (l : List Nat) (i : Int) (n : Nat) (x : Nat) (h : i = n) (hn : n < l.length) :
    goSet l i x = some (l.set n x) := by
  subst h; simp [goSet, hn]

theorem goSlice_nat (l : List Nat) (hi : Int) (a b : Nat) (h : hi = b) (hab : a ≤ b) (hb : b ≤ l.length) :
    goSlice l a hi = some ((l.drop a).take (b - a)) := by
  subst h
  simp [goSlice]; omega

/-! ### A list read round its end

`l.drop r ++ l.take r` is `l` read from index `r` on and round the end: the order in which a circular slice
with `read_pos = r` holds its cells. -/

theorem rot_getElem?_lt {α} (l : List α) {r j : Nat} (h : r + j < l.length) :
    (l.drop r ++ l.take r)[j]? = l[r + j]? := by
  rw [List.getElem?_append_left (by rw [List.length_drop]; exact Nat.lt_sub_iff_add_lt'.mpr h), List.getElem?_drop]

/-- A position `j` past the end of the array is cell `j - (len - r)`; that is `r + j - len`, a cell before `r`. -/
theorem wrap_sub {len r j : Nat} (hr : r ≤ len) : j - (len - r) = r + j - len := by
  rw [← Nat.add_sub_add_left r j (len - r), Nat.add_sub_cancel' hr]

theorem wrap_lt {len r j : Nat} (hr : r ≤ len) (h : len - r ≤ j) (hj : j < len) : j - (len - r) < r :=
  (Nat.sub_lt_iff_lt_add h).mpr (by rw [Nat.add_sub_cancel' hr]; exact hj)

theorem rot_getElem?_ge {α} (l : List α) {r j : Nat} (hr : r ≤ l.length) (h : l.length ≤ r + j)
    (hj : j < l.length) : (l.drop r ++ l.take r)[j]? = l[r + j - l.length]? := by
  have hle : l.length - r ≤ j := Nat.sub_le_iff_le_add'.mpr h
  rw [List.getElem?_append_right (by rw [List.length_drop]; exact hle), List.length_drop, List.getElem?_take,
    if_pos (wrap_lt hr hle hj), wrap_sub hr]

/-- The other way round: cell `i` of the array is read as number `i - r`, or `len - r + i` when it lies before `r`. -/
theorem rot_getElem?_of_ge {α} (l : List α) {r i : Nat} (hri : r ≤ i) (hi : i < l.length) :
    (l.drop r ++ l.take r)[i - r]? = l[i]? := by
  rw [rot_getElem?_lt l (by rw [Nat.add_sub_cancel' hri]; exact hi), Nat.add_sub_cancel' hri]

theorem rot_getElem?_of_lt {α} (l : List α) {r i : Nat} (hi : i < r) :
    (l.drop r ++ l.take r)[l.length - r + i]? = l[i]? := by
  rw [List.getElem?_append_right (by rw [List.length_drop]; exact Nat.le_add_right ..), List.length_drop,
    Nat.add_sub_cancel_left, List.getElem?_take, if_pos hi]

theorem rot_set_lt {α} (l : List α) {r j : Nat} (x : α) (h : r + j < l.length) :
    (l.set (r + j) x).drop r ++ (l.set (r + j) x).take r = (l.drop r ++ l.take r).set j x := by
  rw [List.drop_set, if_neg (Nat.not_lt.mpr (Nat.le_add_right r j)), List.take_set_of_le (Nat.le_add_right r j),
    List.set_append_left _ _ (by rw [List.length_drop]; exact Nat.lt_sub_iff_add_lt'.mpr h),
    Nat.add_sub_cancel_left]

theorem rot_set_ge {α} (l : List α) {r j : Nat} (x : α) (hr : r ≤ l.length) (h : l.length ≤ r + j)
    (hj : j < l.length) :
    (l.set (r + j - l.length) x).drop r ++ (l.set (r + j - l.length) x).take r =
      (l.drop r ++ l.take r).set j x := by
  have hle : l.length - r ≤ j := Nat.sub_le_iff_le_add'.mpr h
  rw [List.set_append_right _ _ (by rw [List.length_drop]; exact hle), List.length_drop, List.take_set,
    ← wrap_sub hr, List.drop_set_of_lt (wrap_lt hr hle hj)]

theorem rot_succ {α} {l : List α} {r : Nat} {a : α} {t : List α} (hr : r < l.length)
    (h : l.drop r ++ l.take r = a :: t) : l.drop (r + 1) ++ l.take (r + 1) = t ++ [a] := by
  rw [List.drop_eq_getElem_cons hr, List.cons_append, List.cons.injEq] at h
  rw [List.take_succ_eq_append_getElem hr, ← List.append_assoc, h.2, h.1]

theorem rot_length {α} (l : List α) : l.drop l.length ++ l.take l.length = l.drop 0 ++ l.take 0 := by
  rw [List.drop_length, List.take_length, List.drop_zero, List.take_zero, List.nil_append, List.append_nil]

theorem rot_eq_replicate {α} {l : List α} {r m : Nat} {a : α} (h : l.drop r ++ l.take r = List.replicate m a) :
    l = List.replicate m a := by
  obtain ⟨hl, h1, h2⟩ := List.append_eq_replicate_iff.mp h
  rw [← List.take_append_drop r l, h1, h2, List.replicate_append_replicate, Nat.add_comm, hl]

theorem phys_nat (els : List Nat) (r : Nat) (wp : Int) (j : Nat) :
    phys ⟨els, r, wp⟩ j = if r + j < els.length then r + j else r + j - els.length := by
  simp only [phys, Int.toNat_natCast]

theorem rot_getElem?_phys (els : List Nat) {r j : Nat} (wp : Int) (hr : r ≤ els.length) (hj : j < els.length) :
    (els.drop r ++ els.take r)[j]? = some (els.getD (phys ⟨els, r, wp⟩ j) 0) := by
  rw [phys_nat]
  split
  · next h => rw [rot_getElem?_lt els h]; exact getD_of_lt els _ h
  · next h => rw [rot_getElem?_ge els hr (Nat.le_of_not_lt h) hj]; exact getD_of_lt els _ (by omega)

theorem getElem?_append_zeros (q : List Nat) {len j : Nat} (h1 : q.length ≤ j) (h2 : j < len) :
    (q ++ List.replicate (len - q.length) 0)[j]? = some 0 := by
  rw [List.getElem?_append_right h1, List.getElem?_replicate, if_pos (Nat.sub_lt_sub_right h1 h2)]

structure Rep (els : List Nat) (r : Nat) (q : List Nat) : Prop where
  rc : r < els.length ∨ (els.length = 0 ∧ r = 0)
  rot : els.drop r ++ els.take r = q ++ List.replicate (els.length - q.length) 0

variable {els : List Nat} {r : Nat} {q : List Nat}

theorem Rep.le (h : Rep els r q) : r ≤ els.length :=
  h.rc.elim Nat.le_of_lt fun ⟨_, e⟩ => e ▸ Nat.zero_le _

/-- `j` only witnesses that the array is not empty (any index in range at hand will do). -/
theorem Rep.lt (h : Rep els r q) {j : Nat} (hj : j < els.length) :
    r < els.length :=
  h.rc.resolve_right fun ⟨e, _⟩ => absurd hj (e ▸ Nat.not_lt_zero j)

theorem Rep.length_le (h : Rep els r q) : q.length ≤ els.length := by
  have := congrArg List.length h.rot
  have hr := h.le
  rw [List.length_append, List.length_append, List.length_drop, List.length_take, List.length_replicate] at this
  omega

theorem Rep.head {x : Nat} {xs : List Nat} (h : Rep els r (x :: xs)) : els[r]? = some x :=
  (rot_getElem?_lt els (j := 0) (h.lt (Nat.lt_of_lt_of_le (Nat.zero_lt_succ _) h.length_le))).symm.trans
    (by rw [h.rot]; rfl)

theorem Rep.zeros (n : Nat) : Rep (List.replicate n 0) 0 [] :=
  ⟨by rw [List.length_replicate]; omega, by simp⟩

theorem ext_lt {α} {l₁ l₂ : List α} {n : Nat} (h1 : l₁.length = n) (h2 : l₂.length = n)
    (h : ∀ j, j < n → l₁[j]? = l₂[j]?) : l₁ = l₂ :=
  List.ext_getElem? fun j =>
    if hj : j < n then h j hj
    else by rw [List.getElem?_eq_none (h1 ▸ Nat.le_of_not_lt hj), List.getElem?_eq_none (h2 ▸ Nat.le_of_not_lt hj)]

theorem Inv.rep {s : CS} (hi : Inv s) :
    ∃ els r q, s = ⟨els, (r : Nat), ((r + q.length : Nat) : Int)⟩ ∧ abs s = q ∧ Rep els r q := by
  obtain ⟨els, rp, wp⟩ := s
  obtain ⟨h0, h1, h2, h3, hd⟩ := hi
  simp only at h0 h1 h2 h3 hd
  obtain ⟨r, rfl⟩ := Int.eq_ofNat_of_zero_le h0
  obtain ⟨n, rfl⟩ := Int.le.dest h1
  have hs : (r : Int) + n - r = n := by omega
  have hn : (abs ⟨els, r, (r : Int) + n⟩).length = n := by rw [abs_length]; exact congrArg Int.toNat hs
  have hl : n ≤ els.length := Int.ofNat_le.mp (hs ▸ h2)
  have hc : r < els.length ∨ (els.length = 0 ∧ r = 0) := by omega
  have hr : r ≤ els.length := hc.elim Nat.le_of_lt fun ⟨_, e⟩ => e ▸ Nat.zero_le _
  refine ⟨els, r, _, by rw [hn]; rfl, rfl, hc, ext_lt (n := els.length) ?_ ?_ fun j hj => ?_⟩
  · rw [List.length_append, List.length_drop, List.length_take, Nat.min_eq_left hr, Nat.sub_add_cancel hr]
  · rw [List.length_append, List.length_replicate, hn, Nat.add_sub_cancel' hl]
  by_cases hjn : j < n
  · rw [rot_getElem?_phys els ((r : Int) + n) hr hj, List.getElem?_append_left (hn.symm ▸ hjn),
      abs_getElem? _ j (hn.symm ▸ hjn)]
  · rw [getElem?_append_zeros _ (hn.symm ▸ Nat.le_of_not_lt hjn) hj]
    by_cases hjc : r + j < els.length
    · rw [rot_getElem?_lt els hjc]; exact hd _ hjc (by omega) (by omega)
    · rw [rot_getElem?_ge els hr (Nat.le_of_not_lt hjc) hj]; exact hd _ (by omega) (by omega) (by omega)

/-- The write position and the capacity are given by equations, so that a caller hands them over as the code computed
them. -/
theorem Rep.done (h : Rep els r q) {wp c : Int} (hw : wp = r + q.length) (hc : (els.length : Int) = c) :
    Inv ⟨els, r, wp⟩ ∧ abs ⟨els, r, wp⟩ = q ∧ cap ⟨els, r, wp⟩ = c := by
  have hl := h.length_le
  have hle := h.le
  obtain ⟨hc', hR⟩ := h
  subst hw hc
  have hs : (r : Int) + q.length - r = q.length := by omega
  have hn : (abs ⟨els, r, (r : Int) + q.length⟩).length = q.length := by rw [abs_length]; exact congrArg Int.toNat hs
  refine ⟨⟨Int.natCast_nonneg r, Int.le_add_of_nonneg_right (Int.natCast_nonneg _),
    hs.symm ▸ Int.ofNat_le.mpr hl, by simp only; omega, fun i hi a b => ?_⟩, ext_lt hn rfl fun j hj => ?_, rfl⟩
  · simp only at hi a b ⊢
    by_cases hri : r ≤ i
    · rw [← rot_getElem?_of_ge els hri hi, hR,
        getElem?_append_zeros q (by omega) (Nat.lt_of_le_of_lt (Nat.sub_le i r) hi)]
    · rw [← rot_getElem?_of_lt els (Nat.lt_of_not_le hri), hR, getElem?_append_zeros q (by omega) (by omega)]
  · rw [abs_getElem? _ j (hn.symm ▸ hj),
      ← rot_getElem?_phys els _ hle (Nat.lt_of_lt_of_le hj hl), hR, List.getElem?_append_left hj]

theorem empty_inv : Inv empty ∧ abs empty = [] :=
  let ⟨hi, ha, _⟩ := (Rep.zeros 0).done (c := 0) rfl rfl; ⟨hi, ha⟩

theorem len_cap_spec (s : CS) (hi : Inv s) : s.len = (abs s).length ∧ ((abs s).length : Int) ≤ s.cap := by
  have h1 := hi.rw
  have h2 := hi.wc
  rw [abs_length, len, cap]
  omega

theorem front_spec (s : CS) (hi : Inv s) : front s = (abs s).head? := by
  obtain ⟨els, r, q, rfl, hq, h⟩ := hi.rep
  rw [hq]
  unfold front
  dsimp only
  cases q with
  | nil => exact if_pos rfl
  | cons x xs =>
    rw [if_neg (fun e => by have := Int.natCast_inj.mp e; simp at this), goGet_nat els _ r rfl, h.head]
    rfl

theorem index_nat (els : List Nat) (r w p : Nat) :
    index ⟨els, r, w⟩ p = if r + p < els.length then els[r + p]?
      else if w ≤ r + p then none else els[r + p - els.length]? := by
  unfold index
  dsimp only
  rw [if_neg (Int.not_lt.mpr (Int.natCast_nonneg p)), ← Int.natCast_add]
  by_cases hc : r + p < els.length
  · rw [if_pos (Int.ofNat_lt.mpr hc), if_pos hc, goGet_nat els _ (r + p) rfl]
  · rw [if_neg (mt Int.ofNat_lt.mp hc), if_neg hc]
    by_cases hw : w ≤ r + p
    · rw [if_pos (Int.ofNat_le.mpr hw), if_pos hw]
    · rw [if_neg (mt Int.ofNat_le.mp hw), if_neg hw,
        goGet_nat els _ (r + p - els.length) (Int.ofNat_sub (Nat.le_of_not_lt hc)).symm]

theorem index_spec (s : CS) (hi : Inv s) (pos : Int) :
    (pos < 0 → index s pos = none) ∧
    (0 ≤ pos → pos < (abs s).length → index s pos = (abs s)[pos.toNat]?) ∧
    ((abs s).length ≤ pos → index s pos = none ∨ index s pos = some 0) := by
  by_cases h0 : pos < 0
  · have e : index s pos = none := by simp [index, h0]
    exact ⟨fun _ => e, fun h => absurd h0 (Int.not_lt.mpr h), fun _ => Or.inl e⟩
  obtain ⟨p, rfl⟩ := Int.eq_ofNat_of_zero_le (Int.not_lt.mp h0)
  obtain ⟨els, r, q, rfl, hq, h⟩ := hi.rep
  have hl := h.length_le
  rw [hq, Int.toNat_natCast, index_nat]
  refine ⟨fun h => absurd h h0, fun _ hp => ?_, fun hp => ?_⟩
  · have hp := Int.ofNat_lt.mp hp
    rw [← List.getElem?_append_left (l₂ := List.replicate (els.length - q.length) 0) hp, ← h.rot,
      if_neg (Nat.not_le.mpr (Nat.add_lt_add_left hp r))]
    split
    · next hc => exact (rot_getElem?_lt els hc).symm
    · next hc => exact (rot_getElem?_ge els h.le (Nat.le_of_not_lt hc) (Nat.lt_of_lt_of_le hp hl)).symm
  · have hp := Int.ofNat_le.mp hp
    split
    · next hc =>
      right
      rw [← rot_getElem?_lt els hc, h.rot,
        getElem?_append_zeros q hp (Nat.lt_of_le_of_lt (Nat.le_add_left p r) hc)]
    · left
      exact if_pos (Nat.add_le_add_left hp r)

/-- One formula for both branches of `Slices`: `take` stops at the end of the array, and `n - (els.length - r)` is what
the window has beyond it (nothing when it ends before). -/
theorem slices_eq (els : List Nat) {r n : Nat} (hr : r ≤ els.length) (hn : n ≤ els.length) :
    slices ⟨els, r, ((r + n : Nat) : Int)⟩ = some ((els.drop r).take n, els.take (n - (els.length - r))) := by
  unfold slices
  dsimp only
  by_cases hw : r + n ≤ els.length
  · rw [if_pos (Int.ofNat_le.mpr hw), goSlice_nat els _ r (r + n) rfl (Nat.le_add_right r n) hw,
      Nat.add_sub_cancel_left, Nat.sub_eq_zero_of_le (Nat.le_sub_of_add_le' hw), List.take_zero]
  · have hge := Nat.le_of_not_le hw
    have e2 : goSlice els 0 ((r + n : Nat) - (els.length : Int)) = some ((els.drop 0).take (r + n - els.length - 0)) :=
      goSlice_nat els _ 0 (r + n - els.length) (Int.ofNat_sub hge).symm (Nat.zero_le _)
        (Nat.sub_le_iff_le_add.mpr (Nat.add_le_add hr hn))
    rw [if_neg (mt Int.ofNat_le.mp hw), goSlice_nat els _ r els.length rfl hr (Nat.le_refl _), e2,
      List.take_of_length_le (Nat.le_of_eq List.length_drop),
      List.take_of_length_le (l := els.drop r) (by rw [List.length_drop]; exact Nat.sub_le_iff_le_add'.mpr hge),
      ← wrap_sub hr]
    rfl

theorem slices_spec (s : CS) (hi : Inv s) : ∃ s1 s2, slices s = some (s1, s2) ∧ s1 ++ s2 = abs s := by
  obtain ⟨els, r, q, rfl, hq, h⟩ := hi.rep
  have hr := h.le
  have hR := congrArg (List.take q.length) h.rot
  rw [List.take_left' rfl] at hR
  rw [hq]
  refine ⟨_, _, slices_eq els hr h.length_le, Eq.trans ?_ hR⟩
  rw [List.take_append, List.length_drop, List.take_take,
    Nat.min_eq_left (Nat.sub_le_iff_le_add.mpr (by rw [Nat.add_sub_cancel' hr]; exact h.length_le))]

theorem copyAt_append (s1 : List Nat) (m : Nat) (s2 : List Nat) (h : s2.length ≤ m) :
    copyAt (s1 ++ List.replicate m 0) s1.length s2 = (s2.length, s1 ++ s2 ++ List.replicate (m - s2.length) 0) := by
  unfold copyAt
  have e : min (s1.length + m - s1.length) s2.length = s2.length := by
    rw [Nat.add_sub_cancel_left]; exact Nat.min_eq_right h
  simp only [List.length_append, List.length_replicate, e, List.take_length, List.take_left']
  congr 1
  rw [List.drop_append]
  simp [List.drop_replicate]

theorem copyAt_replicate (n : Nat) (s1 : List Nat) (h : s1.length ≤ n) :
    copyAt (List.replicate n 0) 0 s1 = (s1.length, s1 ++ List.replicate (n - s1.length) 0) :=
  copyAt_append [] n s1 h

theorem reserve_spec (s : CS) (hi : Inv s) (n : Int) :
    ∃ s', reserve s n = some s' ∧ Inv s' ∧ abs s' = abs s ∧ s'.cap = max s.cap n := by
  by_cases hn : n ≤ s.elements.length
  · exact ⟨s, by simp [reserve, hn], hi, rfl, (Int.max_eq_left hn).symm⟩
  · obtain ⟨s1, s2, es, hcat⟩ := slices_spec s hi
    have hc := (len_cap_spec s hi).2
    rw [← hcat, List.length_append, cap] at hc
    have h12 : s1.length + s2.length ≤ n.toNat := by omega
    have hl : (abs s ++ List.replicate (n.toNat - (abs s).length) 0).length = n.toNat := by
      rw [List.length_append, List.length_replicate, ← hcat, List.length_append, Nat.add_sub_cancel' h12]
    have e : reserve s n = some ⟨abs s ++ List.replicate (n.toNat - (abs s).length) 0, (0 : Nat),
        ((0 + (abs s).length : Nat) : Int)⟩ := by
      unfold reserve
      rw [if_neg hn, es]
      dsimp only
      rw [copyAt_replicate _ s1 (Nat.le_trans (Nat.le_add_right ..) h12)]
      dsimp only
      rw [copyAt_append s1 _ s2 (Nat.le_sub_of_add_le' h12)]
      dsimp only
      rw [if_neg (by simp), ← hcat, List.length_append, Nat.zero_add, Nat.sub_sub]
      rfl
    have hrep : Rep (abs s ++ List.replicate (n.toNat - (abs s).length) 0) 0 (abs s) :=
      ⟨Or.inl (by omega), by rw [hl, List.drop_zero, List.take_zero, List.append_nil]⟩
    exact ⟨_, e, hrep.done (Int.natCast_add 0 _) (by rw [hl, cap]; omega)⟩

theorem Rep.push (h : Rep els r q) (hn : q.length < els.length) (x : Nat)
    {els' : List Nat} (hl : els'.length = els.length)
    (hR : els'.drop r ++ els'.take r = (els.drop r ++ els.take r).set q.length x) : Rep els' r (q ++ [x]) := by
  refine ⟨by rw [hl]; exact h.rc, ?_⟩
  rw [hR, h.rot, List.set_append_right _ _ (Nat.le_refl _), Nat.sub_self, hl, List.length_append,
    List.length_singleton, ← Nat.sub_add_cancel (Nat.sub_pos_of_lt hn), Nat.sub_sub,
    List.replicate_succ, List.set_cons_zero, List.append_assoc]
  rfl

theorem Rep.set (h : Rep els r q) {j : Nat} (hj : j < q.length) (x : Nat)
    {els' : List Nat} (hl : els'.length = els.length)
    (hR : els'.drop r ++ els'.take r = (els.drop r ++ els.take r).set j x) : Rep els' r (q.set j x) :=
  ⟨by rw [hl]; exact h.rc, by rw [hR, h.rot, List.set_append_left _ _ hj, hl, List.length_set]⟩

theorem pushStore_spec (s : CS) (hi : Inv s) (hnf : (abs s).length < s.elements.length) (x : Nat) :
    ∃ s', pushStore s x = some s' ∧ Inv s' ∧ abs s' = abs s ++ [x] ∧ s'.cap = s.cap := by
  obtain ⟨els, r, q, rfl, hq, h⟩ := hi.rep
  rw [hq] at hnf ⊢
  dsimp only at hnf
  have hw' : ((r + q.length : Nat) : Int) + 1 = r + (q ++ [x]).length := by
    rw [List.length_append, List.length_singleton]; rfl
  unfold pushStore
  dsimp only
  by_cases hw : r + q.length < els.length
  · rw [if_pos (Int.ofNat_lt.mpr hw), goSet_nat els _ (r + q.length) x rfl hw]
    exact ⟨_, rfl, (h.push hnf x (List.length_set ..) (rot_set_lt els x hw)).done hw'
      (congrArg Nat.cast (List.length_set ..))⟩
  · have hw := Nat.le_of_not_lt hw
    rw [if_neg (Int.not_lt.mpr (Int.ofNat_le.mpr hw)),
      goSet_nat els _ (r + q.length - els.length) x (Int.ofNat_sub hw).symm (by have := h.lt hnf; omega)]
    exact ⟨_, rfl, (h.push hnf x (List.length_set ..) (rot_set_ge els x h.le hw hnf)).done hw'
      (congrArg Nat.cast (List.length_set ..))⟩

theorem pushBack_spec (s : CS) (hi : Inv s) (x : Nat) :
    ∃ s', pushBack s x = some s' ∧ Inv s' ∧ abs s' = abs s ++ [x] ∧ s.cap ≤ s'.cap := by
  obtain ⟨h1, h2⟩ := len_cap_spec s hi
  rw [len] at h1
  rw [cap] at h2
  unfold pushBack
  dsimp only
  rw [h1, if_neg (Int.not_lt.mpr h2)]
  by_cases hf : ((abs s).length : Int) = s.elements.length
  · rw [if_pos hf]
    have hgt : (s.elements.length : Int) < (if (s.elements.length : Int) < 4 then 4 else (s.elements.length : Int)) * 2 := by
      split <;> omega
    obtain ⟨s1, e1, i1, a1, c1⟩ := reserve_spec s hi _
    rw [e1]
    dsimp only
    rw [cap, cap, Int.max_eq_right (Int.le_of_lt hgt)] at c1
    obtain ⟨s', e', i', a', c'⟩ := pushStore_spec s1 i1 (by rw [a1]; omega) x
    exact ⟨s', e', i', by rw [a', a1], by rw [c', cap, cap, c1]; exact Int.le_of_lt hgt⟩
  · rw [if_neg hf]
    dsimp only
    obtain ⟨s', e', i', a', c'⟩ := pushStore_spec s hi (by omega) x
    exact ⟨s', e', i', a', Int.le_of_eq c'.symm⟩

theorem popFront_eq (els : List Nat) (r m : Nat) (hr : r < els.length) :
    popFront ⟨els, r, ((r + 1 + m : Nat) : Int)⟩ = some (els.getD r 0,
      if m = 0 then ⟨els.set r 0, 0, 0⟩
      else if els.length ≤ r + 1 then ⟨els.set r 0, 0, m⟩
      else ⟨els.set r 0, ((r + 1 : Nat) : Int), ((r + 1 + m : Nat) : Int)⟩) := by
  unfold popFront
  dsimp only
  rw [if_neg (mt Int.natCast_inj.mp (Nat.ne_of_gt (Nat.lt_add_right m (Nat.lt_succ_self r)))),
    goGet_nat els _ r rfl, getD_of_lt els r hr]
  dsimp only
  rw [goSet_nat els _ r 0 rfl hr]
  dsimp only
  rw [List.length_set, ← Int.natCast_succ]
  by_cases hw : els.length ≤ r + 1
  · rw [if_pos (Int.ofNat_le.mpr hw), if_pos hw, ← Int.ofNat_sub hw,
      ← Int.ofNat_sub (Nat.le_trans hw (Nat.le_add_right ..)), Nat.le_antisymm hw hr, Nat.sub_self,
      Nat.add_sub_cancel_left]
    dsimp only
    by_cases hm : m = 0
    · rw [if_pos (congrArg Nat.cast hm.symm), if_pos hm]
    · rw [if_neg (fun e => hm (Int.natCast_inj.mp e).symm), if_neg hm]; rfl
  · rw [if_neg (mt Int.ofNat_le.mp hw), if_neg hw]
    dsimp only
    by_cases hm : m = 0
    · rw [if_pos (by rw [hm]), if_pos hm]
    · rw [if_neg (fun e => hm (Nat.add_eq_left.mp (Int.natCast_inj.mp e).symm)), if_neg hm]

theorem popFront_spec (s : CS) (hi : Inv s) :
    (abs s = [] → popFront s = none) ∧
    (∀ x xs, abs s = x :: xs → ∃ s', popFront s = some (x, s') ∧ Inv s' ∧ abs s' = xs ∧ s'.cap = s.cap) := by
  obtain ⟨els, r, q, rfl, hq, h⟩ := hi.rep
  rw [hq]
  constructor
  · intro he
    subst he
    unfold popFront
    exact if_pos rfl
  · intro x xs he
    subst he
    have hl := h.length_le
    have hR : els.drop r ++ els.take r = x :: (xs ++ List.replicate (els.length - (xs.length + 1)) 0) := h.rot
    rw [List.length_cons] at hl
    have hr : r < els.length := h.lt hl
    have hx : els.getD r 0 = x := by rw [List.getD_eq_getElem?_getD, h.head]; rfl
    have hls : (els.set r 0).length = els.length := List.length_set ..
    have hc : (((els.set r 0).length : Nat) : Int) = els.length := congrArg Nat.cast hls
    -- read from `r + 1` on, the cell just emptied comes last
    have hS := rot_succ (l := els.set r 0) (hls.symm ▸ hr) ((rot_set_lt els (j := 0) 0 hr).trans (by rw [hR]; rfl))
    rw [List.append_assoc, ← List.replicate_succ',
      ← Nat.sub_sub, Nat.sub_add_cancel (Nat.sub_pos_of_lt hl), ← hls] at hS
    rw [show r + (x :: xs).length = r + 1 + xs.length from Nat.add_right_comm r xs.length 1,
      popFront_eq els r xs.length hr, hx]
    split
    · next hm =>
      obtain rfl : xs = [] := List.eq_nil_of_length_eq_zero hm
      exact ⟨_, rfl, Rep.done ⟨Or.inl (hls.symm ▸ Nat.zero_lt_of_lt hr), by
        rw [List.drop_zero, List.take_zero, List.append_nil]; exact rot_eq_replicate hS⟩ rfl hc⟩
    · split
      · next hw =>
        rw [show r + 1 = (els.set r 0).length by rw [hls]; omega, rot_length] at hS
        exact ⟨_, rfl, Rep.done ⟨Or.inl (hls.symm ▸ Nat.zero_lt_of_lt hr), hS⟩ (Int.zero_add _).symm hc⟩
      · next hw => exact ⟨_, rfl, Rep.done ⟨Or.inl (hls.symm ▸ Nat.lt_of_not_le hw), hS⟩ rfl hc⟩

theorem zeroRange_length (l : List Nat) (lo n : Nat) (h : lo ≤ l.length) : (zeroRange l lo n).length = l.length := by
  unfold zeroRange
  rw [List.length_append, List.length_append, List.length_take, List.length_replicate, List.length_drop,
    Nat.min_eq_left h, Nat.add_assoc, ← Nat.sub_sub, Nat.min_def]
  split
  · next h2 => rw [Nat.add_sub_cancel' h2, Nat.add_sub_cancel' h]
  · next h2 => rw [Nat.sub_eq_zero_of_le (Nat.le_of_not_le h2), Nat.add_zero, Nat.add_sub_cancel' h]

/-- One loop of `Clear`: cells from `k` on that are empty outside the range being zeroed are all empty afterwards. -/
theorem zeroRange_drop {l : List Nat} {lo n k a b : Nat} (hk : k ≤ lo) (hlo : lo ≤ l.length)
    (h1 : (l.take lo).drop k = List.replicate a 0) (h2 : l.drop (lo + n) = List.replicate b 0) :
    ∃ m, (zeroRange l lo n).drop k = List.replicate m 0 := by
  unfold zeroRange
  rw [List.append_assoc, List.drop_append_of_le_length (by rw [List.length_take, Nat.min_eq_left hlo]; exact hk), h1,
    h2, List.replicate_append_replicate, List.replicate_append_replicate]
  exact ⟨_, rfl⟩

theorem clear_spec (s : CS) (hi : Inv s) :
    ∃ s', clear s = some s' ∧ Inv s' ∧ abs s' = [] ∧ s'.cap = s.cap := by
  obtain ⟨els, r, q, rfl, -, h⟩ := hi.rep
  have hl := h.length_le
  have hr := h.le
  -- the cells behind the queue in the array's own order: the end of the array and the end of its first `r` cells
  have hd := congrArg (List.drop q.length) h.rot
  rw [List.drop_append, List.drop_drop, List.length_drop, List.drop_left' rfl] at hd
  obtain ⟨-, d2, d1⟩ := List.append_eq_replicate_iff.mp hd
  -- the second loop zeroes the part of the queue that lies before `r`, if any; the first loop the rest
  have key : ∀ n1 n2, n2 = q.length - (els.length - r) → (∃ b, els.drop (r + n1) = List.replicate b 0) →
      zeroRange (zeroRange els r n1) 0 n2 = List.replicate els.length 0 := by
    intro n1 n2 e2 ⟨b, hb⟩
    obtain ⟨m1, h1⟩ := zeroRange_drop (n := n1) (k := 0 + n2) (by omega) hr (by rw [Nat.zero_add, e2]; exact d1) hb
    obtain ⟨m, hm⟩ := zeroRange_drop (l := zeroRange els r n1) (n := n2) (a := 0) (Nat.le_refl 0) (Nat.zero_le _) rfl h1
    have hl2 := congrArg List.length hm
    rw [List.drop_zero, zeroRange_length _ _ _ (Nat.zero_le _), zeroRange_length _ _ _ hr,
      List.length_replicate] at hl2
    rw [List.drop_zero, ← hl2] at hm
    exact hm
  have fin := (Rep.zeros els.length).done (wp := 0) rfl
    (congrArg Nat.cast (List.length_replicate (n := els.length) (a := 0)))
  unfold clear
  rw [slices_eq els hr hl]
  dsimp only
  rw [Int.toNat_natCast, key]
  · exact ⟨_, rfl, fin⟩
  · rw [List.length_take, Nat.min_eq_left (Nat.le_trans (Nat.sub_le ..) hl)]
  · rw [List.length_take, List.length_drop]
    by_cases hw : q.length ≤ els.length - r
    · rw [Nat.min_eq_left hw]
      exact ⟨_, d2⟩
    · rw [Nat.min_eq_right (Nat.le_of_not_le hw), Nat.add_sub_cancel' hr, List.drop_length]
      exact ⟨0, rfl⟩

theorem indexSet_spec (s : CS) (hi : Inv s) (pos : Int) (v : Nat) (h0 : 0 ≤ pos) (hp : pos < (abs s).length) :
    ∃ s', indexSet s pos v = some s' ∧ Inv s' ∧ abs s' = (abs s).set pos.toNat v ∧ s'.cap = s.cap := by
  obtain ⟨p, rfl⟩ := Int.eq_ofNat_of_zero_le h0
  obtain ⟨els, r, q, rfl, hq, h⟩ := hi.rep
  rw [hq] at hp ⊢
  rw [Int.toNat_natCast]
  have hp := Int.ofNat_lt.mp hp
  have hpl : p < els.length := Nat.lt_of_lt_of_le hp h.length_le
  have hw' : ((r + q.length : Nat) : Int) = r + (q.set p v).length := by rw [List.length_set]; rfl
  unfold indexSet
  dsimp only
  rw [if_neg (Int.not_lt.mpr h0), ← Int.natCast_add]
  by_cases hw : r + p < els.length
  · rw [if_pos (Int.ofNat_lt.mpr hw), goSet_nat els _ (r + p) v rfl hw]
    exact ⟨_, rfl, (h.set hp v (List.length_set ..) (rot_set_lt els v hw)).done hw'
      (congrArg Nat.cast (List.length_set ..))⟩
  · have hw := Nat.le_of_not_lt hw
    rw [if_neg (Int.not_lt.mpr (Int.ofNat_le.mpr hw)),
      if_neg (Int.not_le.mpr (Int.ofNat_lt.mpr (Nat.add_lt_add_left hp r))),
      goSet_nat els _ (r + p - els.length) v (Int.ofNat_sub hw).symm (by have := h.lt hpl; omega)]
    exact ⟨_, rfl, (h.set hp v (List.length_set ..) (rot_set_ge els v h.le hw hpl)).done hw'
      (congrArg Nat.cast (List.length_set ..))⟩

theorem indexSet_neg (s : CS) (pos : Int) (v : Nat) (h : pos < 0) : indexSet s pos v = none := by
  simp [indexSet, h]

theorem goSet_length {l l' : List Nat} {i : Int} {x : Nat} (h : goSet l i x = some l') : l'.length = l.length := by
  revert h
  fun_cases goSet l i x
  · nofun
  · rintro ⟨⟩; exact List.length_set ..
  · nofun

theorem indexSet_length {s s' : CS} {pos : Int} {v : Nat} (h : indexSet s pos v = some s') :
    s'.elements.length = s.elements.length := by
  revert h
  fun_cases indexSet s pos v
  · nofun
  · nofun
  · rename_i he; rintro ⟨⟩; exact goSet_length he
  · nofun
  · nofun
  · rename_i he; rintro ⟨⟩; exact goSet_length he

end CS

def specQ (st : List Nat × List Nat) : QOp → List Nat × List Nat
  | .push x => (st.1 ++ [x], st.2)
  | .pop => (st.1.tail, st.2)
  | .clear => ([], st.2)
  | .swap => (st.2, st.1)
  | .deepAssign => (st.2, st.2)
  | .indexSet pos v => if 0 ≤ pos ∧ pos < st.1.length then (st.1.set pos.toNat v, st.2) else st
  | _ => st

/-- Documented use: a store through `IndexRef` only at a position inside the queue (a negative position panics
and is harmless; a position beyond the end may silently write a cell outside the live window). -/
def QOp.ok (a : List Nat) : QOp → Prop
  | .indexSet pos _ => pos < a.length
  | _ => True

instance (a : List Nat) (op : QOp) : Decidable (QOp.ok a op) := by
  cases op <;> unfold QOp.ok <;> infer_instance

/-- What the reference allows as observation of `op` on a queue with content `a`. -/
def QObsOk (a : List Nat) : QOp → QObs → Prop
  | .push _, o => o = .done
  | .reserve _, o => o = .done
  | .clear, o => o = .done
  | .swap, o => o = .done
  | .deepAssign, o => o = .done
  | .pop, o => o = (match a.head? with | none => .panic | some x => .val x)
  | .front, o => o = (match a.head? with | none => .panic | some x => .val x)
  | .index pos, o =>
    (pos < 0 → o = .panic) ∧
    (0 ≤ pos → pos < a.length → ∃ x, a[pos.toNat]? = some x ∧ o = .val x) ∧
    (a.length ≤ pos → o = .panic ∨ o = .val 0)
  | .indexSet pos _, o => (pos < 0 → o = .panic) ∧ (0 ≤ pos → pos < a.length → o = .done)
  | .len, o => o = .int a.length
  | .cap, o => ∃ c : Int, o = .int c ∧ a.length ≤ c
  | .slices, o => ∃ s1 s2, o = .two s1 s2 ∧ s1 ++ s2 = a

namespace CS

theorem apply_refines (s o : CS) (hs : Inv s) (ho : Inv o) (op : QOp) (hok : QOp.ok (abs s) op) :
    Inv (apply (s, o) op).1.1 ∧ Inv (apply (s, o) op).1.2 ∧
    (abs (apply (s, o) op).1.1, abs (apply (s, o) op).1.2) = specQ (abs s, abs o) op ∧
    QObsOk (abs s) op (apply (s, o) op).2 := by
  cases op with
  | push x =>
    obtain ⟨s', e, hi', ha', _⟩ := pushBack_spec s hs x
    simp only [apply, e, specQ, QObsOk]
    exact ⟨hi', ho, by rw [ha'], trivial⟩
  | pop =>
    obtain ⟨hp1, hp2⟩ := popFront_spec s hs
    cases hab : abs s with
    | nil =>
      simp only [apply, hp1 hab, specQ, QObsOk, hab]
      exact ⟨hs, ho, by simp, by simp⟩
    | cons x xs =>
      obtain ⟨s', e, hi', ha', _⟩ := hp2 x xs hab
      simp only [apply, e, specQ, QObsOk]
      exact ⟨hi', ho, by simp [ha'], by simp⟩
  | front =>
    simp only [apply, specQ, QObsOk, front_spec _ hs]
    refine ⟨hs, ho, trivial, ?_⟩
    cases (abs s).head? <;> rfl
  | index pos =>
    obtain ⟨i1, i2, i3⟩ := index_spec _ hs pos
    simp only [apply, specQ, QObsOk]
    refine ⟨hs, ho, trivial, fun h => by rw [i1 h], fun h0 hl => ?_, fun hl => ?_⟩
    · have hlt : pos.toNat < (abs s).length := by omega
      refine ⟨(abs s)[pos.toNat], List.getElem?_eq_getElem hlt, ?_⟩
      rw [i2 h0 hl, List.getElem?_eq_getElem hlt]
    · exact (i3 hl).imp (fun h => by rw [h]) (fun h => by rw [h])
  | indexSet pos v =>
    simp only [QOp.ok] at hok
    by_cases h0 : pos < 0
    · simp only [apply, indexSet_neg _ pos v h0, specQ, QObsOk]
      rw [if_neg (by omega)]
      exact ⟨hs, ho, rfl, fun _ => trivial, fun h => by omega⟩
    · obtain ⟨s', e, hi', ha', _⟩ := indexSet_spec s hs pos v (by omega) hok
      simp only [apply, e, specQ, QObsOk]
      rw [if_pos ⟨by omega, hok⟩]
      exact ⟨hi', ho, by rw [ha'], fun h => by omega, fun _ _ => trivial⟩
  | reserve n =>
    obtain ⟨s', e, hi', ha', _⟩ := reserve_spec s hs n
    simp only [apply, e, specQ, QObsOk]
    exact ⟨hi', ho, by rw [ha'], trivial⟩
  | clear =>
    obtain ⟨s', e, hi', ha', _⟩ := clear_spec s hs
    simp only [apply, e, specQ, QObsOk]
    exact ⟨hi', ho, by rw [ha'], trivial⟩
  | swap => exact ⟨ho, hs, rfl, rfl⟩
  | deepAssign => exact ⟨ho, ho, rfl, rfl⟩
  | len => exact ⟨hs, ho, rfl, congrArg QObs.int (len_cap_spec s hs).1⟩
  | cap => exact ⟨hs, ho, rfl, _, rfl, (len_cap_spec s hs).2⟩
  | slices =>
    obtain ⟨s1, s2, e, hcat⟩ := slices_spec s hs
    simp only [apply, e, QObsOk]
    exact ⟨hs, ho, rfl, s1, s2, rfl, hcat⟩

end CS

def ObsListOk : List Nat × List Nat → List QOp → List QObs → Prop
  | _, [], [] => True
  | st, op :: ops, o :: os => QObsOk st.1 op o ∧ ObsListOk (specQ st op) ops os
  | _, _, _ => False

/-- No `IndexRef` store of the history is at a position beyond the end of the queue at that time (`QOp.ok`; decidable). -/
def OpsOk : List Nat × List Nat → List QOp → Prop
  | _, [] => True
  | st, op :: ops => QOp.ok st.1 op ∧ OpsOk (specQ st op) ops

instance OpsOk.dec : ∀ (st : List Nat × List Nat) (ops : List QOp), Decidable (OpsOk st ops)
  | _, [] => isTrue trivial
  | st, op :: ops =>
    have := OpsOk.dec (specQ st op) ops
    (inferInstance : Decidable (QOp.ok st.1 op ∧ OpsOk (specQ st op) ops))

namespace CS

theorem run_refines : ∀ (ops : List QOp) (s o : CS), Inv s → Inv o → OpsOk (abs s, abs o) ops →
    Inv (run (s, o) ops).1.1 ∧ Inv (run (s, o) ops).1.2 ∧
    (abs (run (s, o) ops).1.1, abs (run (s, o) ops).1.2) = ops.foldl specQ (abs s, abs o) ∧
    ObsListOk (abs s, abs o) ops (run (s, o) ops).2 := by
  intro ops
  induction ops with
  | nil => intro s o hs ho _; exact ⟨hs, ho, rfl, trivial⟩
  | cons op ops ih =>
    intro s o hs ho hok
    obtain ⟨h1, h2, h3, h4⟩ := apply_refines s o hs ho op hok.1
    obtain ⟨g1, g2, g3, g4⟩ := ih _ _ h1 h2 (by rw [h3]; exact hok.2)
    simp only [run, List.foldl_cons]
    rw [← h3]
    exact ⟨g1, g2, g3, h4, by rw [← h3]; exact g4⟩

end CS
end TLVerif.Algo
