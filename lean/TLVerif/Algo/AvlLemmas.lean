import TLVerif.Algo.Avl
/-! The reference container of the tree map is a key-sorted association list; cut at any entry, its operations follow
the recursion of the tree operations at a node (`spec_node`), which is the whole of the refinement proofs once rotations
are known to keep the in-order contents. For `insert`, `extractMin`, `remove` they (`*_inorder`) speak of a call that
returns, on any search tree; that it returns at all comes with the stored-height invariant `HInv` (`*_hinv`), which is
separate: `repairBalance` is described case by case (balanced, one child two higher), and the three share one step,
`repairBalance_near`. `HInv` speaks of stored heights only; what it means for the shape of the tree (`hinv_real`, and with
`fib` the logarithmic height `realHeight_log`) is read off it afterwards, and the balance theorems of C41 rest on that. -/
namespace TLVerif.Algo

abbrev Entries := List (Int × Nat)

def SortedKeys (l : Entries) : Prop := l.Pairwise (fun a b => a.1 < b.1)

def specInsert (k : Int) (v : Nat) : Entries → Entries
  | [] => [(k, v)]
  | (a, b) :: t =>
    if a < k then (a, b) :: specInsert k v t
    else if k < a then (k, v) :: (a, b) :: t
    else (k, v) :: t

def specErase (k : Int) : Entries → Entries
  | [] => []
  | (a, b) :: t =>
    if a < k then (a, b) :: specErase k t
    else if k < a then (a, b) :: t
    else t

def specLookup (k : Int) : Entries → Option (Int × Nat)
  | [] => none
  | (a, b) :: t =>
    if a < k then specLookup k t
    else if k < a then none
    else some (a, b)

/-- Reference for a store through `GetPtr`: replace the value if the key is present. -/
def specUpdate (k : Int) (v : Nat) (l : Entries) : Entries :=
  match specLookup k l with
  | none => l
  | some _ => specInsert k v l

theorem sortedKeys_append_cons {xs ys : Entries} {a : Int} {b : Nat} : SortedKeys (xs ++ (a, b) :: ys) ↔
    SortedKeys xs ∧ SortedKeys ys ∧ (∀ x ∈ xs, x.1 < a) ∧ (∀ y ∈ ys, a < y.1) := by
  unfold SortedKeys
  rw [List.pairwise_append, List.pairwise_cons]
  constructor
  · rintro ⟨h1, ⟨h2, h3⟩, h4⟩
    exact ⟨h1, h3, fun x hx => h4 x hx _ (List.mem_cons_self ..), h2⟩
  · rintro ⟨h1, h2, h3, h4⟩
    refine ⟨h1, ⟨h4, h2⟩, fun x hx y hy => ?_⟩
    rcases List.mem_cons.mp hy with rfl | hy
    · exact h3 x hx
    · exact Int.lt_trans (h3 x hx) (h4 y hy)

theorem spec_node {k : Int} {v : Nat} {xs ys : Entries} {a : Int} {b : Nat} (hs : SortedKeys (xs ++ (a, b) :: ys)) :
    specInsert k v (xs ++ (a, b) :: ys) =
      (if a < k then xs ++ (a, b) :: specInsert k v ys
       else if k < a then specInsert k v xs ++ (a, b) :: ys
       else xs ++ (k, v) :: ys) ∧
    specErase k (xs ++ (a, b) :: ys) =
      (if a < k then xs ++ (a, b) :: specErase k ys
       else if k < a then specErase k xs ++ (a, b) :: ys
       else xs ++ ys) ∧
    specLookup k (xs ++ (a, b) :: ys) =
      (if a < k then specLookup k ys
       else if k < a then specLookup k xs
       else some (a, b)) := by
  induction xs with
  | nil => rw [List.nil_append, specInsert, specErase, specLookup]; exact ⟨rfl, rfl, rfl⟩
  | cons x xs ih =>
    obtain ⟨hx, hs⟩ := List.pairwise_cons.mp hs
    have hxa : x.1 < a := hx _ (List.mem_append_right _ (List.mem_cons_self ..))
    obtain ⟨i1, i2, i3⟩ := ih hs
    rw [List.cons_append, specInsert, specErase, specLookup, i1, i2, i3]
    by_cases h1 : a < k
    · simp only [if_pos h1, if_pos (Int.lt_trans hxa h1)]; exact ⟨rfl, rfl, trivial⟩
    · simp only [if_neg h1]
      by_cases h2 : k < a
      · simp only [if_pos h2]
        rw [specInsert, specErase, specLookup]
        split
        · exact ⟨rfl, rfl, rfl⟩
        · split <;> exact ⟨rfl, rfl, rfl⟩
      · simp only [if_neg h2, if_pos (show x.1 < k by omega)]; exact ⟨rfl, rfl, trivial⟩

theorem specUpdate_node {k : Int} {v : Nat} {xs ys : Entries} {a : Int} {b : Nat} (hs : SortedKeys (xs ++ (a, b) :: ys)) :
    specUpdate k v (xs ++ (a, b) :: ys) =
      if a < k then xs ++ (a, b) :: specUpdate k v ys
      else if k < a then specUpdate k v xs ++ (a, b) :: ys
      else xs ++ (k, v) :: ys := by
  unfold specUpdate
  rw [(spec_node (v := v) hs).2.2, (spec_node hs).1]
  by_cases h1 : a < k
  · simp only [if_pos h1]; cases specLookup k ys <;> rfl
  · by_cases h2 : k < a
    · simp only [if_neg h1, if_pos h2]; cases specLookup k xs <;> rfl
    · simp only [if_neg h1, if_neg h2]

/-- On a sorted list `specErase` stops where nothing is left to remove. -/
theorem specErase_eq_filter (k : Int) (l : Entries) (hs : SortedKeys l) : specErase k l = l.filter (·.1 ≠ k) := by
  induction l with
  | nil => rfl
  | cons y t ih =>
    obtain ⟨a, b⟩ := y
    obtain ⟨hy, ht⟩ := List.pairwise_cons.mp hs
    rw [specErase]
    split
    · rw [ih ht, List.filter_cons_of_pos (by simp only [decide_eq_true_eq]; omega)]
    · have e : t.filter (·.1 ≠ k) = t :=
        List.filter_eq_self.mpr fun x hx => by have := hy x hx; simp only [decide_eq_true_eq]; omega
      split
      · rw [List.filter_cons_of_pos (by simp only [decide_eq_true_eq]; omega), e]
      · rw [List.filter_cons_of_neg (by simp only [decide_eq_true_eq]; omega), e]

theorem mem_specErase_iff (k : Int) (l : Entries) (hs : SortedKeys l) (x : Int × Nat) :
    x ∈ specErase k l ↔ x ∈ l ∧ x.1 ≠ k := by
  rw [specErase_eq_filter k l hs, List.mem_filter, decide_eq_true_eq]

theorem sorted_specErase (k : Int) (l : Entries) (hs : SortedKeys l) : SortedKeys (specErase k l) := by
  rw [specErase_eq_filter k l hs]; exact hs.filter _

theorem mem_specInsert (k : Int) (v : Nat) (l : Entries) (x : Int × Nat) :
    x ∈ specInsert k v l ↔ x = (k, v) ∨ x ∈ specErase k l := by
  induction l with
  | nil => simp [specInsert, specErase]
  | cons y t ih =>
    rw [specInsert, specErase]
    split
    · rw [List.mem_cons, List.mem_cons, ih, or_left_comm]
    · split <;> exact List.mem_cons

theorem mem_specInsert_iff (k : Int) (v : Nat) (l : Entries) (hs : SortedKeys l) (x : Int × Nat) :
    x ∈ specInsert k v l ↔ x = (k, v) ∨ (x ∈ l ∧ x.1 ≠ k) := by
  rw [mem_specInsert, mem_specErase_iff k l hs]

theorem sorted_specInsert (k : Int) (v : Nat) (l : Entries) (hs : SortedKeys l) : SortedKeys (specInsert k v l) := by
  induction l with
  | nil => exact List.pairwise_singleton ..
  | cons y t ih =>
    obtain ⟨a, b⟩ := y
    obtain ⟨hy, ht⟩ := List.pairwise_cons.mp hs
    rw [specInsert]
    split
    · rename_i hak
      refine List.pairwise_cons.mpr ⟨fun x hx => ?_, ih ht⟩
      rcases (mem_specInsert_iff k v t ht x).mp hx with rfl | h
      · exact hak
      · exact hy x h.1
    · have hk : ∀ x ∈ t, k < x.1 := fun x hx => by have := hy x hx; omega
      split
      · rename_i h
        exact List.pairwise_cons.mpr ⟨List.forall_mem_cons.mpr ⟨h, hk⟩, hs⟩
      · exact List.pairwise_cons.mpr ⟨hk, ht⟩

theorem sorted_specUpdate (k : Int) (v : Nat) (l : Entries) (hs : SortedKeys l) : SortedKeys (specUpdate k v l) := by
  unfold specUpdate
  cases specLookup k l with
  | none => exact hs
  | some _ => exact sorted_specInsert k v l hs

namespace Tree

@[simp] theorem inorder_mk (k : Int) (v : Nat) (l r : Tree) : inorder (mk k v l r) = inorder l ++ (k, v) :: inorder r := rfl
@[simp] theorem getHeight_mk (k : Int) (v : Nat) (l r : Tree) : (mk k v l r).getHeight = 1 + max l.getHeight r.getHeight := rfl

theorem rotateRight_inorder {t t' : Tree} (h : rotateRight t = some t') : inorder t' = inorder t := by
  unfold rotateRight at h
  split at h
  · cases h; simp [inorder]
  · cases h

theorem rotateLeft_inorder {t t' : Tree} (h : rotateLeft t = some t') : inorder t' = inorder t := by
  unfold rotateLeft at h
  split at h
  · cases h; simp [inorder]
  · cases h

theorem bigRotateRight_inorder {t t' : Tree} (h : bigRotateRight t = some t') : inorder t' = inorder t := by
  unfold bigRotateRight at h
  split at h
  · cases h
  · split at h
    · cases h
    · rename_i hl
      rw [rotateRight_inorder h]; simp [inorder, rotateLeft_inorder hl]

theorem bigRotateLeft_inorder {t t' : Tree} (h : bigRotateLeft t = some t') : inorder t' = inorder t := by
  unfold bigRotateLeft at h
  split at h
  · cases h
  · split at h
    · cases h
    · rename_i hl
      rw [rotateLeft_inorder h]; simp [inorder, rotateRight_inorder hl]

theorem repairBalance_inorder {t t' : Tree} (h : repairBalance t = some t') : inorder t' = inorder t := by
  revert h
  fun_cases repairBalance t
  · nofun
  · exact bigRotateLeft_inorder
  · exact rotateLeft_inorder
  · exact bigRotateRight_inorder
  · exact rotateRight_inorder
  · exact fun h => Option.some.inj h ▸ rfl

theorem insert_inorder (c : Nat) (k : Int) (v : Nat) : ∀ (t t' : Tree), SortedKeys (inorder t) →
    insert c t k v = some t' → inorder t' = specInsert k v (inorder t)
  | nil, _, _, h => by cases h; rfl
  | node nk nv l r _, t', hs, h => by
    obtain ⟨hsl, hsr, -, -⟩ := sortedKeys_append_cons.mp hs
    rw [inorder, (spec_node hs).1]
    rw [insert] at h
    split at h
    · split at h
      · cases h
      · rename_i hlt _ r' hr'
        rw [if_pos hlt, repairBalance_inorder h, inorder, insert_inorder c k v r r' hsr hr']
    · split at h
      · split at h
        · cases h
        · rename_i hge hlt _ l' hl'
          rw [if_neg hge, if_pos hlt, repairBalance_inorder h, inorder, insert_inorder c k v l l' hsl hl']
      · rename_i hge hle
        rw [if_neg hge, if_neg hle, repairBalance_inorder h, inorder]

theorem extractMin_inorder (t t' : Tree) (e : Int × Nat) (h : extractMin t = some (e, t')) :
    inorder t = e :: inorder t' := by
  revert h
  fun_induction extractMin t generalizing t' e
  · nofun
  · rintro ⟨⟩; rfl
  · nofun
  · nofun
  · rename_i hl' _ ht'' ih
    rintro ⟨⟩
    rw [repairBalance_inorder ht'', inorder, ih _ _ hl']
    rfl

theorem remove_inorder (k : Int) : ∀ (t t' : Tree), SortedKeys (inorder t) →
    remove t k = some t' → inorder t' = specErase k (inorder t)
  | nil, _, _, h => by cases h; rfl
  | node nk nv l r _, t', hs, h => by
    obtain ⟨hsl, hsr, -, -⟩ := sortedKeys_append_cons.mp hs
    rw [inorder, (spec_node (v := 0) hs).2.1]
    simp only [remove] at h
    split at h
    · split at h
      · cases h
      · rename_i hlt _ r' hr'
        rw [if_pos hlt, repairBalance_inorder h, inorder, remove_inorder k r r' hsr hr']
    · split at h
      · split at h
        · cases h
        · rename_i hge hlt _ l' hl'
          rw [if_neg hge, if_pos hlt, repairBalance_inorder h, inorder, remove_inorder k l l' hsl hl']
      · rename_i hge hle
        rw [if_neg hge, if_neg hle]
        split at h
        · cases h; rfl
        · cases h; exact (List.append_nil _).symm
        · split at h
          · cases h
          · rename_i hr'
            rw [repairBalance_inorder h, inorder, extractMin_inorder _ _ _ hr']

theorem inorder_ne_nil (k : Int) (v : Nat) (l r : Tree) (h : Nat) : inorder (node k v l r h) ≠ [] := by
  simp [inorder]

theorem find_eq (k : Int) : ∀ (t : Tree), SortedKeys (inorder t) → find t k = specLookup k (inorder t)
  | nil, _ => rfl
  | node nk nv l r _, hs => by
    obtain ⟨hsl, hsr, -, -⟩ := sortedKeys_append_cons.mp hs
    rw [find, inorder, (spec_node (v := 0) hs).2.2, find_eq k l hsl, find_eq k r hsr]

theorem setValue_inorder (k : Int) (v : Nat) : ∀ (t : Tree), SortedKeys (inorder t) →
    inorder (setValue t k v) = specUpdate k v (inorder t)
  | nil, _ => rfl
  | node nk nv l r _, hs => by
    obtain ⟨hsl, hsr, -, -⟩ := sortedKeys_append_cons.mp hs
    rw [inorder, specUpdate_node hs, ← setValue_inorder k v l hsl, ← setValue_inorder k v r hsr, setValue]
    split
    · rfl
    · split
      · rfl
      · rw [inorder, show nk = k by omega]

theorem findMin_eq : ∀ (t : Tree), findMin t = (inorder t).head?
  | nil => rfl
  | node k v nil r _ => rfl
  | node k v (node lk lv ll lr lh) r _ => by
    rw [findMin, findMin_eq]; simp [inorder]

theorem getLast?_append_cons (l1 : Entries) (a : Int × Nat) (l2 : Entries) :
    (l1 ++ a :: l2).getLast? = (a :: l2).getLast? := by
  rw [List.getLast?_append, List.getLast?_cons]; rfl

theorem findMax_eq : ∀ (t : Tree), findMax t = (inorder t).getLast?
  | nil => rfl
  | node k v l nil _ => by simp [findMax, inorder]
  | node k v l (node rk rv rl rr rh) _ => by
    show findMax (node rk rv rl rr rh) = (inorder l ++ (k, v) :: inorder (node rk rv rl rr rh)).getLast?
    rw [findMax_eq, getLast?_append_cons, List.getLast?_cons_of_ne_nil (inorder_ne_nil rk rv rl rr rh)]

theorem validate_iff : ∀ (t : Tree) (lo hi : Option Int), validate t lo hi = true ↔
    (SortedKeys (inorder t) ∧ (∀ b, lo = some b → ∀ x ∈ inorder t, b < x.1) ∧
      (∀ b, hi = some b → ∀ x ∈ inorder t, x.1 < b)) := by
  intro t
  induction t with
  | nil => intro lo hi; simp [validate, inorder, SortedKeys]
  | node k v l r h ihl ihr =>
    intro lo hi
    have hlo : (match lo with | some b => decide (b < k) | none => true) = true ↔ ∀ b, lo = some b → b < k := by
      cases lo <;> simp
    have hhi : (match hi with | some b => decide (k < b) | none => true) = true ↔ ∀ b, hi = some b → k < b := by
      cases hi <;> simp
    simp only [validate, Bool.and_eq_true, ihl, ihr, inorder, sortedKeys_append_cons, List.forall_mem_append,
      List.forall_mem_cons, Option.some.injEq, forall_eq']
    constructor
    · rintro ⟨⟨⟨h1, h2⟩, hsl, hll, hlk⟩, hsr, hrk, hrh⟩
      replace h1 := hlo.mp h1
      replace h2 := hhi.mp h2
      exact ⟨⟨hsl, hsr, hlk, hrk⟩, fun b hb => ⟨hll b hb, h1 b hb, fun x hx => Int.lt_trans (h1 b hb) (hrk x hx)⟩,
        fun b hb => ⟨fun x hx => Int.lt_trans (hlk x hx) (h2 b hb), h2 b hb, hrh b hb⟩⟩
    · rintro ⟨⟨hsl, hsr, hlk, hrk⟩, h1, h2⟩
      exact ⟨⟨⟨hlo.mpr fun b hb => (h1 b hb).2.1, hhi.mpr fun b hb => (h2 b hb).2.1⟩, hsl, fun b hb => (h1 b hb).1, hlk⟩,
        hsr, hrk, fun b hb => (h2 b hb).2.2⟩

end Tree

def fib : Nat → Nat
  | 0 => 0
  | 1 => 1
  | n + 2 => fib n + fib (n + 1)

theorem fib_add_two (n : Nat) : fib (n + 2) = fib n + fib (n + 1) := rfl

theorem fib_le_succ : ∀ n, fib n ≤ fib (n + 1)
  | 0 => by decide
  | n + 1 => Nat.le_add_left (fib (n + 1)) (fib n)

theorem fib_mono {m n : Nat} (h : m ≤ n) : fib m ≤ fib n := by
  induction h with
  | refl => exact Nat.le_refl _
  | step _ ih => exact Nat.le_trans ih (fib_le_succ _)

theorem two_pow_le_fib : ∀ n, 2 ^ n ≤ fib (2 * n + 1)
  | 0 => by decide
  | n + 1 => by
    have ih := two_pow_le_fib n
    have e : 2 * (n + 1) + 1 = (2 * n + 1) + 2 := by omega
    have := fib_le_succ (2 * n + 1)
    rw [e, fib_add_two, Nat.pow_succ]; omega

namespace Tree

@[simp] theorem getHeight_node (k : Int) (v : Nat) (l r : Tree) (h : Nat) : (node k v l r h).getHeight = h := rfl
@[simp] theorem getHeight_nil : nil.getHeight = 0 := rfl

/-- The invariant on the **stored** heights that the code really maintains, for a new-leaf constant `c`:
every node is either a never-revisited leaf (height field still `c`) or carries `1 + max` of its children's
stored heights; and the stored heights of siblings differ by at most 1. -/
def HInv (c : Nat) : Tree → Prop
  | nil => True
  | node _ _ l r h => HInv c l ∧ HInv c r ∧
      ((l = nil ∧ r = nil ∧ h = c) ∨ h = 1 + max l.getHeight r.getHeight) ∧
      l.getHeight ≤ r.getHeight + 1 ∧ r.getHeight ≤ l.getHeight + 1

theorem hinv_mk_iff {c : Nat} {k : Int} {v : Nat} {l r : Tree} : HInv c (mk k v l r) ↔
    HInv c l ∧ HInv c r ∧ l.getHeight ≤ r.getHeight + 1 ∧ r.getHeight ≤ l.getHeight + 1 :=
  ⟨fun ⟨hl, hr, _, h1, h2⟩ => ⟨hl, hr, h1, h2⟩, fun ⟨hl, hr, h1, h2⟩ => ⟨hl, hr, Or.inr rfl, h1, h2⟩⟩

/-- For `c ≤ 1`: a fresh leaf whose field is positive has `c = 1`, and then it is `mk k v nil nil` too. -/
theorem HInv.eq_mk {c : Nat} (hc : c ≤ 1) {t : Tree} (hi : HInv c t) {n : Nat} (hn : t.getHeight = n + 1) :
    ∃ k v l r, t = mk k v l r ∧ HInv c l ∧ HInv c r ∧
      l.getHeight ≤ n ∧ r.getHeight ≤ n ∧ n ≤ l.getHeight + 1 ∧ n ≤ r.getHeight + 1 := by
  cases t with
  | nil => cases hn
  | node k v l r h =>
    obtain ⟨hl, hr, hh, h1, h2⟩ := hi
    rw [getHeight_node] at hn
    have e : h = 1 + max l.getHeight r.getHeight := by
      rcases hh with ⟨rfl, rfl, e⟩ | e
      · show h = 1; omega
      · exact e
    exact ⟨k, v, l, r, e ▸ rfl, hl, hr, by omega⟩

theorem calcBalance_mk (k : Int) (v : Nat) (l r : Tree) :
    (mk k v l r).calcBalance = (r.getHeight : Int) - (l.getHeight : Int) := rfl

theorem repairBalance_balanced (k : Int) (v : Nat) {l r : Tree} (h : Nat)
    (h1 : l.getHeight ≤ r.getHeight + 1) (h2 : r.getHeight ≤ l.getHeight + 1) :
    repairBalance (node k v l r h) = some (mk k v l r) := by
  unfold repairBalance
  dsimp only
  rw [calcBalance_mk, if_neg (by omega), if_neg (by omega)]

/-- `repairBalance` where one child is two higher than the other: in both rotation cases the result is made of the lower
child and the children (grandchildren) of the higher one, whose stored heights are known relative to that of the lower child.
The bounds are stated against the lower child too: the higher one is a `mk` by then, and its `max` would enter every `omega`. -/
theorem repairBalance_heavy (c : Nat) (hc : c ≤ 1) (k : Int) (v : Nat) {l r : Tree} (h : Nat)
    (hl : HInv c l) (hr : HInv c r) (hb : r.getHeight = l.getHeight + 2 ∨ l.getHeight = r.getHeight + 2) :
    ∃ t, repairBalance (node k v l r h) = some t ∧ HInv c t ∧
      min l.getHeight r.getHeight + 2 ≤ t.getHeight ∧ t.getHeight ≤ min l.getHeight r.getHeight + 3 := by
  unfold repairBalance
  dsimp only
  rw [calcBalance_mk]
  rcases hb with hb | hb
  · rw [Nat.min_eq_left (by omega), if_pos (by omega)]
    obtain ⟨rk, rv, rl, rr, rfl, hrl, hrr, h1, h2, h3, h4⟩ := hr.eq_mk hc hb
    rw [calcBalance_mk]
    by_cases hb1 : (rr.getHeight : Int) - rl.getHeight = -1
    · rw [if_pos hb1]
      obtain ⟨ak, av, al, ar, rfl, hal, har, a1, a2, a3, a4⟩ := hrl.eq_mk hc (n := l.getHeight) (by omega)
      have e : rr.getHeight = l.getHeight := by omega
      refine ⟨_, rfl, ?_⟩
      simp only [hinv_mk_iff, getHeight_mk, hl, hal, har, hrr, true_and, e, Nat.max_eq_left a1, Nat.max_eq_right a2,
        Nat.max_self]
      omega
    · rw [if_neg hb1]
      refine ⟨_, rfl, ?_⟩
      simp only [hinv_mk_iff, getHeight_mk, hl, hrl, hrr, true_and, Nat.max_eq_right (Nat.le_of_succ_le_succ h3),
        Nat.max_eq_left (by omega : rr.getHeight ≤ 1 + rl.getHeight)]
      omega
  · rw [Nat.min_eq_right (by omega), if_neg (by omega), if_pos (by omega)]
    obtain ⟨lk, lv, ll, lr, rfl, hll, hlr, h1, h2, h3, h4⟩ := hl.eq_mk hc hb
    rw [calcBalance_mk]
    by_cases hb1 : (lr.getHeight : Int) - ll.getHeight = 1
    · rw [if_pos hb1]
      obtain ⟨ak, av, al, ar, rfl, hal, har, a1, a2, a3, a4⟩ := hlr.eq_mk hc (n := r.getHeight) (by omega)
      have e : ll.getHeight = r.getHeight := by omega
      refine ⟨_, rfl, ?_⟩
      simp only [hinv_mk_iff, getHeight_mk, hr, hal, har, hll, true_and, e, Nat.max_eq_left a1, Nat.max_eq_right a2,
        Nat.max_self]
      omega
    · rw [if_neg hb1]
      refine ⟨_, rfl, ?_⟩
      simp only [hinv_mk_iff, getHeight_mk, hr, hll, hlr, true_and, Nat.max_eq_left (Nat.le_of_succ_le_succ h4),
        Nat.max_eq_right (by omega : ll.getHeight ≤ 1 + lr.getHeight)]
      omega

/-- `t'` may take the place of `t` as a child. The last clause is for a parent that is a never-revisited leaf: its field
is `c`, and the rebuilt node, one higher than its new child, has to be near it. -/
def Near (c : Nat) (t t' : Tree) : Prop :=
  HInv c t' ∧ t.getHeight ≤ t'.getHeight + 1 ∧ t'.getHeight ≤ t.getHeight + 1 ∧ (t = nil → t'.getHeight ≤ c)

theorem Near.refl {c : Nat} {t : Tree} (hi : HInv c t) : Near c t t :=
  ⟨hi, Nat.le_succ _, Nat.le_succ _, fun h => h ▸ Nat.zero_le c⟩

/-- For the steps that drop a node with a `nil` child: the other child `t` takes its place. -/
theorem near_of_max {c : Nat} (hc : c ≤ 1) {k : Int} {v : Nat} {l r : Tree} {h : Nat} (hi : HInv c (node k v l r h))
    {t : Tree} (ht : HInv c t) (e : max l.getHeight r.getHeight = t.getHeight) : Near c (node k v l r h) t := by
  unfold Near
  rw [getHeight_node, ← e]
  rcases hi.2.2.1 with ⟨rfl, rfl, rfl⟩ | rfl
  · exact ⟨ht, hc, Nat.zero_le _, nofun⟩
  · exact ⟨ht, Nat.le_of_eq (Nat.add_comm ..), by omega, nofun⟩

/-- `hone`: only one child comes from a recursive call (two could end three apart); `k' v'`: `remove` moves another entry in. -/
theorem repairBalance_near (c : Nat) (hc : c ≤ 1) {k : Int} {v : Nat} {l r : Tree} {h : Nat}
    (hi : HInv c (node k v l r h)) (k' : Int) (v' : Nat) {l' r' : Tree} (nl : Near c l l') (nr : Near c r r')
    (hone : l'.getHeight = l.getHeight ∨ r'.getHeight = r.getHeight) :
    ∃ t, repairBalance (node k' v' l' r' h) = some t ∧ Near c (node k v l r h) t := by
  obtain ⟨_, _, hh, hb1, hb2⟩ := hi
  obtain ⟨hl', a1, a2, a3⟩ := nl
  obtain ⟨hr', b1, b2, b3⟩ := nr
  -- of the old height `h` only bounds matter, stated without `max`: both children are lower, by at most two
  replace hh : l.getHeight = 0 ∧ r.getHeight = 0 ∧ l'.getHeight ≤ c ∧ r'.getHeight ≤ c ∧ h = c ∨
      l.getHeight + 1 ≤ h ∧ r.getHeight + 1 ≤ h ∧ h ≤ l.getHeight + 2 ∧ h ≤ r.getHeight + 2 := by
    rcases hh with ⟨rfl, rfl, rfl⟩ | e
    · exact .inl ⟨rfl, rfl, a3 rfl, b3 rfl, rfl⟩
    · exact .inr (by omega)
  clear a3 b3
  suffices ∃ t, repairBalance (node k' v' l' r' h) = some t ∧ HInv c t ∧ h ≤ t.getHeight + 1 ∧ t.getHeight ≤ h + 1 from
    let ⟨t, e, ht, n1, n2⟩ := this; ⟨t, e, ht, n1, n2, nofun⟩
  by_cases d : l'.getHeight ≤ r'.getHeight + 1 ∧ r'.getHeight ≤ l'.getHeight + 1
  · refine ⟨_, repairBalance_balanced k' v' h d.1 d.2, hinv_mk_iff.mpr ⟨hl', hr', d⟩, ?_⟩
    rw [getHeight_mk]
    omega
  · -- the one real step: out of balance means by exactly two, as one child kept its height, the other moved by at most one
    obtain ⟨t, e, ht, c1, c2⟩ := repairBalance_heavy c hc k' v' h hl' hr' (by omega)
    exact ⟨t, e, ht, by omega⟩

theorem insert_hinv (c : Nat) (hc : c ≤ 1) (k : Int) (v : Nat) : ∀ (t : Tree), HInv c t →
    ∃ t', insert c t k v = some t' ∧ Near c t t' := by
  intro t
  induction t with
  | nil =>
    intro _
    exact ⟨node k v nil nil c, rfl, ⟨trivial, trivial, Or.inl ⟨rfl, rfl, rfl⟩, Nat.le_succ _, Nat.le_succ _⟩,
      Nat.zero_le _, hc, fun _ => Nat.le_refl c⟩
  | node nk nv l r h ihl ihr =>
    intro hi
    simp only [insert]
    split
    · obtain ⟨r', e, nr⟩ := ihr hi.2.1
      rw [e]
      exact repairBalance_near c hc hi nk nv (.refl hi.1) nr (.inl rfl)
    · split
      · obtain ⟨l', e, nl⟩ := ihl hi.1
        rw [e]
        exact repairBalance_near c hc hi nk nv nl (.refl hi.2.1) (.inr rfl)
      · exact repairBalance_near c hc hi k v (.refl hi.1) (.refl hi.2.1) (.inl rfl)

theorem extractMin_hinv (c : Nat) (hc : c ≤ 1) : ∀ (t : Tree), t ≠ nil → HInv c t →
    ∃ e t', extractMin t = some (e, t') ∧ Near c t t' := by
  intro t
  induction t with
  | nil => intro h; exact absurd rfl h
  | node k v l r h ihl _ =>
    intro _ hi
    cases l with
    | nil => exact ⟨(k, v), r, rfl, near_of_max hc hi hi.2.1 (Nat.zero_max _)⟩
    | node lk lv ll lr lh =>
      obtain ⟨e, l', el, nl⟩ := ihl (fun h => nomatch h) hi.1
      simp only [extractMin, el]
      obtain ⟨t, et, ht⟩ := repairBalance_near c hc hi k v nl (.refl hi.2.1) (.inr rfl)
      rw [et]
      exact ⟨e, t, rfl, ht⟩

/-- The stored height can *grow* by one under `remove`: passing through a never-revisited leaf recomputes its field. -/
theorem remove_hinv (c : Nat) (hc : c ≤ 1) (k : Int) : ∀ (t : Tree), HInv c t →
    ∃ t', remove t k = some t' ∧ Near c t t' := by
  intro t
  induction t with
  | nil => intro hi; exact ⟨nil, rfl, .refl hi⟩
  | node nk nv l r h ihl ihr =>
    intro hi
    simp only [remove]
    split
    · obtain ⟨r', e, nr⟩ := ihr hi.2.1
      rw [e]
      exact repairBalance_near c hc hi nk nv (.refl hi.1) nr (.inl rfl)
    · split
      · obtain ⟨l', e, nl⟩ := ihl hi.1
        rw [e]
        exact repairBalance_near c hc hi nk nv nl (.refl hi.2.1) (.inr rfl)
      · cases l with
        | nil => exact ⟨r, rfl, near_of_max hc hi hi.2.1 (Nat.zero_max _)⟩
        | node lk lv ll lr lh =>
          cases r with
          | nil => exact ⟨_, rfl, near_of_max hc hi hi.1 (Nat.max_zero _)⟩
          | node rk rv rl rr rh =>
            obtain ⟨e, r', er, nr⟩ := extractMin_hinv c hc (node rk rv rl rr rh) (fun h => nomatch h) hi.2.1
            simp only [er]
            exact repairBalance_near c hc hi e.1 e.2 (.refl hi.1) nr (.inl rfl)

/-- Without subtraction: `+ c ≤ getHeight + 1` is "the stored height lags the real one by at most `1 - c`",
`+ c ≤ 2` is "real heights of siblings differ by at most `2 - c`". -/
theorem hinv_real (c : Nat) (hc : c ≤ 1) : ∀ (t : Tree), HInv c t →
    (t.getHeight ≤ t.realHeight ∧ t.realHeight + c ≤ t.getHeight + 1) ∧ t.maxRealBalance + c ≤ 2 ∧
    fib (t.getHeight + 2) ≤ t.size + 1 := by
  intro t
  induction t with
  | nil => intro _; exact ⟨⟨Nat.le_refl _, by simp only [realHeight, getHeight_nil]; omega⟩, by simp only [maxRealBalance]; omega, by decide⟩
  | node k v l r h ihl ihr =>
    intro hi
    obtain ⟨hl, hr, hh, hb1, hb2⟩ := hi
    rcases hh with ⟨rfl, rfl, rfl⟩ | rfl
    · rcases (by omega : h = 0 ∨ h = 1) with rfl | rfl <;> simp [realHeight, maxRealBalance, size, fib]
    · obtain ⟨rl, bl, il⟩ := ihl hl
      obtain ⟨rr, br, ir⟩ := ihr hr
      have hm {a b : Nat} (ha : a + c ≤ 2) (hb : b + c ≤ 2) : max a b + c ≤ 2 := by
        rw [Nat.max_def]; split <;> assumption
      refine ⟨by simp only [realHeight, getHeight_node]; omega, hm (hm (by omega) (by omega)) (hm bl br), ?_⟩
      simp only [size, getHeight_node]
      have e (n : Nat) : fib (1 + n + 2) = fib (n + 1) + fib (n + 2) := by rw [Nat.add_comm 1]; rfl
      rcases Nat.le_total l.getHeight r.getHeight with hab | hab
      · have : fib (r.getHeight + 1) ≤ fib (l.getHeight + 2) := fib_mono (by omega)
        rw [Nat.max_eq_right hab, e]; omega
      · have : fib (l.getHeight + 1) ≤ fib (r.getHeight + 2) := fib_mono (by omega)
        rw [Nat.max_eq_left hab, e]; omega

theorem realHeight_log (c : Nat) (hc : c ≤ 1) (t : Tree) (hi : HInv c t) :
    fib (t.realHeight + 1 + c) ≤ t.size + 1 ∧ 2 ^ (t.realHeight / 2) ≤ t.size + 1 := by
  obtain ⟨hstored, -, hfib⟩ := hinv_real c hc t hi
  have h3 : fib (t.realHeight + 1 + c) ≤ fib (t.getHeight + 2) := fib_mono (by omega)
  refine ⟨by omega, ?_⟩
  have h4 := two_pow_le_fib (t.realHeight / 2)
  have h5 : fib (2 * (t.realHeight / 2) + 1) ≤ fib (t.realHeight + 1 + c) := fib_mono (by omega)
  omega

theorem size_eq_length : ∀ (t : Tree), t.size = (inorder t).length := by
  intro t
  induction t with
  | nil => rfl
  | node k v l r h ihl ihr => simp [size, inorder, ihl, ihr]; omega

theorem getHeight_setValue (k : Int) (v : Nat) (t : Tree) : (setValue t k v).getHeight = t.getHeight := by
  fun_cases setValue t k v <;> rfl

theorem setValue_eq_nil (k : Int) (v : Nat) (t : Tree) : setValue t k v = nil ↔ t = nil := by
  fun_cases setValue t k v <;> simp

theorem setValue_hinv (c : Nat) (k : Int) (v : Nat) (t : Tree) (hi : HInv c t) : HInv c (setValue t k v) := by
  fun_induction setValue t k v
  · exact hi
  · rename_i ih
    exact ⟨hi.1, ih hi.2.1, by simpa only [getHeight_setValue, setValue_eq_nil] using hi.2.2⟩
  · rename_i ih
    exact ⟨ih hi.1, hi.2.1, by simpa only [getHeight_setValue, setValue_eq_nil] using hi.2.2⟩
  · exact hi

end Tree

inductive MapOp where
  | set (k : Int) (v : Nat)
  | delete (k : Int)
  /-- `if p := GetPtr(k); p != nil { *p = v }` -/
  | update (k : Int) (v : Nat)
deriving Repr, DecidableEq

namespace TreeMap

def abs (t : TreeMap) : Entries := t.root.inorder

def Inv (c : Nat) (t : TreeMap) : Prop := SortedKeys t.abs ∧ Tree.HInv c t.root

/-- Histories with the new-leaf constant `c` left open (the driver's `runTree` fixes it): `run_refines` and C41 range over them. -/
def apply (c : Nat) (t : TreeMap) : MapOp → Option TreeMap
  | .set k v => t.set c k v
  | .delete k => t.delete k
  | .update k v => some (t.update k v).1

def run (c : Nat) : TreeMap → List MapOp → Option TreeMap
  | t, [] => some t
  | t, op :: ops =>
    match apply c t op with
    | none => none
    | some t' => run c t' ops

end TreeMap

def specApply (l : Entries) : MapOp → Entries
  | .set k v => specInsert k v l
  | .delete k => specErase k l
  | .update k v => specUpdate k v l

def specRun (l : Entries) (ops : List MapOp) : Entries := ops.foldl specApply l

namespace TreeMap

theorem empty_inv (c : Nat) : Inv c empty ∧ empty.abs = [] :=
  ⟨⟨List.Pairwise.nil, trivial⟩, rfl⟩

theorem set_refines (c : Nat) (hc : c ≤ 1) (t : TreeMap) (k : Int) (v : Nat) (hi : Inv c t) :
    ∃ t', t.set c k v = some t' ∧ t'.abs = specInsert k v t.abs ∧ Inv c t' := by
  obtain ⟨r', e, nr⟩ := Tree.insert_hinv c hc k v t.root hi.2
  have ha : r'.inorder = specInsert k v t.root.inorder := Tree.insert_inorder c k v t.root r' hi.1 e
  exact ⟨⟨r'⟩, by simp [set, e], ha, (ha ▸ sorted_specInsert k v _ hi.1 : SortedKeys r'.inorder), nr.1⟩

theorem delete_refines (c : Nat) (hc : c ≤ 1) (t : TreeMap) (k : Int) (hi : Inv c t) :
    ∃ t', t.delete k = some t' ∧ t'.abs = specErase k t.abs ∧ Inv c t' := by
  obtain ⟨r', e, nr⟩ := Tree.remove_hinv c hc k t.root hi.2
  have ha : r'.inorder = specErase k t.root.inorder := Tree.remove_inorder k t.root r' hi.1 e
  exact ⟨⟨r'⟩, by simp [delete, e], ha, (ha ▸ sorted_specErase k _ hi.1 : SortedKeys r'.inorder), nr.1⟩

theorem update_refines (c : Nat) (t : TreeMap) (k : Int) (v : Nat) (hi : Inv c t) :
    (t.update k v).1.abs = specUpdate k v t.abs ∧ (t.update k v).2 = (specLookup k t.abs).isSome ∧
    Inv c (t.update k v).1 := by
  have ha : (t.root.setValue k v).inorder = specUpdate k v t.abs := Tree.setValue_inorder k v t.root hi.1
  have hu := ha ▸ sorted_specUpdate k v _ hi.1
  unfold update
  rw [Tree.find_eq k t.root hi.1]
  unfold specUpdate abs at *
  generalize specLookup k t.root.inorder = o at ha ⊢
  cases o with
  | none => exact ⟨rfl, rfl, hi⟩
  | some e => exact ⟨ha, rfl, hu, Tree.setValue_hinv c k v t.root hi.2⟩

theorem run_refines (c : Nat) (hc : c ≤ 1) : ∀ (ops : List MapOp) (t : TreeMap), Inv c t →
    ∃ t', run c t ops = some t' ∧ t'.abs = specRun t.abs ops ∧ Inv c t' := by
  intro ops
  induction ops with
  | nil => intro t hi; exact ⟨t, rfl, rfl, hi⟩
  | cons op ops ih =>
    intro t hi
    have h1 : ∃ t1, apply c t op = some t1 ∧ t1.abs = specApply t.abs op ∧ Inv c t1 := by
      cases op with
      | set k v => exact set_refines c hc t k v hi
      | delete k => exact delete_refines c hc t k hi
      | update k v =>
        obtain ⟨h1, _, h3⟩ := update_refines c t k v hi
        exact ⟨_, rfl, h1, h3⟩
    obtain ⟨t1, e1, a1, i1⟩ := h1
    obtain ⟨t', e', a', i'⟩ := ih t1 i1
    refine ⟨t', ?_, ?_, i'⟩
    · simp only [run, e1]; exact e'
    · rw [a', a1]; rfl

end TreeMap
end TLVerif.Algo
