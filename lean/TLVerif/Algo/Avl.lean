/-! Executable model of `internal/vkgo/pkg/algo/tree_map.go`, written the way the Go code is written.

* `Tree` is `*TreeNode[Entry[K,V]]`: `nil` or a node with entry `(k, v)`, `left`, `right` and the **stored**
  `height` field. Keys are `Int` with the comparator `Cmp(a, b) = a < b`; values are `Nat`.
* Every function that dereferences a pointer returns `Option`; `none` is the Go panic (nil dereference or an
  explicit `panic(...)`), so "never panics" is a theorem and not an artefact of totalisation.
* `leafH` is the constant that `insert` stores into the `height` field of a freshly allocated leaf
  (`n.height = 1` in the source since the repair 20b9728c, `0` before). It is not copied here: the driver and the property theorems instantiate it
  with `TLVerif.Facts.Algo.newLeafHeight`, regenerated from the source on every run.
* The allocator (`SliceCacheAllocator`) hands out zeroed nodes (`deallocate` assigns the empty value), so
  allocation is modelled as construction of a fresh node.  -/
namespace TLVerif.Algo

inductive Tree where
  | nil : Tree
  | node (k : Int) (v : Nat) (l r : Tree) (h : Nat) : Tree
deriving Repr, Inhabited

namespace Tree

/-- `getHeight`: 0 for nil, else the stored field. -/
def getHeight : Tree → Nat
  | nil => 0
  | node _ _ _ _ h => h

/-- `calcBalance`: 0 for nil, else `right.getHeight() - left.getHeight()` (signed). -/
def calcBalance : Tree → Int
  | nil => 0
  | node _ _ l r _ => (r.getHeight : Int) - (l.getHeight : Int)

/-- A node whose height field has just been recomputed by `updateHeight`. -/
def mk (k : Int) (v : Nat) (l r : Tree) : Tree :=
  node k v l r (1 + max l.getHeight r.getHeight)

/-- `updateHeight` (nil receiver: nil dereference). -/
def updateHeight : Tree → Option Tree
  | nil => none
  | node k v l r _ => some (mk k v l r)

/-- `rotateRight`: `l := n.left; n.left = l.right; l.right = n; n.updateHeight(); l.updateHeight()`. -/
def rotateRight : Tree → Option Tree
  | node k v (node lk lv ll lr _) r _ => some (mk lk lv ll (mk k v lr r))
  | _ => none

/-- `rotateLeft`. -/
def rotateLeft : Tree → Option Tree
  | node k v l (node rk rv rl rr _) _ => some (mk rk rv (mk k v l rl) rr)
  | _ => none

/-- `bigRotateRight`: `n.left = n.left.rotateLeft(); return n.rotateRight()`. -/
def bigRotateRight : Tree → Option Tree
  | nil => none
  | node k v l r h =>
    match rotateLeft l with
    | none => none
    | some l' => rotateRight (node k v l' r h)

/-- `bigRotateLeft`. -/
def bigRotateLeft : Tree → Option Tree
  | nil => none
  | node k v l r h =>
    match rotateRight r with
    | none => none
    | some r' => rotateLeft (node k v l r' h)

/-- `repairBalance`. -/
def repairBalance : Tree → Option Tree
  | nil => none
  | node k v l r _ =>
    let n := mk k v l r
    if n.calcBalance = 2 then
      if r.calcBalance = -1 then bigRotateLeft n else rotateLeft n
    else if n.calcBalance = -2 then
      if l.calcBalance = 1 then bigRotateRight n else rotateRight n
    else some n

/-- `insert` (recursive, as in the source). A fresh leaf gets `height = leafH`. -/
def insert (leafH : Nat) : Tree → Int → Nat → Option Tree
  | nil, k, v => some (node k v nil nil leafH)
  | node nk nv l r h, k, v =>
    if nk < k then
      match insert leafH r k v with
      | none => none
      | some r' => repairBalance (node nk nv l r' h)
    else if k < nk then
      match insert leafH l k v with
      | none => none
      | some l' => repairBalance (node nk nv l' r h)
    else repairBalance (node k v l r h)

/-- `extractMin`: `(minimum entry, new subtree root)`; explicit panic on nil. -/
def extractMin : Tree → Option ((Int × Nat) × Tree)
  | nil => none
  | node k v nil r _ => some ((k, v), r)
  | node k v (node lk lv ll lr lh) r h =>
    match extractMin (node lk lv ll lr lh) with
    | none => none
    | some (e, l') =>
      match repairBalance (node k v l' r h) with
      | none => none
      | some t => some (e, t)

/-- `remove`. -/
def remove : Tree → Int → Option Tree
  | nil, _ => some nil
  | node nk nv l r h, k =>
    if nk < k then
      match remove r k with
      | none => none
      | some r' => repairBalance (node nk nv l r' h)
    else if k < nk then
      match remove l k with
      | none => none
      | some l' => repairBalance (node nk nv l' r h)
    else
      match l, r with
      | nil, _ => some r
      | _, nil => some l
      | _, _ =>
        match extractMin r with
        | none => none
        | some ((mk', mv), r') => repairBalance (node mk' mv l r' h)

/-- `findMin` (explicit panic on nil). Returns the entry of the node found. -/
def findMin : Tree → Option (Int × Nat)
  | nil => none
  | node k v nil _ _ => some (k, v)
  | node _ _ (node lk lv ll lr lh) _ _ => findMin (node lk lv ll lr lh)

/-- `findMax`. -/
def findMax : Tree → Option (Int × Nat)
  | nil => none
  | node k v _ nil _ => some (k, v)
  | node _ _ _ (node rk rv rl rr rh) _ => findMax (node rk rv rl rr rh)

/-- `find`: the entry of the node with this key, `none` when the loop reaches nil (this `none` is *not* a panic). -/
def find : Tree → Int → Option (Int × Nat)
  | nil, _ => none
  | node nk nv l r _, k =>
    if nk < k then find r k
    else if k < nk then find l k
    else some (nk, nv)

/-- A store through the pointer returned by `GetPtr` (`&n.value.V` of the node `find` stops at): the value of
that node is replaced in place; nothing else changes. -/
def setValue : Tree → Int → Nat → Tree
  | nil, _, _ => nil
  | node nk nv l r h, k, v =>
    if nk < k then node nk nv l (setValue r k v) h
    else if k < nk then node nk nv (setValue l k v) r h
    else node nk v l r h

/-- `validate`: `true` = returns normally, `false` = `log.Panicf`. -/
def validate : Tree → Option Int → Option Int → Bool
  | nil, _, _ => true
  | node k _ l r _, lo, hi =>
    (match lo with | some b => decide (b < k) | none => true) &&
    (match hi with | some b => decide (k < b) | none => true) &&
    validate l lo (some k) && validate r (some k) hi

/-! Observation helpers (not part of the Go code): in-order contents, real height, real balance. -/

def inorder : Tree → List (Int × Nat)
  | nil => []
  | node k v l r _ => inorder l ++ (k, v) :: inorder r

def size : Tree → Nat
  | nil => 0
  | node _ _ l r _ => size l + 1 + size r

/-- The real height (number of nodes on the longest root-to-leaf path). -/
def realHeight : Tree → Nat
  | nil => 0
  | node _ _ l r _ => 1 + max (realHeight l) (realHeight r)

/-- Largest `|realHeight right - realHeight left|` over all nodes. -/
def maxRealBalance : Tree → Nat
  | nil => 0
  | node _ _ l r _ =>
    max (max (realHeight l - realHeight r) (realHeight r - realHeight l)) (max (maxRealBalance l) (maxRealBalance r))

end Tree

/-! The exported `TreeMap` methods. `none` is a recovered Go panic (state unchanged: every panic
in these methods happens before any mutation or leaves `t.root` unassigned). -/

structure TreeMap where
  root : Tree
deriving Inhabited

namespace TreeMap

def empty : TreeMap := ⟨.nil⟩

/-- `Get`: `(value, exists)`. -/
def get (t : TreeMap) (k : Int) : Option Nat := (t.root.find k).map (·.2)

/-- `Set`; `none` = panic (then `t.root` keeps its old value: the assignment is never reached). -/
def set (leafH : Nat) (t : TreeMap) (k : Int) (v : Nat) : Option TreeMap :=
  (t.root.insert leafH k v).map (⟨·⟩)

/-- `Delete`. -/
def delete (t : TreeMap) (k : Int) : Option TreeMap := (t.root.remove k).map (⟨·⟩)

/-- `if p := t.GetPtr(k); p != nil { *p = v }`: new state and whether the pointer was non-nil. -/
def update (t : TreeMap) (k : Int) (v : Nat) : TreeMap × Bool :=
  match t.root.find k with
  | none => (t, false)
  | some _ => (⟨t.root.setValue k v⟩, true)

def isEmpty (t : TreeMap) : Bool := match t.root with | .nil => true | _ => false

/-- `Front`: panics on the empty map. -/
def front (t : TreeMap) : Option (Int × Nat) := t.root.findMin

/-- `Back`. -/
def back (t : TreeMap) : Option (Int × Nat) := t.root.findMax

/-- `LenMoreThan1`. -/
def lenMoreThan1 (t : TreeMap) : Bool :=
  match t.root with
  | .nil => false
  | .node _ _ .nil .nil _ => false
  | _ => true

end TreeMap
end TLVerif.Algo
