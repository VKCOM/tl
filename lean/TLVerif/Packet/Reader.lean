import TLVerif.Packet.Basic
/-!
Model of the reading half of `pkg/rpc/packetconn.go` (`readPacketHeaderUnlockedImpl`,
`ReadPacketHeaderUnlocked`, `ReadPacketBodyUnlocked`) written once, over an abstract byte source
(`SrcOps`: what `io.ReadFull(pc.r, …)`, `readFullOrMagic(pc.r, …)` and `pc.r.encrypt` do), and two sources:

* `pureSrc` — the source is the whole remaining (already decrypted) byte stream;
* `chunkSrc` — the model of `cryptoReader` over a connection that delivers the stream in arbitrary chunks
  (`net.Pipe` semantics: one `Read` returns at most one chunk), decrypting whole blocks as they arrive.

`ReaderLemmas.lean` proves that the second refines the first (for every chunking).
-/
namespace TLVerif.Packet
open TLVerif.Facts.Packet

/-- result of reading exactly `k` bytes -/
inductive RF (σ : Type) where
  | ok (bs : Bytes) (s : σ)
  | short (got : Nat)          -- the connection ended after `got < k` bytes
  | magic                      -- `readFullOrMagic` saw a memcached command (first packet only)

structure SrcOps (σ : Type) where
  readFull : Nat → σ → RF σ
  readFirst : σ → RF σ                 -- `readFullOrMagic(pc.r, headerReadBuf[:12], memcachedCommands)`
  encrypt : Bytes → Bytes → σ → σ      -- `cryptoReader.encrypt(cipher.NewCBCDecrypter(key, iv))`

inductive RErr where
  | eof      -- io.EOF (clean end on a packet boundary; also a memcached command)
  | ueof     -- io.ErrUnexpectedEOF
  | pad      -- excessive_padding
  | size     -- out_of_range_packet_size
  | size4    -- bad_packet_size
  | ntype    -- bad_nonce_packet_type
  | htype    -- bad_handshake_packet_type
  | seq      -- seqnum mismatch
  | bpad     -- bad_body_padding_contents
  | crc      -- crc_mismatch
  | other    -- pong errors
  | panic    -- `cryptoReader.encrypt` called twice ("changing encryption on the fly is not supported")
  deriving DecidableEq, Repr

def RErr.name : RErr → String
  | .eof => "eof" | .ueof => "ueof" | .pad => "pad" | .size => "size" | .size4 => "size4" | .ntype => "ntype"
  | .htype => "htype" | .seq => "seq" | .bpad => "bpad" | .crc => "crc" | .other => "other" | .panic => "panic"

structure RState where
  n : Nat := 0                  -- packets read; `readSeqNum = n + startSeqNum`
  mode : Mode := {}
  deriving DecidableEq, Repr

/-- what one `readPacketWithMagic` call delivers -/
inductive Ev where
  | packet (tip : Nat) (body : Bytes)
  | ping (id : Bytes)              -- builtin: a pong with this id is queued and written by `ReadPacket`
  deriving DecidableEq, Repr

/-- bytes of an ASCII string constant (the memcached commands are ASCII: `magics_ascii` in `ConnLemmas`) -/
def bytesOfAscii (s : String) : Bytes := s.toList.map (fun c => UInt8.ofNat c.toNat)

/-- `memcachedCommands` -/
def magics : List Bytes :=
  [bytesOfAscii memcachedStatsReqRN, bytesOfAscii memcachedStatsReqN, bytesOfAscii memcachedGetStatsReq,
   bytesOfAscii memcachedVersionReq]

/-- the checks of `readPacketHeaderUnlockedImpl` after the 12 header bytes are in, in source order -/
def checkHeader (st : RState) (len seq tip : Nat) : Option RErr :=
  if len < packetOverhead ∨ len > maxPacketLen then some .size
  else if st.mode.proto = 0 ∧ len % 4 ≠ 0 then some .size4
  else if (st.n : Int) + startSeqNum < 0 ∧ st.n = 0 ∧ tip ≠ packetTypeRPCNonce then some .ntype
  else if (st.n : Int) + startSeqNum < 0 ∧ (st.n : Int) + startSeqNum = startSeqNum + 1 ∧ tip ≠ packetTypeRPCHandshake then some .htype
  else if (st.n : Int) + startSeqNum < 0 ∧ len > maxNonceHandshakeLen then some .size
  else if seq ≠ seqWord st.n then some .seq
  else none

/-- parsed header: the 12 bytes (kept for the CRC), length, type -/
structure Hdr where
  bytes : Bytes
  len : Nat
  tip : Nat

def finishHeader (st : RState) (h12 : Bytes) : Except RErr Hdr :=
  let len := word h12
  let seq := word (h12.drop 4)
  let tip := word (h12.drop 8)
  match checkHeader st len seq tip with
  | some er => .error er
  | none => .ok ⟨h12, len, tip⟩

/-- the padding-skipping loop: `left` = `blockSize/4 - i` -/
def padLoop {σ : Type} (ops : SrcOps σ) (st : RState) : Nat → σ → Except RErr (Hdr × σ)
  | 0, _ => .error .pad
  | left + 1, s =>
    match ops.readFull 4 s with
    | .short got => .error (if got = 0 then .eof else .ueof)
    | .magic => .error .other
    | .ok w s1 =>
      if word w = padVal then padLoop ops st left s1
      else
        match ops.readFull 8 s1 with
        | .short _ => .error .ueof
        | .magic => .error .other
        | .ok r s2 =>
          match finishHeader st (w ++ r) with
          | .error er => .error er
          | .ok h => .ok (h, s2)

/-- `readPacketHeaderUnlockedImpl` -/
def readHeader {σ : Type} (ops : SrcOps σ) (st : RState) (s : σ) : Except RErr (Hdr × σ) :=
  if st.n = 0 then
    match ops.readFirst s with
    | .short got => .error (if got = 0 then .eof else .ueof)
    | .magic => .error .eof
    | .ok h12 s1 =>
      match finishHeader st h12 with
      | .error er => .error er
      | .ok h => .ok (h, s1)
  else padLoop ops st (blockSize / 4) s

/-- `ReadPacketBodyUnlocked` -/
def readBody {σ : Type} (ops : SrcOps σ) (e : Env) (st : RState) (h : Hdr) (s : σ) : Except RErr (Bytes × σ) :=
  let bodySize := h.len - packetOverhead
  let align := alignOf st.mode h.len
  match ops.readFull (bodySize + 4 + align) s with
  | .short _ => .error .ueof
  | .magic => .error .other
  | .ok b s1 =>
    let body := b.take bodySize
    if ((b.drop (bodySize + 4)).all (· == 0)) = false then .error .bpad
    else if word (b.drop bodySize) ≠ e.crc st.mode (h.bytes ++ body) then .error .crc
    else .ok (body, s1)

/-- one `readPacketWithMagic` call (no read timeout, so no ping is ever sent by the reader and every pong is
unexpected) -/
def readPacket {σ : Type} (ops : SrcOps σ) (e : Env) (st : RState) (s : σ) : Except RErr (Ev × RState × σ) :=
  match readHeader ops st s with
  | .error er => .error er
  | .ok (h, s1) =>
    let st1 := { st with n := st.n + 1 }
    if h.tip = rpcPingTag then
      if h.len ≠ packetOverhead + 8 then .error .size
      else match readBody ops e st h s1 with
        | .error er => .error er
        | .ok (body, s2) => .ok (.ping body, st1, s2)
    else if h.tip = rpcPongTag then
      if h.len ≠ packetOverhead + 8 then .error .other
      else match readBody ops e st h s1 with
        | .error er => .error er
        | .ok _ => .error .other
    else match readBody ops e st h s1 with
      | .error er => .error er
      | .ok (body, s2) => .ok (.packet h.tip body, st1, s2)

/-- what the handshake logic does to the connection between two reads -/
inductive ModeOp where
  | setProto (v : Nat)
  | setCrcC
  | encrypt (key iv : Bytes)
  deriving DecidableEq, Repr

def applyModeOp {σ : Type} (ops : SrcOps σ) (st : RState) (s : σ) : ModeOp → Option (RState × σ)
  | .setProto v => some ({ st with mode := { st.mode with proto := v } }, s)
  | .setCrcC => some ({ st with mode := { st.mode with crcC := true } }, s)
  | .encrypt k iv =>
    if st.mode.enc then none   -- Go panics
    else some ({ st with mode := { st.mode with enc := true } }, ops.encrypt k iv s)

def applyModeOps {σ : Type} (ops : SrcOps σ) (st : RState) (s : σ) : List ModeOp → Option (RState × σ)
  | [] => some (st, s)
  | o :: os =>
    match applyModeOp ops st s o with
    | none => none
    | some r => applyModeOps ops r.1 r.2 os

/-- The reading loop of a connection owner: apply the mode changes scheduled for the current packet count
(`sched k` = what the handshake logic does once `k` packets have been read), then `ReadPacket`; until the first
error (the end of the stream is the error `eof`). `none` as final error = `fuel` exhausted. -/
def readLoop {σ : Type} (ops : SrcOps σ) (e : Env) (sched : Nat → List ModeOp) : Nat → RState → σ → List Ev × Option RErr
  | 0, _, _ => ([], none)
  | fuel + 1, st, s =>
    match applyModeOps ops st s (sched st.n) with
    | none => ([], some .panic)
    | some r =>
      match readPacket ops e r.1 r.2 with
      | .error er => ([], some er)
      | .ok (ev, st1, s1) =>
        let rest := readLoop ops e sched fuel st1 s1
        (ev :: rest.1, rest.2)

/-! ### the pure source: the remaining decrypted stream -/

def pureSrc (e : Env) : SrcOps Bytes where
  readFull k t := if k ≤ t.length then .ok (t.take k) (t.drop k) else .short t.length
  readFirst t := if 12 ≤ t.length then .ok (t.take 12) (t.drop 12) else .short t.length
  encrypt k iv t := cbcDec e k iv t

/-! ### the chunked source: `cryptoReader` over a connection delivering chunks -/

structure CSrc where
  plain : Bytes := []                     -- decrypted, not yet consumed (`buf[begin:end]`)
  raw : Bytes := []                       -- received, not yet decrypted (`buf[end:]`, shorter than a block)
  cipher : Option (Bytes × Bytes) := none -- read key and current chaining value
  chunks : List Bytes := []               -- what the connection will still deliver, one chunk per `Read`

/-- decrypt the whole blocks of `raw` -/
def CSrc.crypt (e : Env) (s : CSrc) : CSrc :=
  match s.cipher with
  | none => { s with plain := s.plain ++ s.raw, raw := [] }
  | some (k, iv) =>
    let nb := s.raw.length / blockSize
    { s with plain := s.plain ++ cbcDecN e k nb iv s.raw,
             raw := s.raw.drop (nb * blockSize),
             cipher := some (k, nextIv nb iv s.raw) }

/-- one underlying `Read` delivering chunk `c` -/
def CSrc.feed (e : Env) (s : CSrc) (c : Bytes) : CSrc := CSrc.crypt e { s with raw := s.raw ++ c }

def chunkReadFull (e : Env) (k : Nat) (s : CSrc) : List Bytes → RF CSrc
  | [] => if k ≤ s.plain.length then .ok (s.plain.take k) { s with plain := s.plain.drop k, chunks := [] }
          else .short s.plain.length
  | c :: cs =>
    if k ≤ s.plain.length then .ok (s.plain.take k) { s with plain := s.plain.drop k, chunks := c :: cs }
    else chunkReadFull e k (CSrc.feed e s c) cs

/-- `readFullOrMagic`: after every `Read` the bytes obtained so far are compared with the memcached commands -/
def chunkReadFirst (e : Env) (s : CSrc) : List Bytes → RF CSrc
  | [] => if s.plain.take 12 ∈ magics ∧ s.plain ≠ [] then .magic
          else if 12 ≤ s.plain.length then .ok (s.plain.take 12) { s with plain := s.plain.drop 12, chunks := [] }
          else .short s.plain.length
  | c :: cs =>
    if s.plain.take 12 ∈ magics ∧ s.plain ≠ [] then .magic
    else if 12 ≤ s.plain.length then .ok (s.plain.take 12) { s with plain := s.plain.drop 12, chunks := c :: cs }
    else chunkReadFirst e (CSrc.feed e s c) cs

def chunkSrc (e : Env) : SrcOps CSrc where
  readFull k s := chunkReadFull e k s s.chunks
  readFirst s := chunkReadFirst e s s.chunks
  encrypt k iv s := CSrc.crypt e { s with raw := s.plain ++ s.raw, plain := [], cipher := some (k, iv) }

/-- the remaining decrypted stream a chunked source stands for -/
def CSrc.T (e : Env) (s : CSrc) : Bytes :=
  match s.cipher with
  | none => s.plain ++ s.raw ++ s.chunks.flatten
  | some (k, iv) => s.plain ++ cbcDec e k iv (s.raw ++ s.chunks.flatten)

end TLVerif.Packet
