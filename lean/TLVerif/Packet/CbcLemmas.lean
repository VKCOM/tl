import TLVerif.Packet.Basic
/-! CBC chaining over the abstract block map: streaming (prefix) behaviour and the inverse law. -/
namespace TLVerif.Packet
open TLVerif.Facts.Packet

variable (e : Env) (k : Bytes)

theorem block_pos : 0 < blockSize := by decide

theorem blocks_succ {n l : Nat} (h : (n + 1) * blockSize ≤ l) : blockSize ≤ l ∧ n * blockSize ≤ l - blockSize := by
  rw [Nat.succ_mul] at h
  omega

theorem cbc_append_right (n : Nat) (iv c x : Bytes) (h : n * blockSize ≤ c.length) :
    cbcDecN e k n iv (c ++ x) = cbcDecN e k n iv c ∧ nextIv n iv (c ++ x) = nextIv n iv c := by
  induction n generalizing iv c with
  | zero => exact ⟨rfl, rfl⟩
  | succ n ih =>
    obtain ⟨hB, hr⟩ := blocks_succ h
    obtain ⟨h1, h2⟩ := ih (c.take blockSize) (c.drop blockSize) (by rwa [List.length_drop])
    simp only [cbcDecN, nextIv]
    rw [List.take_append_of_le_length hB, List.drop_append_of_le_length hB, h1, h2]
    exact ⟨rfl, rfl⟩

theorem cbcDecN_add (a b : Nat) (iv c : Bytes) :
    cbcDecN e k (a + b) iv c = cbcDecN e k a iv c ++ cbcDecN e k b (nextIv a iv c) (c.drop (a * blockSize)) := by
  induction a generalizing iv c with
  | zero => simp [cbcDecN, nextIv]
  | succ a ih =>
    have : a + 1 + b = (a + b) + 1 := by omega
    rw [this]
    simp only [cbcDecN, nextIv]
    rw [ih, List.append_assoc, List.drop_drop]
    have : blockSize + a * blockSize = (a + 1) * blockSize := by rw [Nat.succ_mul]; omega
    rw [this]

theorem cbcDecN_length (n : Nat) (iv c : Bytes) (hd : ∀ b, (e.dec k b).length = blockSize)
    (hiv : iv.length = blockSize) (hc : n * blockSize ≤ c.length) :
    (cbcDecN e k n iv c).length = n * blockSize := by
  induction n generalizing iv c with
  | zero => simp [cbcDecN]
  | succ n ih =>
    obtain ⟨hB, hr⟩ := blocks_succ hc
    simp only [cbcDecN, List.length_append, xorB, List.length_zipWith, hd, hiv, Nat.min_self]
    rw [ih _ _ (by rw [List.length_take]; exact Nat.min_eq_left hB) (by rwa [List.length_drop]), Nat.succ_mul,
      Nat.add_comm]

theorem cbcDec_stream (iv raw rest : Bytes) :
    cbcDec e k iv (raw ++ rest) =
      cbcDecN e k (raw.length / blockSize) iv raw ++
      cbcDec e k (nextIv (raw.length / blockSize) iv raw) (raw.drop (raw.length / blockSize * blockSize) ++ rest) := by
  have hB := block_pos
  have hle : raw.length / blockSize * blockSize ≤ raw.length := Nat.div_mul_le_self _ _
  unfold cbcDec
  have hm : (raw ++ rest).length / blockSize =
      raw.length / blockSize + (raw.drop (raw.length / blockSize * blockSize) ++ rest).length / blockSize := by
    simp only [List.length_append, List.length_drop]
    have h1 : raw.length + rest.length = (raw.length - raw.length / blockSize * blockSize + rest.length) + blockSize * (raw.length / blockSize) := by
      have hc : blockSize * (raw.length / blockSize) = raw.length / blockSize * blockSize := Nat.mul_comm _ _
      omega
    rw [h1, Nat.add_mul_div_left _ _ hB]; omega
  rw [hm, cbcDecN_add]
  rw [(cbc_append_right e k _ iv raw rest hle).1, (cbc_append_right e k _ iv raw rest hle).2]
  rw [List.drop_append_of_le_length hle]

theorem xorB_xorB (a b : Bytes) (h : a.length = b.length) : xorB (xorB a b) b = a := by
  induction a generalizing b with
  | nil => cases b <;> simp [xorB]
  | cons x xs ih =>
    cases b with
    | nil => simp at h
    | cons y ys =>
      simp only [xorB, List.zipWith_cons_cons, List.cons.injEq]
      constructor
      · rw [UInt8.xor_assoc]; simp
      · exact ih ys (by simpa using h)

theorem xorB_length (a b : Bytes) : (xorB a b).length = min a.length b.length := by
  simp [xorB]

/-- What the round-trip theorems assume of the block cipher. -/
structure Env.CipherOK (e : Env) : Prop where
  dec_enc : ∀ k b, b.length = blockSize → e.dec k (e.enc k b) = b
  enc_len : ∀ k b, (e.enc k b).length = blockSize

theorem cbcEncN_length (he : e.CipherOK) (n : Nat) (iv p : Bytes) : (cbcEncN e k n iv p).length = n * blockSize := by
  induction n generalizing iv p with
  | zero => simp [cbcEncN]
  | succ n ih =>
    simp only [cbcEncN, List.length_append, he.enc_len, ih]
    rw [Nat.succ_mul]; omega

theorem cbcDecN_cbcEncN (he : e.CipherOK) (n : Nat) (iv p : Bytes) (hiv : iv.length = blockSize)
    (hp : n * blockSize ≤ p.length) :
    cbcDecN e k n iv (cbcEncN e k n iv p) = p.take (n * blockSize) := by
  induction n generalizing iv p with
  | zero => simp [cbcDecN]
  | succ n ih =>
    obtain ⟨hB, hr⟩ := blocks_succ hp
    simp only [cbcEncN, cbcDecN]
    have hl : (e.enc k (xorB (List.take blockSize p) iv)).length = blockSize := he.enc_len _ _
    rw [List.take_append_of_le_length (Nat.le_of_eq hl.symm), List.drop_append_of_le_length (Nat.le_of_eq hl.symm),
      List.take_of_length_le (Nat.le_of_eq hl), List.drop_of_length_le (Nat.le_of_eq hl), List.nil_append]
    have ht : (p.take blockSize).length = blockSize := by
      rw [List.length_take]; exact Nat.min_eq_left hB
    rw [he.dec_enc _ _ (by rw [xorB_length, ht, hiv, Nat.min_self]), xorB_xorB _ _ (ht.trans hiv.symm),
      ih _ _ hl (by rwa [List.length_drop]), Nat.succ_mul, Nat.add_comm (n * blockSize) blockSize, List.take_add]

theorem cbcDec_cbcEnc (he : e.CipherOK) (iv p : Bytes) (hiv : iv.length = blockSize) (hp : p.length % blockSize = 0) :
    cbcDec e k iv (cbcEnc e k iv p) = p := by
  unfold cbcDec cbcEnc
  rw [cbcEncN_length e k he]
  rw [Nat.mul_div_cancel _ block_pos]
  rw [cbcDecN_cbcEncN e k he _ _ _ hiv (Nat.div_mul_le_self _ _)]
  apply List.take_of_length_le
  have := Nat.div_add_mod p.length blockSize
  rw [Nat.mul_comm] at this
  omega

end TLVerif.Packet
