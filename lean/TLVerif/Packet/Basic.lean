import TLVerif.Generated.PacketFacts
/-!
Model of the framing layer of `pkg/rpc/packetconn.go` (writer half) and of the byte-level helpers.

* byte strings are `List UInt8`; 32-bit words are `Nat` (always reduced `% 2^32` when serialised);
* `pc.writeSeqNum`/`pc.readSeqNum` (int64, starting at `startSeqNum`) are modelled by the *count* `n` of
  packets written/read so far: the Go value is `n + startSeqNum`, the word on the wire `uint32(n + startSeqNum)`;
* the two CRC tables (`crc32.IEEETable`, `castagnoliTable`) and the block cipher are *parameters* (`Env`);
  the theorems state what they need from them as explicit hypotheses, the driver instantiates them with
  executable bitwise CRC-32 and AES-256 (files `Crc.lean`, `Aes.lean`);
* constants come from the regenerated facts file.
-/
namespace TLVerif.Packet
open TLVerif.Facts.Packet

abbrev Bytes := List UInt8

def byteOf (n : Nat) : UInt8 := UInt8.ofNat n

/-- `basictl.NatWrite` / `binary.LittleEndian.AppendUint32` of `uint32(n)`. -/
def le32 (n : Nat) : Bytes := [byteOf n, byteOf (n / 256), byteOf (n / 65536), byteOf (n / 16777216)]

def u32of (a b c d : UInt8) : Nat := a.toNat + 256 * b.toNat + 65536 * c.toNat + 16777216 * d.toNat

/-- `binary.LittleEndian.Uint32(bs[:4])` (0 when shorter: never used that way). -/
def word (bs : Bytes) : Nat :=
  match bs with
  | a :: b :: c :: d :: _ => u32of a b c d
  | _ => 0

def zeros (n : Nat) : Bytes := List.replicate n 0

/-- What the model needs from `hash/crc32`, `crypto/aes`: two checksum functions and a keyed block map. -/
structure Env where
  crcI : Bytes → UInt32              -- crc32.Update(0, crc32.IEEETable, ·)
  crcC : Bytes → UInt32              -- crc32.Update(0, castagnoliTable, ·)
  enc : Bytes → Bytes → Bytes        -- key → 16-byte block → 16-byte block   (cipher.Block.Encrypt)
  dec : Bytes → Bytes → Bytes        -- key → 16-byte block → 16-byte block   (cipher.Block.Decrypt)

/-- The per-connection switches changed by the handshake logic: `pc.protocolVersion`, `pc.table`,
`pc.w.isEncrypted()`. -/
structure Mode where
  proto : Nat := 0
  crcC : Bool := false
  enc : Bool := false
  deriving DecidableEq, Repr

def Env.crc (e : Env) (m : Mode) (d : Bytes) : Nat := (if m.crcC then e.crcC d else e.crcI d).toNat

/-- `uint32(pc.writeSeqNum)` after `n` packets. -/
def seqWord (n : Nat) : Nat := Int.toNat (((n : Int) + startSeqNum) % 4294967296)

/-- `int(-uint(l) & 3)` when encrypted, else 0. -/
def alignOf (m : Mode) (l : Nat) : Nat := if m.enc then (4 - l % 4) % 4 else 0

/-- the three header words written by `WritePacketHeaderUnlocked` -/
def header (n tip blen : Nat) : Bytes := le32 (blen + packetOverhead) ++ le32 (seqWord n) ++ le32 tip

/-- one whole packet as it appears in the (plaintext) stream: header, body, CRC of header+body, zero alignment -/
def frame (e : Env) (m : Mode) (n tip : Nat) (body : Bytes) : Bytes :=
  header n tip body.length ++ body ++ le32 (e.crc m (header n tip body.length ++ body)) ++ zeros (alignOf m body.length)

/-- the constant `padding` of `FlushUnlocked` -/
def padPattern : Bytes := le32 padVal ++ le32 padVal ++ le32 padVal

/-! ### CBC over the abstract block map -/

def xorB (a b : Bytes) : Bytes := List.zipWith (· ^^^ ·) a b

/-- `cipher.NewCBCEncrypter(..).CryptBlocks` over `n` whole blocks. -/
def cbcEncN (e : Env) (k : Bytes) : Nat → Bytes → Bytes → Bytes
  | 0, _, _ => []
  | n + 1, iv, p =>
    let c := e.enc k (xorB (p.take blockSize) iv)
    c ++ cbcEncN e k n c (p.drop blockSize)

/-- `cipher.NewCBCDecrypter(..).CryptBlocks` over `n` whole blocks. -/
def cbcDecN (e : Env) (k : Bytes) : Nat → Bytes → Bytes → Bytes
  | 0, _, _ => []
  | n + 1, iv, c =>
    xorB (e.dec k (c.take blockSize)) iv ++ cbcDecN e k n (c.take blockSize) (c.drop blockSize)

/-- the chaining value after `n` blocks of ciphertext `c` -/
def nextIv : Nat → Bytes → Bytes → Bytes
  | 0, iv, _ => iv
  | n + 1, _, c => nextIv n (c.take blockSize) (c.drop blockSize)

/-- whole blocks only; a trailing partial block stays buffered -/
def cbcEnc (e : Env) (k iv p : Bytes) : Bytes := cbcEncN e k (p.length / blockSize) iv p
def cbcDec (e : Env) (k iv c : Bytes) : Bytes := cbcDecN e k (c.length / blockSize) iv c

/-! ### writer -/

structure WState where
  n : Nat := 0                          -- packets written; `writeSeqNum = n + startSeqNum`
  mode : Mode := {}
  out : Bytes := []                     -- every byte handed to the cryptoWriter so far (plaintext)
  encStart : Nat := 0                   -- offset in `out` where encryption starts (meaningful when `cipher` is set)
  cipher : Option (Bytes × Bytes) := none  -- write key, write IV
  pending : Bytes := []                 -- `headerWriteBuf`: CRC (+alignment) of the previous packet, not yet written

inductive WErr where
  | tooLarge      -- validBodyLen
  | size4         -- protocol version 0 and body length not a multiple of 4
  deriving DecidableEq, Repr

/-- the two length checks at the top of `WritePacketHeaderUnlocked` -/
def checkBodyLen (m : Mode) (l : Nat) : Option WErr :=
  if l > maxPacketLen - packetOverhead then some .tooLarge
  else if m.proto = 0 ∧ l % 4 ≠ 0 then some .size4
  else none

/-- `WritePacketNoFlushUnlocked` (= header, body, trailer). `WritePacket2` and the Header/Body/Trailer triple
write the same bytes for the concatenated body. -/
def writeNoFlush (e : Env) (w : WState) (tip : Nat) (body : Bytes) : Except WErr WState :=
  match checkBodyLen w.mode body.length with
  | some er => .error er
  | none =>
    let h := header w.n tip body.length
    .ok { w with n := w.n + 1, out := w.out ++ (w.pending ++ h ++ body),
                 pending := le32 (e.crc w.mode (h ++ body)) ++ zeros (alignOf w.mode body.length) }

/-- `cryptoWriter.Padding(afterNext)` -/
def cryptoPadding (w : WState) (afterNext : Nat) : Nat :=
  if w.mode.enc then (blockSize - (w.out.length - w.encStart + afterNext) % blockSize) % blockSize else 0

/-- `FlushUnlocked`; `none` = the Go code would reslice `headerWriteBuf` beyond the 12 padding bytes
(never happens: `flush_ok` in `ScriptLemmas`). -/
def flush (w : WState) : Option WState :=
  let pad := cryptoPadding w w.pending.length
  if pad > padPattern.length then none
  else some { w with out := w.out ++ (w.pending ++ padPattern.take pad), pending := [] }

/-- `WritePacket` -/
def writePacket (e : Env) (w : WState) (tip : Nat) (body : Bytes) : Except WErr (Option WState) :=
  match writeNoFlush e w tip body with
  | .error er => .error er
  | .ok w1 => .ok (flush w1)

/-- `pc.encrypt` (writer half): `cryptoWriter.encrypt` records `encStart = len(w.buf)`. Because every
`WritePacket` ends with a flush and unencrypted flushes write everything, `len(w.buf)` bytes are exactly the
bytes of `out` not yet on the wire; the model keeps `out` whole and remembers the offset. -/
def wEncrypt (w : WState) (key iv : Bytes) : WState :=
  { w with mode := { w.mode with enc := true }, encStart := w.out.length, cipher := some (key, iv) }

/-- the bytes that reach the connection once everything is flushed -/
def WState.wire (e : Env) (w : WState) : Bytes :=
  match w.cipher with
  | none => w.out
  | some (k, iv) => w.out.take w.encStart ++ cbcEnc e k iv (w.out.drop w.encStart)

end TLVerif.Packet
