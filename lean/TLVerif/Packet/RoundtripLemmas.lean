import TLVerif.Packet.ScriptLemmas
/-!
The stream reader applied to the plaintext a step history produces (`read_steps`, `read_history`), the schedule
derived from a flat script (`sched_steps`), the wire of a history without (`wire_plain`) and with (`wire_enc`) the
encryption switch, and how the reader gets through the switch (`read_switch`). An admissible history has at most one
switch (`StepsOK.split`), so these give the round trip of every admissible history at the level of the whole-stream
reader (`read_wire`).
-/
namespace TLVerif.Packet
open TLVerif.Facts.Packet

variable (e : Env)

def NoEnc (ms : List ModeOp) : Prop := ∀ m ∈ ms, m.isEnc = false
def NoEncSteps (ss : List Step) : Prop := ∀ s ∈ ss, NoEnc s.modes

theorem applyModeOps_noenc {σ : Type} {ops : SrcOps σ} {n : Nat} {w : WState} {s : σ} {ms : List ModeOp} (h : NoEnc ms) :
    applyModeOps ops ⟨n, w.mode⟩ s ms = some (⟨n, (wModes w ms).mode⟩, s) := by
  induction ms generalizing w with
  | nil => rfl
  | cons m ms ih =>
    obtain ⟨hm, hr⟩ := List.forall_mem_cons.1 h
    cases m with
    | setProto v => exact ih (w := wMode w (.setProto v)) hr
    | setCrcC => exact ih (w := wMode w .setCrcC) hr
    | encrypt k iv => simp [ModeOp.isEnc] at hm

theorem applyModeOps_append {σ : Type} (ops : SrcOps σ) (st : RState) (s : σ) (a b : List ModeOp) :
    applyModeOps ops st s (a ++ b) =
      match applyModeOps ops st s a with
      | none => none
      | some r => applyModeOps ops r.1 r.2 b := by
  induction a generalizing st s with
  | nil => rfl
  | cons m a ih =>
    simp only [List.cons_append, applyModeOps]
    cases applyModeOp ops st s m with
    | none => rfl
    | some r => exact ih _ _

theorem readLoop_step {sched : Nat → List ModeOp} {f n : Nat} {m m' : Mode} {src src' : Bytes} {j tip : Nat}
    {body rest : Bytes} {evs : List Ev} {x : Option RErr}
    (h : applyModeOps (pureSrc e) ⟨n, m⟩ src (sched n) = some (⟨n, m'⟩, src'))
    (hs : src' = padWords j ++ (frame e m' n tip body ++ rest))
    (hp : PktOK ⟨n, m'⟩ tip body) (hj : j ≤ 3) (hj0 : n = 0 → j = 0)
    (hr : readLoop (pureSrc e) e sched f ⟨n + 1, m'⟩ rest = (evs, x)) :
    readLoop (pureSrc e) e sched (f + 1) ⟨n, m⟩ src = (evOf tip body :: evs, x) := by
  simp only [readLoop, h, hs]
  rw [show readPacket (pureSrc e) e ⟨n, m'⟩ _ = _ from readPacket_frame e ⟨n, m'⟩ j tip body rest hp hj hj0]
  simp only [hr]

theorem wStep_n (w : WState) (s : Step) : (wStep e w s).n = w.n + 1 := by
  unfold wStep; split <;> simp [wFlush, wWrite, wModes_n]

theorem wStep_mode (w : WState) (s : Step) : (wStep e w s).mode = (wModes w s.modes).mode := by
  unfold wStep; split <;> rfl

/-- `j` padding words stand between the reader and the next packet while the writer is in state `w`: with those the
next flush would add they stay short of a block (at most three words, which is what `padLoop` skips), there is none
before the first packet and none in the clear -/
structure PadOK (w : WState) (j : Nat) : Prop where
  block : j + padOf w / 4 ≤ 3
  first : w.n = 0 → j + padOf w / 4 = 0
  clear : w.mode.enc = false → j = 0

theorem PadOK_zero {w : WState} (h : w.mode.enc = false) : PadOK w 0 where
  block := by rw [padOf_noenc w h]; decide
  first _ := by rw [padOf_noenc w h]
  clear _ := rfl

theorem jStep_pad (w : WState) (s : Step) (hm : ModesOK w s.modes) (hi : EInv w) :
    PadOK (wStep e w s) (jStep e w s) := by
  have hi2 := EInv_wWrite e _ s.tip s.body (EInv_wModes w s.modes hm hi)
  have := padOf_bound _ hi2
  refine ⟨?_, fun h0 => absurd h0 (by rw [wStep_n]; omega), fun he => ?_⟩
  · unfold jStep wStep
    simp only
    split
    · rw [padOf_wFlush _ hi2]; omega
    · omega
  · unfold jStep
    split
    · rw [padOf_noenc (wWrite e _ s.tip s.body) ((congrArg (·.enc) (wStep_mode e w s)).symm.trans he)]
    · rfl

def SchedFor (sched : Nat → List ModeOp) (n : Nat) (ss : List Step) : Prop :=
  ∀ i (h : i < ss.length), sched (n + i) = ss[i].modes

theorem SchedFor.head {sched : Nat → List ModeOp} {n : Nat} {s : Step} {ss : List Step}
    (h : SchedFor sched n (s :: ss)) : sched n = s.modes :=
  h 0 (Nat.zero_lt_succ _)

theorem SchedFor.left {sched : Nat → List ModeOp} {n : Nat} {a b : List Step}
    (h : SchedFor sched n (a ++ b)) : SchedFor sched n a := by
  intro i hi
  rw [h i (by rw [List.length_append]; omega), List.getElem_append_left hi]

theorem SchedFor.right {sched : Nat → List ModeOp} {n : Nat} {a b : List Step}
    (h : SchedFor sched n (a ++ b)) : SchedFor sched (n + a.length) b := by
  intro i hi
  rw [Nat.add_assoc, h (a.length + i) (by rw [List.length_append]; omega),
    List.getElem_append_right (Nat.le_add_right _ _)]
  simp only [Nat.add_sub_cancel_left]

/-- `stepBytes` puts a step's padding words behind its packet, the reader skips them in front of the next one: those
behind the last packet are read with whatever follows, which has to cope with any number the writer's state allows. -/
theorem read_steps (sched : Nat → List ModeOp) (ss : List Step) :
    ∀ (w : WState) (j : Nat) (tail : Bytes) (f : Nat) (evs : List Ev) (x : Option RErr), EInv w → StepsOK e w ss →
      NoEncSteps ss → PadOK w j → SchedFor sched w.n ss →
      (∀ j', PadOK (wSteps e w ss) j' →
        readLoop (pureSrc e) e sched f ⟨(wSteps e w ss).n, (wSteps e w ss).mode⟩ (padWords j' ++ tail) = (evs, x)) →
      readLoop (pureSrc e) e sched (ss.length + f) ⟨w.n, w.mode⟩ (padWords j ++ (stepsBytes e w ss ++ tail)) =
        (ss.map stepEv ++ evs, x) := by
  induction ss with
  | nil =>
    intro w j tail f evs x _ _ _ hj _ hr
    rw [List.length_nil, Nat.zero_add]
    exact hr j hj
  | cons s ss ih =>
    intro w j tail f evs x hi hok hne hj hs hr
    obtain ⟨hm, hp, hrest⟩ := hok
    obtain ⟨hns, hne⟩ := List.forall_mem_cons.1 hne
    have ih' := ih (wStep e w s) (jStep e w s) tail f evs x (EInv_wStep e w s hm hi) hrest
      hne (jStep_pad e w s hm hi) (by rw [wStep_n]; exact hs.right (a := [s])) hr
    rw [wStep_n, wStep_mode] at ih'
    rw [show (s :: ss).length + f = (ss.length + f) + 1 by rw [List.length_cons]; omega]
    refine readLoop_step e (j := j) (by rw [hs.head]; exact applyModeOps_noenc hns) ?_ hp (by have := hj.block; omega)
      (fun h0 => by have := hj.first h0; omega) ih'
    simp only [stepsBytes, stepBytes, List.append_assoc]

theorem schedOfOps_flushes (w : WState) (c : Nat) (k : Nat) : schedOfOps e (List.replicate c .flush) w k = [] := by
  induction c generalizing w with
  | zero => rfl
  | succ c ih =>
    simp only [List.replicate_succ, schedOfOps]
    cases stepW e w .flush <;> simp [ih]

theorem schedOfOps_step (w : WState) (s : Step) (rest : List Op) (k : Nat) (hm : ModesOK w s.modes)
    (hp : PktOK ⟨w.n, (wModes w s.modes).mode⟩ s.tip s.body) (hi : EInv w) :
    schedOfOps e (s.ops ++ rest) w k = (if w.n = k then s.modes else []) ++ schedOfOps e rest (wStep e w s) k := by
  rw [(runW_append e _ _ w).2, runW_step e w s hm hp hi]
  congr 1
  unfold Step.ops
  rw [(runW_append e _ _ w).2, (runW_modes e w s.modes hm).2, (runW_modes e w s.modes hm).1]
  simp only [schedOfOps]
  cases stepW e (wModes w s.modes) (.write s.flush s.tip s.body) <;> simp [schedOfOps_flushes]

theorem sched_steps (w : WState) (ss : List Step) (hok : StepsOK e w ss) (hi : EInv w) :
    SchedFor (schedOfOps e (flat ss) w) w.n ss ∧
    (∀ k, k < w.n ∨ w.n + ss.length ≤ k → schedOfOps e (flat ss) w k = []) := by
  induction ss generalizing w with
  | nil => exact ⟨nofun, fun _ _ => rfl⟩
  | cons s ss ih =>
    obtain ⟨hm, hp, hrest⟩ := hok
    obtain ⟨ih1, ih2⟩ := ih (wStep e w s) hrest (EInv_wStep e w s hm hi)
    rw [wStep_n] at ih1 ih2
    have hstep := fun k => schedOfOps_step e w s (flat ss) k hm hp hi
    rw [List.length_cons, show flat (s :: ss) = s.ops ++ flat ss from rfl]
    constructor
    · intro i h
      rw [hstep]
      cases i with
      | zero => rw [Nat.add_zero, if_pos rfl, ih2 _ (.inl (Nat.lt_succ_self _)), List.append_nil]; rfl
      | succ i =>
        rw [if_neg (by omega), List.nil_append, List.getElem_cons_succ, ← ih1 i (Nat.lt_of_succ_lt_succ h),
          Nat.add_right_comm, Nat.add_assoc]
    · intro k hk
      rw [hstep, if_neg (by omega), ih2 k (by omega)]
      rfl

theorem wSteps_append (w : WState) (a b : List Step) : wSteps e w (a ++ b) = wSteps e (wSteps e w a) b := by
  induction a generalizing w with
  | nil => rfl
  | cons s a ih => simp only [List.cons_append, wSteps]; exact ih _

theorem stepsBytes_append (w : WState) (a b : List Step) :
    stepsBytes e w (a ++ b) = stepsBytes e w a ++ stepsBytes e (wSteps e w a) b := by
  induction a generalizing w with
  | nil => rfl
  | cons s a ih => simp only [List.cons_append, stepsBytes, wSteps, ih, List.append_assoc]

theorem StepsOK_append (w : WState) (a b : List Step) :
    StepsOK e w (a ++ b) ↔ StepsOK e w a ∧ StepsOK e (wSteps e w a) b := by
  induction a generalizing w with
  | nil => simp [StepsOK, wSteps]
  | cons s a ih => simp only [List.cons_append, StepsOK, wSteps, ih, and_assoc]

theorem wSteps_n (w : WState) (ss : List Step) : (wSteps e w ss).n = w.n + ss.length := by
  induction ss generalizing w with
  | nil => rfl
  | cons s ss ih => simp only [wSteps, ih, wStep_n, List.length_cons]; omega

theorem ModesOK_append (w : WState) (a b : List ModeOp) :
    ModesOK w (a ++ b) ↔ ModesOK w a ∧ ModesOK (wModes w a) b := by
  induction a generalizing w with
  | nil => simp [ModesOK, wModes]
  | cons m a ih => simp only [List.cons_append, ModesOK, wModes, List.foldl_cons, and_assoc] at ih ⊢; rw [ih]

/-- the part of the writer state that decides how the stream is encrypted -/
def WState.key (w : WState) : Bool × Option (Bytes × Bytes) × Nat := (w.mode.enc, w.cipher, w.encStart)

theorem wModes_key (w : WState) (ms : List ModeOp) (h : NoEnc ms) : (wModes w ms).key = w.key := by
  induction ms generalizing w with
  | nil => rfl
  | cons m ms ih =>
    obtain ⟨hm, hr⟩ := List.forall_mem_cons.1 h
    simp only [wModes, List.foldl_cons] at ih ⊢
    rw [ih _ hr]
    cases m with
    | setProto v => rfl
    | setCrcC => rfl
    | encrypt k iv => simp [ModeOp.isEnc] at hm

theorem wStep_key_modes (w : WState) (s : Step) : (wStep e w s).key = (wModes w s.modes).key := by
  unfold wStep; split <;> rfl

theorem wSteps_key (w : WState) (ss : List Step) (h : NoEncSteps ss) : (wSteps e w ss).key = w.key := by
  induction ss generalizing w with
  | nil => rfl
  | cons s ss ih =>
    obtain ⟨hs, hr⟩ := List.forall_mem_cons.1 h
    simp only [wSteps]
    rw [ih _ hr, wStep_key_modes, wModes_key w s.modes hs]

theorem wSteps_enc (w : WState) (ss : List Step) (h : NoEncSteps ss) : (wSteps e w ss).mode.enc = w.mode.enc :=
  congrArg (·.1) (wSteps_key e w ss h)

theorem jStep_noenc (w : WState) (s : Step) (hn : NoEnc s.modes) (he : w.mode.enc = false) : jStep e w s = 0 := by
  unfold jStep
  split
  · rw [padOf_noenc, Nat.zero_div]
    exact (congrArg (·.1) (wModes_key w s.modes hn)).trans he
  · rfl

theorem padWords_add (a b : Nat) : padWords a ++ padWords b = padWords (a + b) := by
  unfold padWords
  rw [← List.flatten_append, List.replicate_append_replicate]

theorem readLoop_end {sched : Nat → List ModeOp} (f : Nat) {n : Nat} (m : Mode) {a b : Nat} (hs : sched n = [])
    (hab : a + b ≤ 3) (hn : n = 0 → a + b = 0) :
    readLoop (pureSrc e) e sched (f + 1) ⟨n, m⟩ (padWords a ++ padWords b) = ([], some .eof) := by
  simp only [readLoop, hs, applyModeOps]
  rw [padWords_add, readPacket_end e ⟨n, m⟩ (a + b) hab hn]

theorem final_flush (w : WState) (ss : List Step) (hok : StepsOK e w ss) (hi : EInv w) :
    finalW e (flat ss) w = some (wFlush (wSteps e w ss)) ∧
    (wFlush (wSteps e w ss)).out = w.L ++ stepsBytes e w ss ++ padWords (padOf (wSteps e w ss) / 4) := by
  obtain ⟨h1, h2, h3⟩ := runW_steps e w ss hok hi
  constructor
  · unfold finalW; rw [h1]; exact flush_ok _ h3
  · have := wFlush_L _ h3
    rw [h2] at this
    rw [← this]
    simp [WState.L, wFlush]

theorem read_history (sched : Nat → List ModeOp) (ss : List Step) (w : WState) (j f : Nat)
    (hi : EInv w) (hok : StepsOK e w ss) (hne : NoEncSteps ss) (hj : PadOK w j)
    (hs : SchedFor sched w.n ss) (hend : sched (w.n + ss.length) = []) :
    readLoop (pureSrc e) e sched (ss.length + (f + 1)) ⟨w.n, w.mode⟩
        (padWords j ++ (stepsBytes e w ss ++ padWords (padOf (wSteps e w ss) / 4))) =
      (ss.map stepEv, some .eof) := by
  have := read_steps e sched ss w j _ (f + 1) [] _ hi hok hne hj hs
    fun j' hj' => readLoop_end e f _ (by rw [wSteps_n]; exact hend) hj'.block hj'.first
  rwa [List.append_nil] at this

def freshW (n0 : Nat) (m0 : Mode) : WState := { n := n0, mode := m0 }

theorem EInv_fresh (n0 : Nat) (m0 : Mode) (h : m0.enc = false) : EInv (freshW n0 m0) := by
  intro he; simp [freshW, h] at he

theorem wire_plain (n0 : Nat) (m0 : Mode) (hm0 : m0.enc = false) (ss : List Step)
    (hok : StepsOK e (freshW n0 m0) ss) (hne : NoEncSteps ss) :
    (wFlush (wSteps e (freshW n0 m0) ss)).wire e = stepsBytes e (freshW n0 m0) ss := by
  unfold WState.wire
  rw [show (wFlush (wSteps e (freshW n0 m0) ss)).cipher = none from congrArg (·.2.1) (wSteps_key e _ ss hne),
    (final_flush e _ ss hok (EInv_fresh n0 m0 hm0)).2, padOf_noenc _ ((wSteps_enc e _ ss hne).trans hm0)]
  simp [WState.L, freshW, padWords]

/-- the step that turns encryption on: its mode changes are `ms1 ++ [encrypt k iv] ++ ms2` -/
structure EncStep where
  ms1 : List ModeOp
  key : Bytes
  iv : Bytes
  ms2 : List ModeOp
  flush : Bool := true
  tip : Nat
  body : Bytes
  extra : Nat := 0

def EncStep.step (s : EncStep) : Step :=
  { modes := s.ms1 ++ (.encrypt s.key s.iv :: s.ms2), flush := s.flush, tip := s.tip, body := s.body, extra := s.extra }

theorem wModes_encStep (w : WState) (s : EncStep) :
    wModes w s.step.modes = wModes (wEncrypt (wModes w s.ms1) s.key s.iv) s.ms2 := by
  simp [EncStep.step, wModes, List.foldl_append, wMode]

theorem applyModeOps_enc (n : Nat) (w : WState) (src : Bytes) (s : EncStep) (h1 : NoEnc s.ms1) (h2 : NoEnc s.ms2)
    (he : w.mode.enc = false) :
    applyModeOps (pureSrc e) ⟨n, w.mode⟩ src s.step.modes =
      some (⟨n, (wModes w s.step.modes).mode⟩, cbcDec e s.key s.iv src) := by
  rw [wModes_encStep, show s.step.modes = s.ms1 ++ (.encrypt s.key s.iv :: s.ms2) from rfl, applyModeOps_append,
    applyModeOps_noenc h1]
  have henc : (wModes w s.ms1).mode.enc = false := (congrArg (·.1) (wModes_key w s.ms1 h1)).trans he
  simp only [applyModeOps, applyModeOp, henc, Bool.false_eq_true, if_false]
  exact applyModeOps_noenc (w := wEncrypt (wModes w s.ms1) s.key s.iv) h2

theorem wStep_enc_key (w : WState) (es : EncStep) (h2 : NoEnc es.ms2) :
    (wStep e w es.step).key = (true, some (es.key, es.iv), w.out.length) := by
  rw [wStep_key_modes, wModes_encStep, wModes_key _ es.ms2 h2]
  simp [WState.key, wEncrypt, wModes_out]

/-- the plaintext that is CBC-encrypted: everything from the packet of `es` on, with the final padding -/
def encTail (w0 : WState) (pre : List Step) (es : EncStep) (post : List Step) : Bytes :=
  stepBytes e (wSteps e w0 pre) es.step ++ stepsBytes e (wStep e (wSteps e w0 pre) es.step) post ++
    padWords (padOf (wSteps e (wStep e (wSteps e w0 pre) es.step) post) / 4)

theorem wire_enc (n0 : Nat) (m0 : Mode) (hm0 : m0.enc = false) (pre : List Step) (es : EncStep) (post : List Step)
    (hok : StepsOK e (freshW n0 m0) (pre ++ es.step :: post)) (h2 : NoEnc es.ms2) (hpost : NoEncSteps post) :
    (wFlush (wSteps e (freshW n0 m0) (pre ++ es.step :: post))).wire e =
        stepsBytes e (freshW n0 m0) pre ++ cbcEnc e es.key es.iv (encTail e (freshW n0 m0) pre es post) ∧
      (encTail e (freshW n0 m0) pre es post).length % blockSize = 0 ∧ es.iv.length = blockSize := by
  have hi := EInv_fresh n0 m0 hm0
  obtain ⟨hokpre, hmes, -, -⟩ := (StepsOK_append e _ pre (es.step :: post)).1 hok
  obtain ⟨-, hLp, -⟩ := runW_steps e _ pre hokpre hi
  obtain ⟨-, -, hiS⟩ := runW_steps e _ _ hok hi
  obtain ⟨-, ⟨-, hpend, hivlen⟩, -⟩ := (ModesOK_append _ es.ms1 (.encrypt es.key es.iv :: es.ms2)).1 hmes
  rw [wModes_pending] at hpend
  -- at the switch nothing is pending, so `out` is exactly the clear prefix
  have hout_p : (wSteps e (freshW n0 m0) pre).out = stepsBytes e (freshW n0 m0) pre := by
    have h : (wSteps e (freshW n0 m0) pre).out ++ (wSteps e (freshW n0 m0) pre).pending =
        [] ++ [] ++ stepsBytes e (freshW n0 m0) pre := hLp
    rwa [hpend, List.append_nil] at h
  have hkey : (wSteps e (freshW n0 m0) (pre ++ es.step :: post)).key =
      (true, some (es.key, es.iv), (stepsBytes e (freshW n0 m0) pre).length) := by
    rw [wSteps_append, ← hout_p, ← wStep_enc_key e _ es h2]
    exact wSteps_key e _ post hpost
  have hout : (wFlush (wSteps e (freshW n0 m0) (pre ++ es.step :: post))).out =
      stepsBytes e (freshW n0 m0) pre ++ encTail e (freshW n0 m0) pre es post := by
    rw [(final_flush e _ _ hok hi).2, stepsBytes_append, wSteps_append]
    simp only [WState.L, freshW, encTail, stepsBytes, wSteps, List.nil_append, List.append_assoc]
  generalize wSteps e (freshW n0 m0) (pre ++ es.step :: post) = wS at hkey hout hiS ⊢
  have henc : wS.mode.enc = true := congrArg (·.1) hkey
  have hciph : (wFlush wS).cipher = some (es.key, es.iv) := congrArg (·.2.1) hkey
  have hst : (wFlush wS).encStart = (stepsBytes e (freshW n0 m0) pre).length := congrArg (·.2.2) hkey
  have hP := wFlush_aligned wS hiS henc
  rw [hout, hst, List.length_append, Nat.add_sub_cancel_left,
    show (wFlush wS).pending.length = 0 from rfl, Nat.add_zero] at hP
  refine ⟨?_, hP, hivlen⟩
  rw [WState.wire, hciph]
  simp only [hst, hout]
  rw [List.take_left' rfl, List.drop_left' rfl]

theorem read_switch (he : e.CipherOK) (sched : Nat → List ModeOp) (wp : WState) (es : EncStep) (post : List Step)
    (f : Nat) (hip : EInv wp) (hencp : wp.mode.enc = false) (hok : StepsOK e wp (es.step :: post))
    (h1 : NoEnc es.ms1) (h2 : NoEnc es.ms2) (hpost : NoEncSteps post)
    (hs : SchedFor sched wp.n (es.step :: post)) (hend : sched (wp.n + 1 + post.length) = [])
    (hPlen : (encTail e wp [] es post).length % blockSize = 0) (hivlen : es.iv.length = blockSize) :
    readLoop (pureSrc e) e sched ((post.length + (f + 1)) + 1) ⟨wp.n, wp.mode⟩
        (cbcEnc e es.key es.iv (encTail e wp [] es post)) =
      (stepEv es.step :: post.map stepEv, some .eof) := by
  obtain ⟨hmes, hpes, hokpost⟩ := hok
  have hwn := wStep_n e wp es.step
  have hrest := read_history e sched post (wStep e wp es.step) (jStep e wp es.step) f
    (EInv_wStep e wp es.step hmes hip) hokpost hpost (jStep_pad e wp es.step hmes hip)
    (by rw [hwn]; exact hs.right (a := [es.step])) (by rw [hwn]; exact hend)
  rw [hwn, wStep_mode] at hrest
  refine readLoop_step e (by rw [hs.head]; exact applyModeOps_enc e _ _ _ es h1 h2 hencp) ?_ hpes (Nat.zero_le 3)
    (fun _ => rfl) hrest
  rw [cbcDec_cbcEnc e es.key he es.iv _ hivlen hPlen]
  simp [encTail, wSteps, stepBytes, padWords, List.append_assoc, EncStep.step]

theorem wModes_enc (w : WState) (ms : List ModeOp) (h : w.mode.enc = true) : (wModes w ms).mode.enc = true := by
  induction ms generalizing w with
  | nil => exact h
  | cons m ms ih =>
    refine ih (wMode w m) ?_
    cases m with
    | encrypt k iv => rfl
    | setProto v => exact h
    | setCrcC => exact h

theorem ModesOK.noEnc {w : WState} {ms : List ModeOp} (h : ModesOK w ms) (he : w.mode.enc = true) : NoEnc ms := by
  induction ms generalizing w with
  | nil => exact nofun
  | cons m ms ih =>
    refine List.forall_mem_cons.2 ⟨?_, ih h.2 (wModes_enc w [m] he)⟩
    cases m with
    | encrypt k iv => exact absurd (h.1.1.symm.trans he) (by decide)
    | setProto v => rfl
    | setCrcC => rfl

theorem ModesOK.split {w : WState} {ms : List ModeOp} (h : ModesOK w ms) :
    NoEnc ms ∨ ∃ ms1 k iv ms2, ms = ms1 ++ .encrypt k iv :: ms2 ∧ NoEnc ms1 ∧ NoEnc ms2 := by
  induction ms generalizing w with
  | nil => exact .inl nofun
  | cons m ms ih =>
    cases hm : m.isEnc with
    | true =>
      cases m with
      | encrypt k iv => exact .inr ⟨[], k, iv, ms, rfl, nofun, h.2.noEnc rfl⟩
      | setProto v => cases hm
      | setCrcC => cases hm
    | false =>
      rcases ih h.2 with hn | ⟨ms1, k, iv, ms2, rfl, h1, h2⟩
      · exact .inl (List.forall_mem_cons.2 ⟨hm, hn⟩)
      · exact .inr ⟨m :: ms1, k, iv, ms2, rfl, List.forall_mem_cons.2 ⟨hm, h1⟩, h2⟩

theorem StepsOK.noEnc {e : Env} {w : WState} {ss : List Step} (h : StepsOK e w ss) (he : w.mode.enc = true) :
    NoEncSteps ss := by
  induction ss generalizing w with
  | nil => exact nofun
  | cons s ss ih =>
    exact List.forall_mem_cons.2 ⟨h.1.noEnc he, ih h.2.2 (by rw [wStep_mode]; exact wModes_enc w s.modes he)⟩

theorem StepsOK.split {e : Env} {w : WState} {ss : List Step} (h : StepsOK e w ss) :
    NoEncSteps ss ∨ ∃ pre es post, ss = pre ++ EncStep.step es :: post ∧
      NoEncSteps pre ∧ NoEnc es.ms1 ∧ NoEnc es.ms2 ∧ NoEncSteps post := by
  induction ss generalizing w with
  | nil => exact .inl nofun
  | cons s ss ih =>
    rcases h.1.split with hn | ⟨ms1, k, iv, ms2, hms, h1, h2⟩
    · rcases ih h.2.2 with hr | ⟨pre, es, post, rfl, hp, h1, h2, hq⟩
      · exact .inl (List.forall_mem_cons.2 ⟨hn, hr⟩)
      · exact .inr ⟨s :: pre, es, post, rfl, List.forall_mem_cons.2 ⟨hn, hp⟩, h1, h2, hq⟩
    · refine .inr ⟨[], ⟨ms1, k, iv, ms2, s.flush, s.tip, s.body, s.extra⟩, ss, ?_, nofun, h1, h2, h.2.2.noEnc ?_⟩
      · exact congrArg (· :: ss) (by unfold EncStep.step; rw [← hms])
      · rw [wStep_mode, hms, wModes, List.foldl_append]
        exact wModes_enc _ ms2 rfl

/-- `hc`: the block-cipher law is needed only by a history that turns encryption on -/
theorem read_wire (n0 : Nat) (m0 : Mode) (hm0 : m0.enc = false) (ss : List Step)
    (hok : StepsOK e (freshW n0 m0) ss) (hc : NoEncSteps ss ∨ e.CipherOK) (F : Nat) (hF : ss.length < F) :
    readLoop (pureSrc e) e (schedOfOps e (flat ss) (freshW n0 m0)) F ⟨n0, m0⟩
      ((wFlush (wSteps e (freshW n0 m0) ss)).wire e) = (ss.map stepEv, some .eof) := by
  have hi := EInv_fresh n0 m0 hm0
  obtain ⟨hs1, hs2⟩ := sched_steps e _ ss hok hi
  rcases hok.split with hne | ⟨pre, es, post, rfl, hpre, h1, h2, hpost⟩
  · obtain ⟨f, rfl⟩ : ∃ f, F = ss.length + (f + 1) := ⟨F - ss.length - 1, by omega⟩
    have hpad : padOf (wSteps e (freshW n0 m0) ss) = 0 := padOf_noenc _ ((wSteps_enc e _ ss hne).trans hm0)
    have h := read_history e _ ss (freshW n0 m0) 0 f hi hok hne (PadOK_zero hm0) hs1 (hs2 _ (.inr (Nat.le_refl _)))
    rw [hpad] at h
    simp only [padWords, Nat.zero_div, List.replicate_zero, List.flatten_nil, List.nil_append, List.append_nil] at h
    rw [wire_plain e n0 m0 hm0 ss hok hne]
    exact h
  · obtain ⟨f, rfl⟩ : ∃ f, F = pre.length + ((post.length + (f + 1)) + 1) :=
      ⟨F - (pre.length + post.length + 2), by rw [List.length_append, List.length_cons] at hF; omega⟩
    have he : e.CipherOK := hc.resolve_left fun hn => Bool.noConfusion
      (hn es.step (List.mem_append_right pre List.mem_cons_self) (.encrypt es.key es.iv)
        (List.mem_append_right es.ms1 List.mem_cons_self))
    obtain ⟨hw, hPlen, hivlen⟩ := wire_enc e n0 m0 hm0 pre es post hok h2 hpost
    obtain ⟨hokpre, hokes⟩ := (StepsOK_append e _ pre (es.step :: post)).1 hok
    have hnp : (wSteps e (freshW n0 m0) pre).n = n0 + pre.length := wSteps_n e _ pre
    -- from the switch to the end, then the clear part before it; `encTail w pre` and `encTail (wSteps e w pre) []`, the
    -- forms of `wire_enc` and `read_switch`, agree by unfolding `wSteps _ []`
    have hcrypt := read_switch e he _ (wSteps e (freshW n0 m0) pre) es post f (runW_steps e _ pre hokpre hi).2.2
      ((wSteps_enc e _ pre hpre).trans hm0) hokes h1 h2 hpost (by rw [hnp]; exact hs1.right)
      (hs2 _ (.inr (by rw [hnp, List.length_append, List.length_cons]; show n0 + _ ≤ _; omega)))
      hPlen hivlen
    rw [hw, List.map_append, List.map_cons]
    exact read_steps e _ pre (freshW n0 m0) 0 _ _ _ _ hi hokpre hpre (PadOK_zero hm0) hs1.left
      fun j' hj' => by rw [hj'.clear ((wSteps_enc e _ pre hpre).trans hm0)]; exact hcrypt

end TLVerif.Packet
