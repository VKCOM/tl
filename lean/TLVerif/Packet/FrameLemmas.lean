import TLVerif.Packet.BasicLemmas
import TLVerif.Packet.ReaderLemmas
/-!
The reader over the whole stream against the writer's frames: what its two halves accept (`readHeader_ok`,
`readBody_ok`); so after at most three padding words it accepts the frame of an admissible packet
(`readPacket_frame`) and nothing else (`readPacket_accepts`); on padding alone it reports a clean end of stream.
-/
namespace TLVerif.Packet
open TLVerif.Facts.Packet

variable (e : Env)

/-- `j` crypto padding words (`04 00 00 00`) -/
def padWords (j : Nat) : Bytes := (List.replicate j (le32 padVal)).flatten

/-- a packet the reading side accepts and delivers in state `st` -/
def PktOK (st : RState) (tip : Nat) (body : Bytes) : Prop :=
  body.length ≤ maxPacketLen - packetOverhead ∧ tip < 4294967296 ∧
  (st.mode.proto = 0 → body.length % 4 = 0) ∧
  (st.n = 0 → tip = packetTypeRPCNonce) ∧ (st.n = 1 → tip = packetTypeRPCHandshake) ∧
  (st.n < 2 → body.length + packetOverhead ≤ maxNonceHandshakeLen) ∧
  tip ≠ rpcPongTag ∧ (tip = rpcPingTag → body.length = 8)

instance (st : RState) (tip : Nat) (body : Bytes) : Decidable (PktOK st tip body) := by
  unfold PktOK; infer_instance

theorem pure_readFull_ok (k : Nat) (t b s : Bytes) :
    (pureSrc e).readFull k t = .ok b s ↔ t = b ++ s ∧ b.length = k := by
  simp only [pureSrc]
  constructor
  · intro h
    split at h
    · cases h
      exact ⟨(List.take_append_drop k t).symm, by rw [List.length_take]; omega⟩
    · cases h
  · rintro ⟨rfl, rfl⟩
    rw [if_pos (by simp)]
    simp

theorem pure_readFull_append (a rest : Bytes) (k : Nat) (hk : a.length = k) :
    (pureSrc e).readFull k (a ++ rest) = .ok a rest :=
  (pure_readFull_ok e k _ a rest).2 ⟨rfl, hk⟩

theorem pure_readFirst (t : Bytes) : (pureSrc e).readFirst t = (pureSrc e).readFull 12 t := rfl

theorem seqWord_lt (n : Nat) : seqWord n < 4294967296 := by
  unfold seqWord
  have := startSeq_eq
  omega

@[simp] theorem header_length (n tip blen : Nat) : (header n tip blen).length = 12 := rfl

theorem crc_lt (m : Mode) (d : Bytes) : e.crc m d < 4294967296 := by
  unfold Env.crc
  split <;> exact UInt32.toNat_lt _

theorem ite_some_eq_none {α : Type} {c : Prop} [Decidable c] (x : α) (r : Option α) :
    (if c then some x else r) = none ↔ ¬ c ∧ r = none := by
  split <;> simp [*]

/-- `readSeqNum < 0`: the first two packets of a connection -/
theorem early_iff (n : Nat) : (n : Int) + startSeqNum < 0 ↔ n < 2 := by
  rw [startSeq_eq]; omega

theorem second_iff (n : Nat) : (n : Int) + startSeqNum = startSeqNum + 1 ↔ n = 1 := by
  rw [startSeq_eq]; omega

theorem checkHeader_none (st : RState) (len seq tip : Nat) :
    checkHeader st len seq tip = none ↔
      packetOverhead ≤ len ∧ len ≤ maxPacketLen ∧ (st.mode.proto = 0 → len % 4 = 0) ∧
      (st.n = 0 → tip = packetTypeRPCNonce) ∧ (st.n = 1 → tip = packetTypeRPCHandshake) ∧
      (st.n < 2 → len ≤ maxNonceHandshakeLen) ∧ seq = seqWord st.n := by
  simp only [checkHeader, ite_some_eq_none, early_iff, second_iff]
  constructor
  · rintro ⟨h1, h2, h3, h4, h5, h6, -⟩
    exact ⟨by omega, by omega, fun hp => Decidable.of_not_not fun hn => h2 ⟨hp, hn⟩,
      fun h0 => Decidable.of_not_not fun hn => h3 ⟨by omega, h0, hn⟩,
      fun h0 => Decidable.of_not_not fun hn => h4 ⟨by omega, h0, hn⟩,
      fun h0 => Nat.le_of_not_gt fun hn => h5 ⟨h0, hn⟩, Decidable.of_not_not h6⟩
  · rintro ⟨c1, c2, c3, c4, c5, c6, c7⟩
    exact ⟨by omega, fun ⟨a, b⟩ => b (c3 a), fun ⟨_, b, c⟩ => c (c4 b), fun ⟨_, b, c⟩ => c (c5 b),
      fun ⟨a, b⟩ => by have := c6 a; omega, fun h => h c7, trivial⟩

theorem finishHeader_ok (st : RState) (h12 : Bytes) (h : Hdr) :
    finishHeader st h12 = .ok h ↔
      h = ⟨h12, word h12, word (h12.drop 8)⟩ ∧
        checkHeader st (word h12) (word (h12.drop 4)) (word (h12.drop 8)) = none := by
  simp only [finishHeader]
  cases checkHeader st (word h12) (word (h12.drop 4)) (word (h12.drop 8)) with
  | none => simp [eq_comm]
  | some er => simp

theorem header_words (n tip blen : Nat) (hb : blen + packetOverhead < 4294967296) (ht : tip < 4294967296) :
    word (header n tip blen) = blen + packetOverhead ∧ word ((header n tip blen).drop 4) = seqWord n ∧
      word ((header n tip blen).drop 8) = tip := by
  have d4 : (header n tip blen).drop 4 = le32 (seqWord n) ++ le32 tip := rfl
  have d8 : (header n tip blen).drop 8 = le32 tip ++ [] := rfl
  refine ⟨?_, ?_, ?_⟩
  · unfold header
    rw [List.append_assoc, word_le32, Nat.mod_eq_of_lt hb]
  · rw [d4, word_le32, Nat.mod_eq_of_lt (seqWord_lt n)]
  · rw [d8, word_le32, Nat.mod_eq_of_lt ht]

theorem len_lt (l : Nat) (h : l ≤ maxPacketLen - packetOverhead) : l + packetOverhead < 4294967296 :=
  Nat.lt_of_le_of_lt (Nat.add_le_of_le_sub (by decide) h) (by decide)

theorem finishHeader_header (st : RState) (tip : Nat) (body : Bytes) (h : PktOK st tip body) :
    finishHeader st (header st.n tip body.length) = .ok ⟨header st.n tip body.length, body.length + packetOverhead, tip⟩ := by
  obtain ⟨w1, w2, w3⟩ := header_words st.n tip body.length (len_lt _ h.1) h.2.1
  obtain ⟨h1, _, h3, h4, h5, h6, _, _⟩ := h
  rw [finishHeader_ok, w1, w2, w3]
  exact ⟨rfl, (checkHeader_none st _ _ tip).2
    ⟨Nat.le_add_left _ _, Nat.add_le_of_le_sub (by decide) h1,
      fun hp => by have := h3 hp; rw [overhead_eq]; omega, h4, h5, h6, rfl⟩⟩

theorem padWords_succ (j : Nat) : padWords (j + 1) = le32 padVal ++ padWords j := by
  simp [padWords, List.replicate_succ]

theorem padLoop_pads (st : RState) (left j : Nat) (x : Bytes) :
    padLoop (pureSrc e) st (left + j) (padWords j ++ x) = padLoop (pureSrc e) st left x := by
  induction j with
  | zero => simp [padWords]
  | succ j ih =>
    rw [← Nat.add_assoc, padWords_succ, List.append_assoc]
    simp only [padLoop]
    rw [pure_readFull_append e (le32 padVal) _ 4 rfl]
    simp only
    rw [if_pos (by have := word_le32 padVal []; rw [List.append_nil] at this; rw [this]; rfl)]
    exact ih

/-- 3 = `blockSize / 4 - 1`: the writer pads to a block with whole words, so at most three -/
theorem padLoop_block (st : RState) {j : Nat} (hj : j ≤ 3) (x : Bytes) :
    padLoop (pureSrc e) st (blockSize / 4) (padWords j ++ x) = padLoop (pureSrc e) st (3 - j + 1) x := by
  rw [show blockSize / 4 = (3 - j + 1) + j by have := block_eq; omega]
  exact padLoop_pads e st _ j x

theorem word_append (w r : Bytes) (h : w.length = 4) : word (w ++ r) = word w :=
  match w, h with
  | [_, _, _, _], _ => rfl

/-- the length word of an acceptable header is at least the overhead (16), so it is not taken for a padding word (4) -/
theorem padLoop_header (st : RState) (left : Nat) (h12 rest : Bytes) (h : Hdr) (hl : h12.length = 12)
    (hf : finishHeader st h12 = .ok h) : padLoop (pureSrc e) st (left + 1) (h12 ++ rest) = .ok (h, rest) := by
  have hlen := ((checkHeader_none st _ _ _).1 ((finishHeader_ok st h12 h).1 hf).2).1
  obtain ⟨w, r, rfl, hw4, hr8⟩ : ∃ w r, h12 = w ++ r ∧ w.length = 4 ∧ r.length = 8 :=
    ⟨h12.take 4, h12.drop 4, (List.take_append_drop 4 h12).symm, by rw [List.length_take]; omega,
      by rw [List.length_drop]; omega⟩
  rw [word_append w r hw4, overhead_eq] at hlen
  simp only [padLoop, List.append_assoc]
  rw [pure_readFull_append e w _ 4 hw4]
  simp only
  rw [if_neg (by rw [padVal_eq]; omega), pure_readFull_append e r _ 8 hr8]
  simp only [hf]

theorem padLoop_inv (st : RState) (left : Nat) (t : Bytes) (h : Hdr) (rest : Bytes)
    (hr : padLoop (pureSrc e) st left t = .ok (h, rest)) :
    ∃ j h12, j < left ∧ t = padWords j ++ (h12 ++ rest) ∧ h12.length = 12 ∧ finishHeader st h12 = .ok h := by
  revert hr
  fun_induction padLoop (pureSrc e) st left t
  case case4 left t w s1 hw hpad ih =>  -- a padding word
    intro hr
    obtain ⟨ht, hwl⟩ := (pure_readFull_ok e 4 t w s1).1 hw
    obtain ⟨j, h12, hj, hs1, hl, hf⟩ := ih hr
    refine ⟨j + 1, h12, by omega, ?_, hl, hf⟩
    rw [ht, hs1, padWords_succ, ← hpad, le32_word w (by omega), List.take_of_length_le (by omega),
      List.append_assoc]
  case case8 left t w s1 hw _ r _ hr8 _ hfin =>  -- the header
    rintro ⟨⟩
    obtain ⟨ht, hwl⟩ := (pure_readFull_ok e 4 t w s1).1 hw
    obtain ⟨ht2, hrl⟩ := (pure_readFull_ok e 8 s1 r rest).1 hr8
    refine ⟨0, w ++ r, by omega, ?_, by rw [List.length_append, hwl, hrl], hfin⟩
    rw [ht, ht2, List.append_assoc]
    rfl
  all_goals nofun

theorem readHeader_ok (st : RState) (t : Bytes) (h : Hdr) (rest : Bytes) :
    readHeader (pureSrc e) st t = .ok (h, rest) ↔
      ∃ j h12, j ≤ 3 ∧ (st.n = 0 → j = 0) ∧ t = padWords j ++ (h12 ++ rest) ∧ h12.length = 12 ∧
        finishHeader st h12 = .ok h := by
  constructor
  · fun_cases readHeader (pureSrc e) st t
    case case4 h12 _ hf _ hfin =>  -- the first packet: no padding
      rintro ⟨⟩
      obtain ⟨ht, hl⟩ := (pure_readFull_ok e 12 t h12 rest).1 hf
      exact ⟨0, h12, by omega, fun _ => rfl, ht, hl, hfin⟩
    case case5 hn =>
      intro hr
      obtain ⟨j, h12, hj, ht, hl, hf⟩ := padLoop_inv e st _ t h rest hr
      rw [block_eq] at hj
      exact ⟨j, h12, by omega, fun h0 => absurd h0 hn, ht, hl, hf⟩
    all_goals nofun
  · rintro ⟨j, h12, hj, hj0, rfl, hl, hf⟩
    unfold readHeader
    split
    · rename_i h0
      rw [hj0 h0, pure_readFirst, show padWords 0 ++ (h12 ++ rest) = h12 ++ rest from rfl,
        pure_readFull_append e _ _ 12 hl]
      simp only [hf]
    · rw [padLoop_block e st hj, padLoop_header e st _ h12 rest h hl hf]

theorem all_zero_zeros (n : Nat) : (zeros n).all (· == 0) = true := by
  simp [zeros]

theorem alignOf_eq (m : Mode) (l : Nat) : alignOf m (l + packetOverhead) = alignOf m l := by
  have h4 : (l + 16) % 4 = l % 4 := by omega
  unfold alignOf
  rw [overhead_eq, h4]

theorem take_take_drop (l : Bytes) (n k : Nat) : l = l.take n ++ ((l.drop n).take k ++ l.drop (n + k)) := by
  rw [← List.drop_drop, List.take_append_drop, List.take_append_drop]

theorem eq_zeros_of_all (l : Bytes) (h : l.all (· == 0) = true) : l = zeros l.length :=
  List.eq_replicate_iff.2 ⟨rfl, fun b hb => eq_of_beq (List.all_eq_true.1 h b hb)⟩

theorem readBody_ok (st : RState) (h : Hdr) (s body rest : Bytes) :
    readBody (pureSrc e) e st h s = .ok (body, rest) ↔
      s = body ++ le32 (e.crc st.mode (h.bytes ++ body)) ++ zeros (alignOf st.mode h.len) ++ rest ∧
        body.length = h.len - packetOverhead := by
  constructor
  · revert body rest
    fun_cases readBody (pureSrc e) e st h s
    case case5 b s1 hb _ hz hc =>
      rintro _ _ ⟨⟩
      obtain ⟨hs, hbl⟩ := (pure_readFull_ok e _ s b s1).1 hb
      -- `b` is body, checksum word and alignment; the last two are what the checks compared them with
      have hzz := eq_zeros_of_all _ (Bool.of_not_eq_false hz)
      rw [List.length_drop, hbl, Nat.add_sub_cancel_left] at hzz
      have hcrc := le32_word (b.drop (h.len - packetOverhead)) (by rw [List.length_drop]; omega)
      rw [Decidable.of_not_not hc] at hcrc
      refine ⟨?_, by rw [List.length_take]; omega⟩
      rw [hs, List.append_assoc _ (le32 _), hcrc, ← hzz]
      exact congrArg (· ++ s1) (take_take_drop b _ 4)
    all_goals nofun
  · rintro ⟨rfl, hl⟩
    unfold readBody
    simp only [← hl]
    rw [pure_readFull_append e _ _ _ (by simp [zeros]; omega)]
    simp only [List.append_assoc, ← List.drop_drop, List.take_left', List.drop_left', word_le32,
      Nat.mod_eq_of_lt (crc_lt e _ _)]
    rw [List.drop_left' (le32_length _), all_zero_zeros]
    simp  -- both checks now compare a value with itself: `true = false`, `crc ≠ crc`

theorem readPacket_frame (st : RState) (j : Nat) (tip : Nat) (body rest : Bytes) (h : PktOK st tip body)
    (hj : j ≤ 3) (hj0 : st.n = 0 → j = 0) :
    readPacket (pureSrc e) e st (padWords j ++ (frame e st.mode st.n tip body ++ rest)) =
      .ok (evOf tip body, { st with n := st.n + 1 }, rest) := by
  unfold readPacket
  rw [(readHeader_ok e st _ ⟨header st.n tip body.length, body.length + packetOverhead, tip⟩
      (body ++ le32 (e.crc st.mode (header st.n tip body.length ++ body)) ++
        zeros (alignOf st.mode (body.length + packetOverhead)) ++ rest)).2
    ⟨j, _, hj, hj0, by simp only [frame, alignOf_eq, List.append_assoc], rfl, finishHeader_header st tip body h⟩]
  simp only
  rw [(readBody_ok e st _ _ body rest).2 ⟨rfl, (Nat.add_sub_cancel ..).symm⟩]
  have ho := overhead_eq
  obtain ⟨-, -, -, -, -, -, hpong, hping⟩ := h
  unfold evOf
  rw [if_neg hpong]
  split
  · rename_i hp
    rw [if_neg (by have := hping hp; omega)]
  · rfl

theorem readHeader_end (st : RState) (j : Nat) (hj : j ≤ 3) (hj0 : st.n = 0 → j = 0) :
    readHeader (pureSrc e) st (padWords j) = .error .eof := by
  unfold readHeader
  split
  · rename_i h0
    rw [hj0 h0]
    simp [padWords, pureSrc]
  · rw [← List.append_nil (padWords j), padLoop_block e st hj]
    simp [padLoop, pureSrc]

theorem readPacket_end (st : RState) (j : Nat) (hj : j ≤ 3) (hj0 : st.n = 0 → j = 0) :
    readPacket (pureSrc e) e st (padWords j) = .error .eof := by
  unfold readPacket
  rw [readHeader_end e st j hj hj0]

theorem h12_words (h12 : Bytes) (h : h12.length = 12) :
    h12 = le32 (word h12) ++ le32 (word (h12.drop 4)) ++ le32 (word (h12.drop 8)) := by
  rw [le32_word h12 (by omega), le32_word (h12.drop 4) (by rw [List.length_drop]; omega),
    le32_word (h12.drop 8) (by rw [List.length_drop]; omega),
    List.take_of_length_le (l := h12.drop 8) (by rw [List.length_drop]; omega), List.append_assoc]
  exact take_take_drop h12 4 4

theorem readPacket_accepts (st : RState) (t : Bytes) (ev : Ev) (st1 : RState) (rest : Bytes)
    (hr : readPacket (pureSrc e) e st t = .ok (ev, st1, rest)) :
    ∃ j tip body, j ≤ 3 ∧ (st.n = 0 → j = 0) ∧ t = padWords j ++ (frame e st.mode st.n tip body ++ rest) ∧
      ev = evOf tip body ∧ st1 = { st with n := st.n + 1 } ∧ PktOK st tip body := by
  obtain ⟨h, s1, body, hh, hb, hpong, hping, hev, hst⟩ := readPacket_inv _ e st st1 t rest ev hr
  obtain ⟨j, h12, hj, hj0, ht, hl, hf⟩ := (readHeader_ok e st t h s1).1 hh
  obtain ⟨rfl, hck⟩ := (finishHeader_ok st h12 h).1 hf
  obtain ⟨c1, c2, c3, c4, c5, c6, c7⟩ := (checkHeader_none st _ _ _).1 hck
  obtain ⟨hs1, hbl⟩ := (readBody_ok e st _ s1 body rest).1 hb
  have hblen : word h12 = body.length + packetOverhead := by
    have : body.length = word h12 - packetOverhead := hbl
    omega
  simp only [hblen] at hs1 hping c2 c3 c6
  rw [overhead_eq] at c3  -- the overhead is four words
  refine ⟨j, word (h12.drop 8), body, hj, hj0, ?_, hev, hst, ?_⟩
  · rw [ht, hs1, alignOf_eq]
    unfold frame header
    rw [← hblen, ← c7, ← h12_words h12 hl]
    simp only [List.append_assoc]
  · exact ⟨Nat.le_sub_of_add_le c2, word_lt _, fun hp => (Nat.add_mul_mod_self_left _ 4 4).symm.trans (c3 hp), c4, c5,
      c6, hpong, fun hp => Nat.add_right_cancel ((hping hp).trans (Nat.add_comm _ _))⟩

end TLVerif.Packet
