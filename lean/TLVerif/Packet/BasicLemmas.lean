import TLVerif.Packet.Basic
import TLVerif.Prim.LittleEndian
/-! The generated framing constants as numerals, and `le32` / `word` as mutually inverse on 32-bit values. -/
namespace TLVerif.Packet
open TLVerif.Facts.Packet TLVerif.Prim

theorem overhead_eq : packetOverhead = 16 := rfl
theorem maxHs_eq : maxNonceHandshakeLen = 1023 := rfl
theorem block_eq : blockSize = 16 := rfl
theorem padVal_eq : padVal = 4 := rfl
theorem startSeq_eq : startSeqNum = -2 := rfl

@[simp] theorem le32_length (n : Nat) : (le32 n).length = 4 := rfl

theorem le32_eq (n : Nat) : Packet.le32 n = LE.ofNat 4 n := LE.ofNat4_div n
theorem u32of_eq (a b c d : UInt8) : u32of a b c d = LE.toNat [a, b, c, d] := LE.toNat4_mul a b c d

theorem word_le32 (n : Nat) (rest : Bytes) : word (le32 n ++ rest) = n % 4294967296 := by
  simp only [le32, word, List.cons_append, List.nil_append, u32of_eq]
  rw [← le32, le32_eq, LE.toNat_ofNat]

theorem le32_inj {a b : Nat} (ha : a < 4294967296) (hb : b < 4294967296) (h : le32 a = le32 b) : a = b := by
  rw [← Nat.mod_eq_of_lt ha, ← Nat.mod_eq_of_lt hb, ← word_le32 a [], ← word_le32 b [], h]

theorem le32_word (bs : Bytes) (h : 4 ≤ bs.length) : le32 (word bs) = bs.take 4 :=
  match bs, h with
  | a :: b :: c :: d :: _, _ => by rw [word, le32_eq, u32of_eq, LE.ofNat_toNat (k := 4) rfl]; rfl

theorem word_lt (bs : Bytes) : word bs < 4294967296 := by
  unfold word
  split
  · rw [u32of_eq]; exact LE.toNat_lt (k := 4) rfl
  · decide

end TLVerif.Packet
