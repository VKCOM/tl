import TLVerif.Packet.RoundtripLemmas
/-!
Connection-level statements over the chunked `cryptoReader` model: chunk invariance; a result of the whole-stream
reader that delivers a packet holds for every chunking (what a fresh reader parsed first was a frame, which is no
memcached command); the round trip of every admissible history (`roundtrip`).
-/
namespace TLVerif.Packet
open TLVerif.Facts.Packet

variable (e : Env)

theorem magics_eq : magics = [[115, 116, 97, 116, 115, 13, 10], [115, 116, 97, 116, 115, 10],
    [103, 101, 116, 32, 115, 116, 97, 116, 115, 13, 10], [118, 101, 114, 115, 105, 111, 110, 13, 10]] := by decide

/-- the memcached commands are ASCII, so their bytes are their characters -/
theorem magics_ascii : ∀ s ∈ [memcachedStatsReqRN, memcachedStatsReqN, memcachedGetStatsReq, memcachedVersionReq],
    ∀ c ∈ s.toList, c.toNat < 128 := by decide

theorem NoMagic_nil : NoMagic [] := by
  intro m hm hp
  rw [magics_eq] at hm
  have : m = [] := List.prefix_nil.mp hp
  subst this
  simp at hm

theorem NoMagic_third_zero (a b : UInt8) (r : Bytes) : NoMagic (a :: b :: 0 :: r) := by
  intro m hm hp
  rw [magics_eq] at hm
  simp only [List.mem_cons, List.not_mem_nil, or_false] at hm
  rcases hm with h | h | h | h <;> subst h <;> simp [List.cons_prefix_cons] at hp

theorem NoMagic_frame {m : Mode} {n tip : Nat} {body rest : Bytes} (h : body.length + packetOverhead < 65536) :
    NoMagic (frame e m n tip body ++ rest) := by
  -- the length is below 2^16, so the third byte of its word is zero
  unfold frame header le32
  rw [Nat.div_eq_of_lt h]
  exact NoMagic_third_zero _ _ _

theorem CRelB_init (cs : List Bytes) (b : Bool) : CRelB e b { chunks := cs } cs.flatten := by
  refine ⟨⟨rfl, ?_⟩, fun _ => rfl⟩
  simp [CSrc.T]

theorem chunk_invariant (sched : Nat → List ModeOp) (fuel : Nat) (st : RState) (cs₁ cs₂ : List Bytes)
    (hcs : cs₁.flatten = cs₂.flatten)
    (hQ : st.n = 0 → ∀ r, applyModeOps (pureSrc e) st cs₁.flatten (sched st.n) = some r → NoMagic r.2) :
    readLoop (chunkSrc e) e sched fuel st { chunks := cs₁ } = readLoop (chunkSrc e) e sched fuel st { chunks := cs₂ } := by
  rw [readLoop_chunk_eq_pure e sched fuel st (CRelB_init e cs₁ _) hQ,
      readLoop_chunk_eq_pure e sched fuel st (CRelB_init e cs₂ _) (by rw [← hcs]; exact hQ), hcs]

/-- `hne`: if a reader that has read nothing yet delivers a packet, what it parsed first was a frame, which is no
memcached command; so the result of the whole-stream reader holds for every chunking. -/
theorem readLoop_chunk_of_pure {sched : Nat → List ModeOp} {f : Nat} {st : RState} {cs : List Bytes} {evs : List Ev}
    {x : Option RErr} (h : readLoop (pureSrc e) e sched f st cs.flatten = (evs, x)) (hne : st.n = 0 → evs ≠ []) :
    readLoop (chunkSrc e) e sched f st { chunks := cs } = (evs, x) := by
  rw [readLoop_chunk_eq_pure e sched f st (CRelB_init e cs _) ?_, h]
  intro h0 r hr
  cases f with
  | zero => exact absurd (congrArg (·.1) h).symm (hne h0)
  | succ f =>
    simp only [readLoop, hr] at h
    cases hp : readPacket (pureSrc e) e r.1 r.2 with
    | error er => rw [hp] at h; exact absurd (congrArg (·.1) h).symm (hne h0)
    | ok p =>
      obtain ⟨ev, st1, rest⟩ := p
      obtain ⟨j, tip, body, -, hj0, ht, -, -, -, -, -, -, -, hearly, -⟩ := readPacket_accepts e r.1 r.2 ev st1 rest hp
      have hn : r.1.n = 0 := (applyModeOps_n _ _ _ _ _ _ hr).trans h0
      have hsmall := hearly (by omega)
      rw [ht, hj0 hn]
      exact NoMagic_frame e (by rw [maxHs_eq] at hsmall; omega)

theorem roundtrip (n0 : Nat) (m0 : Mode) (hm0 : m0.enc = false) (ss : List Step)
    (hok : StepsOK e (freshW n0 m0) ss) (hc : NoEncSteps ss ∨ e.CipherOK) (F : Nat) (hF : ss.length < F) :
    finalW e (flat ss) (freshW n0 m0) = some (wFlush (wSteps e (freshW n0 m0) ss)) ∧
      ∀ cs : List Bytes, cs.flatten = (wFlush (wSteps e (freshW n0 m0) ss)).wire e →
        readLoop (chunkSrc e) e (schedOfOps e (flat ss) (freshW n0 m0)) F ⟨n0, m0⟩ { chunks := cs } =
          (ss.map stepEv, some .eof) := by
  refine ⟨(final_flush e _ ss hok (EInv_fresh n0 m0 hm0)).1, fun cs hcs => ?_⟩
  have hp := read_wire e n0 m0 hm0 ss hok hc F hF
  rw [← hcs] at hp
  cases ss with
  | cons s ss => exact readLoop_chunk_of_pure e hp fun _ => List.cons_ne_nil _ _
  | nil =>
    -- nothing was written: the reader makes no mode change and sees an empty stream
    rw [readLoop_chunk_eq_pure e _ _ ⟨n0, m0⟩ (CRelB_init e cs _) ?_, hp]
    intro _ r hr
    rw [← Option.some.inj hr, hcs, wire_plain e n0 m0 hm0 [] hok nofun]
    exact NoMagic_nil

end TLVerif.Packet
