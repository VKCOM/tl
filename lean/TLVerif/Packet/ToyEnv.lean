import TLVerif.Packet.AcceptLemmas
/-!
A small environment satisfying every hypothesis used by the theorems (`CipherOK`, `CrcDetects`): the hypotheses
are consistent. Props/C35 shows the history predicates satisfiable over it by a handshake-shaped history.
-/
namespace TLVerif.Packet
open TLVerif.Facts.Packet

def sumBytes : Bytes → Nat
  | [] => 0
  | b :: bs => b.toNat + sumBytes bs

def fitBlock (b : Bytes) : Bytes := (b ++ zeros blockSize).take blockSize

/-- checksums = byte sum mod 2^32 (plus one under the Castagnoli flag), cipher = identity on blocks -/
def toyEnv : Env where
  crcI d := UInt32.ofNat (sumBytes d)
  crcC d := UInt32.ofNat (sumBytes d + 1)
  enc _ b := fitBlock b
  dec _ b := fitBlock b

theorem toy_cipher : toyEnv.CipherOK where
  dec_enc k b h := by
    have : fitBlock b = b := by
      unfold fitBlock
      rw [List.take_append_of_le_length (by omega), List.take_of_length_le (by omega)]
    simp only [toyEnv, this]
  enc_len k b := by
    simp [toyEnv, fitBlock, zeros, List.length_take]

theorem sumBytes_set (X : Bytes) (i : Nat) (y : UInt8) (h : i < X.length) :
    sumBytes (X.set i y) + X[i].toNat = sumBytes X + y.toNat := by
  induction X generalizing i with
  | nil => simp at h
  | cons x xs ih =>
    cases i with
    | zero => simp [sumBytes]; omega
    | succ i =>
      have := ih i (by simpa using h)
      simp only [List.set_cons_succ, sumBytes, List.getElem_cons_succ]
      omega

theorem toy_crc : toyEnv.CrcDetects where
  flip m X i y h hy := by
    have hne : y.toNat ≠ X[i].toNat := fun hh => hy (UInt8.toNat_inj.mp hh)
    have key (c : Nat) : (sumBytes (X.set i y) + c) % 4294967296 ≠ (sumBytes X + c) % 4294967296 := by
      have hs := sumBytes_set X i y h
      have hx := X[i].toNat_lt
      have hyl := y.toNat_lt
      omega
    unfold Env.crc toyEnv
    intro heq
    cases hm : m.crcC <;> simp only [hm, Bool.false_eq_true, if_false, if_true, UInt32.toNat_ofNat', Nat.reducePow] at heq
    · exact key 0 heq
    · exact key 1 heq

end TLVerif.Packet
