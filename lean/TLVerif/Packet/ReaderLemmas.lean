import TLVerif.Packet.Reader
import TLVerif.Packet.CbcLemmas
/-!
Refinement: the reader over the chunked `cryptoReader` model computes exactly what the reader over the whole
(decrypted) remaining stream computes — for every chunking.  First a generic simulation lemma for the reader
functions over two related byte sources, then the instance `chunkSrc` ~ `pureSrc`.
-/
namespace TLVerif.Packet
open TLVerif.Facts.Packet

/-- what `readPacketWithMagic` reports for an accepted packet -/
def evOf (tip : Nat) (body : Bytes) : Ev := if tip = rpcPingTag then .ping body else .packet tip body

theorem readPacket_inv {σ : Type} (ops : SrcOps σ) (e : Env) (st st1 : RState) (s s2 : σ) (ev : Ev)
    (hr : readPacket ops e st s = .ok (ev, st1, s2)) :
    ∃ h s1 body, readHeader ops st s = .ok (h, s1) ∧ readBody ops e st h s1 = .ok (body, s2) ∧
      h.tip ≠ rpcPongTag ∧ (h.tip = rpcPingTag → h.len = packetOverhead + 8) ∧
      ev = evOf h.tip body ∧ st1 = { st with n := st.n + 1 } := by
  revert st1
  fun_cases readPacket ops e st s
  case case4 h s1 hh _ hping hl8 body s3 hb =>  -- a ping
    rintro _ ⟨⟩
    exact ⟨h, s1, body, hh, hb, by rw [hping]; decide, fun _ => Decidable.of_not_not hl8, by simp [evOf, hping], rfl⟩
  case case9 h s1 hh _ hnping hnpong body s3 hb =>  -- any other packet but a pong
    rintro _ ⟨⟩
    exact ⟨h, s1, body, hh, hb, hnpong, fun hp => absurd hp hnping, by simp [evOf, hnping], rfl⟩
  all_goals nofun

section generic
variable {σ₁ σ₂ : Type}

def RFRel (R : σ₁ → σ₂ → Prop) : RF σ₁ → RF σ₂ → Prop
  | .ok b s, .ok b' t => b = b' ∧ R s t
  | .short g, .short g' => g = g'
  | .magic, .magic => True
  | _, _ => False

def ExRel {α : Type} (R : σ₁ → σ₂ → Prop) : Except RErr (α × σ₁) → Except RErr (α × σ₂) → Prop
  | .error a, .error b => a = b
  | .ok (x, s), .ok (y, t) => x = y ∧ R s t
  | _, _ => False

/-- `Q` is a condition on the second source's state that only `readFirst` needs (`NoMagic` for `chunkSrc`/`pureSrc`) -/
structure Sim (o₁ : SrcOps σ₁) (o₂ : SrcOps σ₂) (R : σ₁ → σ₂ → Prop) (Q : σ₂ → Prop) : Prop where
  readFull : ∀ k s t, R s t → RFRel R (o₁.readFull k s) (o₂.readFull k t)
  readFirst : ∀ s t, R s t → Q t → RFRel R (o₁.readFirst s) (o₂.readFirst t)

variable {o₁ : SrcOps σ₁} {o₂ : SrcOps σ₂} {R : σ₁ → σ₂ → Prop} {Q : σ₂ → Prop}

theorem RFRel.cases {a : RF σ₁} {b : RF σ₂} (h : RFRel R a b) :
    (∃ bs s t, a = .ok bs s ∧ b = .ok bs t ∧ R s t) ∨ (∃ g, a = .short g ∧ b = .short g) ∨
      (a = .magic ∧ b = .magic) := by
  cases a <;> cases b <;> simp only [RFRel] at h
  · exact .inl ⟨_, _, _, rfl, h.1 ▸ rfl, h.2⟩
  · exact .inr (.inl ⟨_, rfl, h ▸ rfl⟩)
  · exact .inr (.inr ⟨rfl, rfl⟩)

theorem ExRel.cases {α : Type} {a : Except RErr (α × σ₁)} {b : Except RErr (α × σ₂)} (h : ExRel R a b) :
    (∃ er, a = .error er ∧ b = .error er) ∨ (∃ x s t, a = .ok (x, s) ∧ b = .ok (x, t) ∧ R s t) := by
  rcases a with er | ⟨x, s⟩ <;> rcases b with er' | ⟨y, t⟩ <;> simp only [ExRel] at h
  · exact .inl ⟨_, rfl, h ▸ rfl⟩
  · exact .inr ⟨_, _, _, rfl, h.1 ▸ rfl, h.2⟩

theorem rel_ite {α β : Type} {r : α → β → Prop} {c : Prop} [Decidable c] {a b : α} {a' b' : β}
    (ha : r a a') (hb : r b b') : r (if c then a else b) (if c then a' else b') := by
  split
  · exact ha
  · exact hb

theorem finishHeader_rel (st : RState) (h12 : Bytes) {s : σ₁} {t : σ₂} (hR : R s t) :
    ExRel R (match finishHeader st h12 with | .error er => .error er | .ok h => .ok (h, s))
      (match finishHeader st h12 with | .error er => .error er | .ok h => .ok (h, t)) := by
  cases finishHeader st h12
  · exact rfl
  · exact ⟨rfl, hR⟩

theorem padLoop_sim (H : Sim o₁ o₂ R Q) (st : RState) (left : Nat) (s : σ₁) (t : σ₂) (hR : R s t) :
    ExRel R (padLoop o₁ st left s) (padLoop o₂ st left t) := by
  induction left generalizing s t with
  | zero => exact rfl
  | succ left ih =>
    simp only [padLoop]
    rcases (H.readFull 4 s t hR).cases with ⟨w, s1, t1, h1, h2, hR1⟩ | ⟨g, h1, h2⟩ | ⟨h1, h2⟩ <;> rw [h1, h2]
    · refine rel_ite (ih s1 t1 hR1) ?_
      rcases (H.readFull 8 s1 t1 hR1).cases with ⟨r, s2, t2, h3, h4, hR2⟩ | ⟨g, h3, h4⟩ | ⟨h3, h4⟩ <;> rw [h3, h4]
      · exact finishHeader_rel st (w ++ r) hR2
      · exact rfl
      · exact rfl
    · exact rfl
    · exact rfl

theorem readHeader_sim (H : Sim o₁ o₂ R Q) (st : RState) (s : σ₁) (t : σ₂) (hR : R s t) (hQ : st.n = 0 → Q t) :
    ExRel R (readHeader o₁ st s) (readHeader o₂ st t) := by
  unfold readHeader
  split
  · rename_i h0
    rcases (H.readFirst s t hR (hQ h0)).cases with ⟨h12, s1, t1, h1, h2, hR1⟩ | ⟨g, h1, h2⟩ | ⟨h1, h2⟩ <;> rw [h1, h2]
    · exact finishHeader_rel st h12 hR1
    · exact rfl
    · exact rfl
  · exact padLoop_sim H st _ s t hR

theorem readBody_sim (H : Sim o₁ o₂ R Q) (e : Env) (st : RState) (h : Hdr) (s : σ₁) (t : σ₂) (hR : R s t) :
    ExRel R (readBody o₁ e st h s) (readBody o₂ e st h t) := by
  unfold readBody
  rcases (H.readFull (h.len - packetOverhead + 4 + alignOf st.mode h.len) s t hR).cases with
    ⟨b, s1, t1, h1, h2, hR1⟩ | ⟨g, h1, h2⟩ | ⟨h1, h2⟩ <;> simp only [h1, h2]
  · exact rel_ite rfl (rel_ite rfl ⟨rfl, hR1⟩)
  · exact rfl
  · exact rfl

theorem readPacket_sim (H : Sim o₁ o₂ R Q) (e : Env) (st : RState) (s : σ₁) (t : σ₂) (hR : R s t) (hQ : st.n = 0 → Q t) :
    ExRel (fun p q => p.1 = q.1 ∧ R p.2 q.2) (readPacket o₁ e st s) (readPacket o₂ e st t) := by
  unfold readPacket
  rcases (readHeader_sim H st s t hR hQ).cases with ⟨er, h1, h2⟩ | ⟨h, s1, t1, h1, h2, hR1⟩ <;> simp only [h1, h2]
  · exact rfl
  · rcases (readBody_sim H e st h s1 t1 hR1).cases with ⟨er, h3, h4⟩ | ⟨b, s2, t2, h3, h4, hR2⟩ <;> rw [h3, h4]
    · exact rel_ite (rel_ite rfl rfl) (rel_ite (rel_ite rfl rfl) rfl)
    · exact rel_ite (rel_ite rfl ⟨rfl, rfl, hR2⟩) (rel_ite (rel_ite rfl rfl) ⟨rfl, rfl, hR2⟩)

end generic

variable (e : Env)

/-- what `crypt` leaves (`crypt_inv`): nothing decryptable in `raw`, so with no chunk to come `rest` is empty (`rest_nil`) -/
def CSrc.inv (s : CSrc) : Prop :=
  match s.cipher with
  | none => s.raw = []
  | some _ => s.raw.length < blockSize

/-- `T` with the chunks still to come given: `chunkReadFull` recurses on them apart from the source -/
def CSrc.T' (s : CSrc) (cs : List Bytes) : Bytes := CSrc.T e { s with chunks := cs }

theorem CSrc.T'_self (s : CSrc) : CSrc.T' e s s.chunks = CSrc.T e s := rfl

theorem crypt_T (s : CSrc) (cs : List Bytes) : CSrc.T' e (CSrc.crypt e s) cs = CSrc.T' e s cs := by
  unfold CSrc.T' CSrc.crypt CSrc.T
  cases hc : s.cipher with
  | none => simp
  | some p =>
    obtain ⟨k, iv⟩ := p
    simp only [List.append_assoc]
    rw [cbcDec_stream e k iv s.raw cs.flatten]

theorem crypt_inv (s : CSrc) : CSrc.inv (CSrc.crypt e s) := by
  unfold CSrc.crypt CSrc.inv
  cases hc : s.cipher with
  | none => simp
  | some p =>
    obtain ⟨k, iv⟩ := p
    simp only [List.length_drop]
    have := Nat.mod_lt s.raw.length block_pos
    have h2 := Nat.div_add_mod s.raw.length blockSize
    rw [Nat.mul_comm] at h2
    omega

theorem crypt_cipher_none (s : CSrc) (h : s.cipher = none) : (CSrc.crypt e s).cipher = none := by
  unfold CSrc.crypt; rw [h]

theorem feed_T (s : CSrc) (c : Bytes) (cs : List Bytes) :
    CSrc.T' e (CSrc.feed e s c) cs = CSrc.T' e s (c :: cs) := by
  unfold CSrc.feed
  rw [crypt_T]
  unfold CSrc.T' CSrc.T
  cases s.cipher with
  | none => simp
  | some p => simp

/-- `T'` without `plain` (`T'_eq`): a read served from `plain` leaves it alone -/
def CSrc.rest (s : CSrc) (cs : List Bytes) : Bytes :=
  match s.cipher with
  | none => s.raw ++ cs.flatten
  | some (k, iv) => cbcDec e k iv (s.raw ++ cs.flatten)

theorem T'_eq (s : CSrc) (cs : List Bytes) : CSrc.T' e s cs = s.plain ++ CSrc.rest e s cs := by
  unfold CSrc.T' CSrc.T CSrc.rest
  cases s.cipher with
  | none => exact List.append_assoc _ _ _
  | some p => rfl

theorem rest_nil (s : CSrc) (hi : s.inv) : CSrc.rest e s [] = [] := by
  unfold CSrc.rest
  unfold CSrc.inv at hi
  cases hc : s.cipher with
  | none => rw [hc] at hi; simp [hi]
  | some p =>
    obtain ⟨k, iv⟩ := p
    rw [hc] at hi
    simp only [List.flatten_nil, List.append_nil]
    unfold cbcDec
    rw [Nat.div_eq_of_lt hi]
    rfl

def CRel (s : CSrc) (t : Bytes) : Prop := s.inv ∧ CSrc.T e s = t

/-- `CRelB` (below) at the reader state's own flag `st.mode.enc`; the simulation is stated with `CRelB`, nothing uses this form -/
def CRel' (st : RState) (s : CSrc) (t : Bytes) : Prop := CRel e s t ∧ (st.mode.enc = false → s.cipher = none)

def CRelB (b : Bool) (s : CSrc) (t : Bytes) : Prop := CRel e s t ∧ (b = false → s.cipher = none)

theorem take_plain (b : Bool) (s : CSrc) (cs : List Bytes) (k : Nat) (hi : s.inv) (hc : b = false → s.cipher = none)
    (hk : k ≤ s.plain.length) :
    RFRel (CRelB e b) (.ok (s.plain.take k) { s with plain := s.plain.drop k, chunks := cs })
      ((pureSrc e).readFull k (CSrc.T' e s cs)) := by
  simp only [pureSrc]
  rw [T'_eq, if_pos (by rw [List.length_append]; omega), List.take_append_of_le_length hk,
    List.drop_append_of_le_length hk]
  exact ⟨rfl, ⟨hi, T'_eq e { s with plain := s.plain.drop k } cs⟩, hc⟩

theorem chunkReadFull_sim (b : Bool) (k : Nat) (cs : List Bytes) (s : CSrc) (hi : s.inv)
    (hc : b = false → s.cipher = none) :
    RFRel (CRelB e b) (chunkReadFull e k s cs) ((pureSrc e).readFull k (CSrc.T' e s cs)) := by
  fun_induction chunkReadFull e k s cs
  case case1 s hk => exact take_plain e b s [] k hi hc hk
  case case2 s hk =>
    rw [T'_eq, rest_nil e s hi, List.append_nil]
    simp only [pureSrc]
    rw [if_neg hk]
    rfl
  case case3 s c cs hk => exact take_plain e b s (c :: cs) k hi hc hk
  case case4 s c cs _ ih =>
    rw [← feed_T]
    exact ih (crypt_inv e _) fun hb => crypt_cipher_none e _ (hc hb)

/-- the stream does not start with a memcached command: only then does the first read not depend on the chunking
(`chunkReadFirst_eq`, `chunk_dependence_magic`) -/
def NoMagic (t : Bytes) : Prop := ∀ m ∈ magics, ¬ m <+: t

theorem plain_not_magic (s : CSrc) (cs : List Bytes) (hn : NoMagic (CSrc.T' e s cs)) :
    ¬ (s.plain.take 12 ∈ magics ∧ s.plain ≠ []) := by
  intro ⟨hm, _⟩
  apply hn _ hm
  rw [T'_eq]
  exact List.IsPrefix.trans (List.take_prefix 12 s.plain) (List.prefix_append _ _)

theorem chunkReadFirst_eq (cs : List Bytes) (s : CSrc) (hn : NoMagic (CSrc.T' e s cs)) :
    chunkReadFirst e s cs = chunkReadFull e 12 s cs := by
  induction cs generalizing s with
  | nil =>
    simp only [chunkReadFirst, chunkReadFull]
    rw [if_neg (plain_not_magic e s [] hn)]
  | cons c cs ih =>
    simp only [chunkReadFirst, chunkReadFull]
    rw [if_neg (plain_not_magic e s (c :: cs) hn)]
    split
    · rfl
    · exact ih _ (by rw [feed_T]; exact hn)

theorem chunk_sim_b (b : Bool) : Sim (chunkSrc e) (pureSrc e) (CRelB e b) NoMagic where
  readFull k s t hR := by
    obtain ⟨⟨hi, hT⟩, hc⟩ := hR
    subst hT
    exact chunkReadFull_sim e b k s.chunks s hi hc
  readFirst s t hR hQ := by
    obtain ⟨⟨hi, hT⟩, hc⟩ := hR
    subst hT
    show RFRel _ (chunkReadFirst e s s.chunks) _
    rw [chunkReadFirst_eq e s.chunks s hQ]
    exact chunkReadFull_sim e b 12 s.chunks s hi hc

theorem encrypt_sim (k iv : Bytes) (s : CSrc) (t : Bytes) (hR : CRel e s t) (hc : s.cipher = none) :
    CRel e ((chunkSrc e).encrypt k iv s) ((pureSrc e).encrypt k iv t) := by
  obtain ⟨hi, hT⟩ := hR
  subst hT
  simp only [chunkSrc, pureSrc]
  refine ⟨crypt_inv e _, ?_⟩
  show CSrc.T' e (CSrc.crypt e { s with raw := s.plain ++ s.raw, plain := [], cipher := some (k, iv) }) s.chunks = _
  rw [crypt_T]
  unfold CSrc.inv at hi
  rw [hc] at hi
  unfold CSrc.T' CSrc.T
  simp [hc, hi]

def ModeRel (a : Option (RState × CSrc)) (b : Option (RState × Bytes)) : Prop :=
  (a = none ∧ b = none) ∨ ∃ st s t, a = some (st, s) ∧ b = some (st, t) ∧ CRelB e st.mode.enc s t

theorem applyModeOp_sim (o : ModeOp) (st : RState) (s : CSrc) (t : Bytes) (hR : CRelB e st.mode.enc s t) :
    ModeRel e (applyModeOp (chunkSrc e) st s o) (applyModeOp (pureSrc e) st t o) := by
  cases o with
  | setProto v => exact .inr ⟨_, _, _, rfl, rfl, hR⟩
  | setCrcC => exact .inr ⟨_, _, _, rfl, rfl, hR⟩
  | encrypt k iv =>
    simp only [applyModeOp]
    cases hb : st.mode.enc with
    | true => exact .inl ⟨rfl, rfl⟩
    | false => exact .inr ⟨_, _, _, rfl, rfl, encrypt_sim e k iv s t hR.1 (hR.2 hb), fun h => by cases h⟩

theorem applyModeOps_sim (l : List ModeOp) (st : RState) (s : CSrc) (t : Bytes) (hR : CRelB e st.mode.enc s t) :
    ModeRel e (applyModeOps (chunkSrc e) st s l) (applyModeOps (pureSrc e) st t l) := by
  induction l generalizing st s t with
  | nil => exact .inr ⟨_, _, _, rfl, rfl, hR⟩
  | cons o os ih =>
    simp only [applyModeOps]
    rcases applyModeOp_sim e o st s t hR with ⟨h1, h2⟩ | ⟨st1, s1, t1, h1, h2, hR1⟩
    · rw [h1, h2]; exact .inl ⟨rfl, rfl⟩
    · rw [h1, h2]; exact ih st1 s1 t1 hR1

theorem applyModeOp_n {σ : Type} (ops : SrcOps σ) (o : ModeOp) (a : RState) (x : σ) (r : RState × σ)
    (h : applyModeOp ops a x o = some r) : r.1.n = a.n := by
  revert r
  fun_cases applyModeOp ops a x o
  case case3 => nofun  -- already encrypted
  all_goals rintro _ ⟨⟩; rfl

theorem applyModeOps_n {σ : Type} (ops : SrcOps σ) (l : List ModeOp) (a : RState) (x : σ) (b : RState) (y : σ)
    (h : applyModeOps ops a x l = some (b, y)) : b.n = a.n := by
  revert h
  fun_induction applyModeOps ops a x l
  case case1 => rintro ⟨⟩; rfl
  case case2 => nofun
  case case3 a x o _ r hr ih => exact fun h => (ih h).trans (applyModeOp_n ops o a x r hr)

theorem readLoop_chunk_eq_pure (sched : Nat → List ModeOp) (fuel : Nat) (st : RState) {s : CSrc} {t : Bytes}
    (hR : CRelB e st.mode.enc s t)
    (hQ : st.n = 0 → ∀ r, applyModeOps (pureSrc e) st t (sched st.n) = some r → NoMagic r.2) :
    readLoop (chunkSrc e) e sched fuel st s = readLoop (pureSrc e) e sched fuel st t := by
  induction fuel generalizing st s t with
  | zero => rfl
  | succ fuel ih =>
    simp only [readLoop]
    rcases applyModeOps_sim e (sched st.n) st s t hR with ⟨h3, h4⟩ | ⟨st3, s3, t3, h3, h4, hR3⟩
    · rw [h3, h4]
    · rw [h3, h4]
      simp only
      have hn3 := applyModeOps_n (chunkSrc e) _ _ _ _ _ h3
      have hq : st3.n = 0 → NoMagic t3 := fun h0 => hQ (by omega) _ h4
      rcases (readPacket_sim (chunk_sim_b e st3.mode.enc) e st3 s3 t3 hR3 hq).cases with
        ⟨er, h1, h2⟩ | ⟨ev, ⟨st1, s1⟩, ⟨_, t1⟩, h1, h2, ⟨rfl⟩, hR1⟩
      · rw [h1, h2]
      · obtain ⟨_, _, _, _, _, _, _, _, hs1⟩ := readPacket_inv _ e _ _ _ _ _ h1
        rw [h1, h2]
        simp only
        rw [ih st1 (by rw [hs1]; exact hR1) (by rw [hs1]; simp)]

end TLVerif.Packet
