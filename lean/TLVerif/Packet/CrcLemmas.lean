import TLVerif.Packet.RealEnv
import TLVerif.Packet.AcceptLemmas
/-!
The executable bitwise CRC-32 of `Crc.lean` (both polynomials) satisfies the hypothesis `Env.CrcDetects`:
one step of the shift register is injective because the reflected polynomial has its top bit set, hence a byte
step is injective in the state and in the byte, hence a changed byte changes the final register.
So for the driver's environment `realEnv` the corruption theorem holds without any hypothesis on the checksum.
-/
namespace TLVerif.Packet

theorem crcBit_bv (poly c : UInt32) :
    (crcBit poly c).toBitVec = if c.toBitVec.getLsbD 0 then (c.toBitVec >>> 1) ^^^ poly.toBitVec else c.toBitVec >>> 1 := by
  unfold crcBit
  have h1 : (c &&& 1 = 1) ↔ c.toBitVec.getLsbD 0 = true := by
    rw [← UInt32.toNat_inj, UInt32.toNat_and, BitVec.getLsbD, Nat.testBit_zero, decide_eq_true_eq]
    exact Iff.of_eq (congrArg (· = 1) (Nat.and_one_is_mod _))
  by_cases h : c &&& 1 = 1
  · rw [if_pos h, if_pos (h1.mp h)]; simp
  · rw [if_neg h, if_neg (fun hh => h (h1.mpr hh))]; simp

theorem crcBit_getLsbD (poly c : UInt32) (i : Nat) (hi : i < 32) :
    (crcBit poly c).toBitVec.getLsbD i =
      ((if i = 31 then false else c.toBitVec.getLsbD (i + 1)) ^^ (c.toBitVec.getLsbD 0 && poly.toBitVec.getLsbD i)) := by
  rw [crcBit_bv]
  have hsh : (c.toBitVec >>> 1).getLsbD i = (if i = 31 then false else c.toBitVec.getLsbD (i + 1)) := by
    rw [BitVec.getLsbD_ushiftRight]
    by_cases h31 : i = 31
    · subst h31; simp
    · rw [if_neg h31, Nat.add_comm]
  cases hc : c.toBitVec.getLsbD 0 with
  | true =>
    rw [if_pos rfl, BitVec.getLsbD_xor, hsh, Bool.true_and]
  | false =>
    rw [if_neg (by simp), hsh, Bool.false_and, Bool.xor_false]

theorem crcBit_inj (poly : UInt32) (hp : poly.toBitVec.getLsbD 31 = true) (a b : UInt32)
    (h : crcBit poly a = crcBit poly b) : a = b := by
  have hb : ∀ i, i < 32 → (crcBit poly a).toBitVec.getLsbD i = (crcBit poly b).toBitVec.getLsbD i := by
    intro i _; rw [h]
  have h0 : a.toBitVec.getLsbD 0 = b.toBitVec.getLsbD 0 := by
    have := hb 31 (by omega)
    rw [crcBit_getLsbD _ _ _ (by omega), crcBit_getLsbD _ _ _ (by omega), hp, if_pos rfl, Bool.and_true, Bool.and_true,
      Bool.false_xor, if_pos rfl, Bool.false_xor] at this
    exact this
  apply UInt32.toBitVec_inj.mp
  apply BitVec.eq_of_getLsbD_eq
  intro i hi
  cases i with
  | zero => exact h0
  | succ j =>
    have := hb j (by omega)
    rw [crcBit_getLsbD _ _ _ (by omega), crcBit_getLsbD _ _ _ (by omega)] at this
    rw [if_neg (by omega), if_neg (by omega), h0] at this
    exact Bool.xor_left_inj.mp this

theorem crcByte_inj (poly : UInt32) (hp : poly.toBitVec.getLsbD 31 = true) {c1 c2 : UInt32} {x y : UInt8}
    (h : crcByte poly c1 x = crcByte poly c2 y) : c1 ^^^ x.toUInt32 = c2 ^^^ y.toUInt32 := by
  unfold crcByte at h
  have i := crcBit_inj poly hp
  exact i _ _ (i _ _ (i _ _ (i _ _ (i _ _ (i _ _ (i _ _ (i _ _ h)))))))

theorem crcRaw_inj (poly : UInt32) (hp : poly.toBitVec.getLsbD 31 = true) (B : Bytes) (c1 c2 : UInt32)
    (h : crcRaw poly c1 B = crcRaw poly c2 B) : c1 = c2 := by
  induction B generalizing c1 c2 with
  | nil => exact h
  | cons b B ih =>
    simp only [crcRaw, List.foldl_cons] at h ih
    exact (UInt32.xor_left_inj _).mp (crcByte_inj poly hp (ih _ _ h))

theorem crc32_flip (poly : UInt32) (hp : poly.toBitVec.getLsbD 31 = true) (X : Bytes) (i : Nat) (y : UInt8)
    (h : i < X.length) (hy : y ≠ X[i]) : crc32 poly (X.set i y) ≠ crc32 poly X := by
  intro heq
  have hX : X = X.take i ++ X[i] :: X.drop (i + 1) := by
    rw [List.getElem_cons_drop h, List.take_append_drop]
  have hX' : X.set i y = X.take i ++ y :: X.drop (i + 1) := List.set_eq_take_append_cons_drop .. |>.trans (by simp [h])
  unfold crc32 at heq
  have hr := (UInt32.xor_left_inj _).mp heq
  rw [hX'] at hr
  conv at hr => rhs; rw [hX]
  simp only [crcRaw, List.foldl_append, List.foldl_cons] at hr
  have := crcRaw_inj poly hp (X.drop (i + 1)) _ _ hr
  exact hy (UInt8.toUInt32_inj.mp ((UInt32.xor_right_inj _).mp (crcByte_inj poly hp this)))

theorem polyIEEE_top : polyIEEE.toBitVec.getLsbD 31 = true := by decide
theorem polyC_top : polyCastagnoli.toBitVec.getLsbD 31 = true := by decide

theorem real_crc_detects : realEnv.CrcDetects where
  flip m X i y h hy := by
    unfold Env.crc realEnv
    intro heq
    cases hm : m.crcC <;> simp only [hm, Bool.false_eq_true, if_false, if_true] at heq
    · exact crc32_flip polyIEEE polyIEEE_top X i y h hy (UInt32.toNat_inj.mp heq)
    · exact crc32_flip polyCastagnoli polyC_top X i y h hy (UInt32.toNat_inj.mp heq)

end TLVerif.Packet
