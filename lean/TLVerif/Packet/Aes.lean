import TLVerif.Packet.Basic
/-!
Executable AES-256 block cipher (FIPS-197), the instance of `Env.enc`/`Env.dec` used by the model driver so
that the encrypted wire bytes can be compared with `crypto/aes` + `crypto/cipher` byte for byte.
No proof uses anything about AES (the theorems are stated for an arbitrary block map with the inverse law as a
hypothesis; those about `realEnv`, whose block map this is, concern the checksum); its agreement with the Go
library is *sampled* by the correspondence run.  Out-of-range lookups are impossible (indices are bytes / fixed
permutations); `getD` is used to stay total.
-/
namespace TLVerif.Packet.Aes

def sbox : Array UInt8 := #[99, 124, 119, 123, 242, 107, 111, 197, 48, 1, 103, 43, 254, 215, 171, 118, 202, 130, 201, 125, 250, 89, 71, 240, 173, 212, 162, 175, 156, 164, 114, 192, 183, 253, 147, 38, 54, 63, 247, 204, 52, 165, 229, 241, 113, 216, 49, 21, 4, 199, 35, 195, 24, 150, 5, 154, 7, 18, 128, 226, 235, 39, 178, 117, 9, 131, 44, 26, 27, 110, 90, 160, 82, 59, 214, 179, 41, 227, 47, 132, 83, 209, 0, 237, 32, 252, 177, 91, 106, 203, 190, 57, 74, 76, 88, 207, 208, 239, 170, 251, 67, 77, 51, 133, 69, 249, 2, 127, 80, 60, 159, 168, 81, 163, 64, 143, 146, 157, 56, 245, 188, 182, 218, 33, 16, 255, 243, 210, 205, 12, 19, 236, 95, 151, 68, 23, 196, 167, 126, 61, 100, 93, 25, 115, 96, 129, 79, 220, 34, 42, 144, 136, 70, 238, 184, 20, 222, 94, 11, 219, 224, 50, 58, 10, 73, 6, 36, 92, 194, 211, 172, 98, 145, 149, 228, 121, 231, 200, 55, 109, 141, 213, 78, 169, 108, 86, 244, 234, 101, 122, 174, 8, 186, 120, 37, 46, 28, 166, 180, 198, 232, 221, 116, 31, 75, 189, 139, 138, 112, 62, 181, 102, 72, 3, 246, 14, 97, 53, 87, 185, 134, 193, 29, 158, 225, 248, 152, 17, 105, 217, 142, 148, 155, 30, 135, 233, 206, 85, 40, 223, 140, 161, 137, 13, 191, 230, 66, 104, 65, 153, 45, 15, 176, 84, 187, 22]
def isbox : Array UInt8 := #[82, 9, 106, 213, 48, 54, 165, 56, 191, 64, 163, 158, 129, 243, 215, 251, 124, 227, 57, 130, 155, 47, 255, 135, 52, 142, 67, 68, 196, 222, 233, 203, 84, 123, 148, 50, 166, 194, 35, 61, 238, 76, 149, 11, 66, 250, 195, 78, 8, 46, 161, 102, 40, 217, 36, 178, 118, 91, 162, 73, 109, 139, 209, 37, 114, 248, 246, 100, 134, 104, 152, 22, 212, 164, 92, 204, 93, 101, 182, 146, 108, 112, 72, 80, 253, 237, 185, 218, 94, 21, 70, 87, 167, 141, 157, 132, 144, 216, 171, 0, 140, 188, 211, 10, 247, 228, 88, 5, 184, 179, 69, 6, 208, 44, 30, 143, 202, 63, 15, 2, 193, 175, 189, 3, 1, 19, 138, 107, 58, 145, 17, 65, 79, 103, 220, 234, 151, 242, 207, 206, 240, 180, 230, 115, 150, 172, 116, 34, 231, 173, 53, 133, 226, 249, 55, 232, 28, 117, 223, 110, 71, 241, 26, 113, 29, 41, 197, 137, 111, 183, 98, 14, 170, 24, 190, 27, 252, 86, 62, 75, 198, 210, 121, 32, 154, 219, 192, 254, 120, 205, 90, 244, 31, 221, 168, 51, 136, 7, 199, 49, 177, 18, 16, 89, 39, 128, 236, 95, 96, 81, 127, 169, 25, 181, 74, 13, 45, 229, 122, 159, 147, 201, 156, 239, 160, 224, 59, 77, 174, 42, 245, 176, 200, 235, 187, 60, 131, 83, 153, 97, 23, 43, 4, 126, 186, 119, 214, 38, 225, 105, 20, 99, 85, 33, 12, 125]

def sub (b : UInt8) : UInt8 := sbox.getD b.toNat 0
def isub (b : UInt8) : UInt8 := isbox.getD b.toNat 0

def xtime (a : UInt8) : UInt8 := if a &&& 0x80 = 0 then a <<< 1 else (a <<< 1) ^^^ 0x1b

def gmul (a b : UInt8) : UInt8 :=
  let a2 := xtime a; let a4 := xtime a2; let a8 := xtime a4
  (if b &&& 1 = 0 then 0 else a) ^^^ (if b &&& 2 = 0 then 0 else a2) ^^^
  (if b &&& 4 = 0 then 0 else a4) ^^^ (if b &&& 8 = 0 then 0 else a8)

abbrev Word := UInt8 × UInt8 × UInt8 × UInt8

def wxor (a b : Word) : Word := (a.1 ^^^ b.1, a.2.1 ^^^ b.2.1, a.2.2.1 ^^^ b.2.2.1, a.2.2.2 ^^^ b.2.2.2)
def subWord (a : Word) : Word := (sub a.1, sub a.2.1, sub a.2.2.1, sub a.2.2.2)
def rotWord (a : Word) : Word := (a.2.1, a.2.2.1, a.2.2.2, a.1)

def wordsOfKey : List UInt8 → List Word
  | a :: b :: c :: d :: t => (a, b, c, d) :: wordsOfKey t
  | _ => []

/-- key expansion for Nk = 8 (60 words), kept as an array -/
def expand (key : List UInt8) : Array Word := Id.run do
  let mut w : Array Word := (wordsOfKey key).toArray
  let mut rcon : UInt8 := 1
  for i in [8:60] do
    let prev := w.getD (i - 1) (0, 0, 0, 0)
    let mut t := prev
    if i % 8 = 0 then
      let r := subWord (rotWord prev)
      t := (r.1 ^^^ rcon, r.2.1, r.2.2.1, r.2.2.2)
      rcon := xtime rcon
    else if i % 8 = 4 then
      t := subWord prev
    w := w.push (wxor (w.getD (i - 8) (0, 0, 0, 0)) t)
  return w

def roundKey (w : Array Word) (r : Nat) : List UInt8 :=
  (List.range 4).flatMap fun c =>
    let x := w.getD (4 * r + c) (0, 0, 0, 0)
    [x.1, x.2.1, x.2.2.1, x.2.2.2]

def addKey (st k : List UInt8) : List UInt8 := List.zipWith (· ^^^ ·) st k

def permute (p : List Nat) (st : Array UInt8) : Array UInt8 := (p.map fun j => st.getD j 0).toArray

def shiftRows (st : List UInt8) : List UInt8 :=
  (permute [0, 5, 10, 15, 4, 9, 14, 3, 8, 13, 2, 7, 12, 1, 6, 11] st.toArray).toList
def invShiftRows (st : List UInt8) : List UInt8 :=
  (permute [0, 13, 10, 7, 4, 1, 14, 11, 8, 5, 2, 15, 12, 9, 6, 3] st.toArray).toList

def mixColumns : List UInt8 → List UInt8
  | a :: b :: c :: d :: t =>
    (gmul a 2 ^^^ gmul b 3 ^^^ c ^^^ d) :: (a ^^^ gmul b 2 ^^^ gmul c 3 ^^^ d) ::
    (a ^^^ b ^^^ gmul c 2 ^^^ gmul d 3) :: (gmul a 3 ^^^ b ^^^ c ^^^ gmul d 2) :: mixColumns t
  | _ => []

def invMixColumns : List UInt8 → List UInt8
  | a :: b :: c :: d :: t =>
    (gmul a 14 ^^^ gmul b 11 ^^^ gmul c 13 ^^^ gmul d 9) :: (gmul a 9 ^^^ gmul b 14 ^^^ gmul c 11 ^^^ gmul d 13) ::
    (gmul a 13 ^^^ gmul b 9 ^^^ gmul c 14 ^^^ gmul d 11) :: (gmul a 11 ^^^ gmul b 13 ^^^ gmul c 9 ^^^ gmul d 14) ::
    invMixColumns t
  | _ => []

def encRounds (w : Array Word) : Nat → Nat → List UInt8 → List UInt8
  | 0, _, st => st
  | left + 1, r, st =>
    let s1 := shiftRows (st.map sub)
    if left = 0 then addKey s1 (roundKey w r)
    else encRounds w left (r + 1) (addKey (mixColumns s1) (roundKey w r))

def decRounds (w : Array Word) : Nat → Nat → List UInt8 → List UInt8
  | 0, _, st => st
  | left + 1, r, st =>
    let s1 := addKey ((invShiftRows st).map isub) (roundKey w r)
    if left = 0 then s1 else decRounds w left (r - 1) (invMixColumns s1)

/-- AES-256 encryption of one 16-byte block with an expanded key -/
def encBlock (w : Array Word) (b : List UInt8) : List UInt8 := encRounds w 14 1 (addKey b (roundKey w 0))
def decBlock (w : Array Word) (b : List UInt8) : List UInt8 := decRounds w 14 13 (addKey b (roundKey w 14))

end TLVerif.Packet.Aes
