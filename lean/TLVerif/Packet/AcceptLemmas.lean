import TLVerif.Packet.FrameLemmas
/-!
What corruption detection rests on: the hypothesis on the checksum (`Env.CrcDetects`), what it gives for frames
(`frame_set_ne`), and the layout facts about frames used by `flipped_frame_rejected` (Props/C35).
-/
namespace TLVerif.Packet
open TLVerif.Facts.Packet

variable (e : Env)

/-- What corruption detection needs from the checksum: changing one byte of the checksummed data changes the
checksum (true of every CRC with a 32-bit register: a burst of at most 8 bits is never a multiple of the
generator; here a hypothesis about the abstract function, sampled on the real tables by the correspondence run). -/
structure Env.CrcDetects (e : Env) : Prop where
  flip : ∀ (m : Mode) (X : Bytes) (i : Nat) (y : UInt8) (h : i < X.length), y ≠ X[i] → e.crc m (X.set i y) ≠ e.crc m X

theorem set_ne (l : Bytes) (i : Nat) (y : UInt8) (h : i < l.length) (hy : y ≠ l[i]) : l.set i y ≠ l :=
  fun h2 => hy ((List.getElem_of_eq h2 (by rwa [List.length_set])).symm.trans (List.getElem_set_self _)).symm

theorem frame_assoc (m : Mode) (n tip : Nat) (body : Bytes) :
    frame e m n tip body = (header n tip body.length ++ body) ++
      (le32 (e.crc m (header n tip body.length ++ body)) ++ zeros (alignOf m body.length)) := by
  simp [frame, List.append_assoc]

theorem set_append_ne (f : Bytes → Bytes) (X X' : Bytes) (i : Nat) (y : UInt8) (hX : X'.length = X.length)
    (hi : i < (X ++ f X).length) (hy : y ≠ (X ++ f X)[i])
    (hf : ∀ h : i < X.length, y ≠ X[i] → f (X.set i y) ≠ f X) :
    (X ++ f X).set i y ≠ X' ++ f X' := by
  intro hF
  by_cases hlt : i < X.length
  · rw [List.set_append_left _ _ hlt] at hF
    obtain ⟨rfl, hT⟩ := List.append_inj hF (by rw [List.length_set, hX])
    rw [List.getElem_append_left hlt] at hy
    exact hf hlt hy hT.symm
  · rw [List.set_append_right _ _ (Nat.le_of_not_lt hlt)] at hF
    obtain ⟨rfl, hT⟩ := List.append_inj hF hX.symm
    rw [List.getElem_append_right (Nat.le_of_not_lt hlt)] at hy
    exact set_ne _ _ y (by rw [List.length_append] at hi; omega) hy hT

/-- The trailer of a frame is a function of its checksummed part (`set_append_ne`): a changed byte in the
checksummed part would have to keep the checksum, one in the trailer the trailer. -/
theorem frame_set_ne (hc : e.CrcDetects) (m : Mode) (n tip tip' : Nat) (body body' : Bytes) (i : Nat) (y : UInt8)
    (hl : body'.length = body.length) (hi : i < (frame e m n tip body).length) (hy : y ≠ (frame e m n tip body)[i]) :
    (frame e m n tip body).set i y ≠ frame e m n tip' body' := by
  simp only [frame_assoc e m n tip body] at hi hy ⊢
  rw [frame_assoc e m n tip' body', hl]
  exact set_append_ne (fun X => le32 (e.crc m X) ++ zeros (alignOf m body.length)) _ _ i y
    (by simp only [List.length_append, header_length, hl]) hi hy
    fun hlt hy' h => hc.flip m _ i y hlt hy' (le32_inj (crc_lt e _ _) (crc_lt e _ _) (List.append_inj h rfl).1)

theorem frame_length (m : Mode) (n tip : Nat) (body : Bytes) :
    (frame e m n tip body).length = 12 + body.length + 4 + alignOf m body.length := by
  simp [frame, zeros]; omega

theorem frame_take4 (m : Mode) (n tip : Nat) (body rest : Bytes) :
    (frame e m n tip body ++ rest).take 4 = le32 (body.length + packetOverhead) := rfl

end TLVerif.Packet
