import TLVerif.Packet.Script
import TLVerif.Packet.FrameLemmas
/-!
Connection histories made of *steps* (mode changes, one packet, flushes): what the writer model does on them
(total "spec" functions `wStep`, `stepBytes`, proved equal to the model functions `runW`/`flush`/`writeNoFlush`).
What the stream reader does on the produced bytes is in `RoundtripLemmas`.
-/
namespace TLVerif.Packet
open TLVerif.Facts.Packet

variable (e : Env)

/-- one packet of a history: the mode changes made just before it (by both ends), how it is written, and how
many further `Flush` calls follow -/
structure Step where
  modes : List ModeOp := []
  flush : Bool := true
  tip : Nat
  body : Bytes
  extra : Nat := 0

def Step.ops (s : Step) : List Op :=
  s.modes.map .mode ++ (.write s.flush s.tip s.body :: List.replicate s.extra .flush)

def flat (ss : List Step) : List Op := ss.flatMap Step.ops

def ModeOp.isEnc : ModeOp → Bool
  | .encrypt _ _ => true
  | _ => false

def wMode (w : WState) : ModeOp → WState
  | .setProto v => { w with mode := { w.mode with proto := v } }
  | .setCrcC => { w with mode := { w.mode with crcC := true } }
  | .encrypt k iv => wEncrypt w k iv

def wModes (w : WState) (ms : List ModeOp) : WState := ms.foldl wMode w

def wWrite (w : WState) (tip : Nat) (body : Bytes) : WState :=
  { w with n := w.n + 1, out := w.out ++ (w.pending ++ header w.n tip body.length ++ body),
           pending := le32 (e.crc w.mode (header w.n tip body.length ++ body)) ++ zeros (alignOf w.mode body.length) }

def padOf (w : WState) : Nat := cryptoPadding w w.pending.length

def wFlush (w : WState) : WState :=
  { w with out := w.out ++ (w.pending ++ padPattern.take (padOf w)), pending := [] }

def Step.flushes (s : Step) : Bool := s.flush || decide (0 < s.extra)

def wStep (w : WState) (s : Step) : WState :=
  let w2 := wWrite e (wModes w s.modes) s.tip s.body
  if s.flushes then wFlush w2 else w2

/-- crypto padding words following the packet of step `s` -/
def jStep (w : WState) (s : Step) : Nat :=
  if s.flushes then padOf (wWrite e (wModes w s.modes) s.tip s.body) / 4 else 0

def stepBytes (w : WState) (s : Step) : Bytes :=
  frame e (wModes w s.modes).mode w.n s.tip s.body ++ padWords (jStep e w s)

def wSteps (w : WState) : List Step → WState
  | [] => w
  | s :: ss => wSteps (wStep e w s) ss

def stepsBytes (w : WState) : List Step → Bytes
  | [] => []
  | s :: ss => stepBytes e w s ++ stepsBytes (wStep e w s) ss

def stepEv (s : Step) : Ev := evOf s.tip s.body

/-- the logical plaintext stream written so far, including the CRC still waiting in `headerWriteBuf` -/
def WState.L (w : WState) : Bytes := w.out ++ w.pending

/-- what has gone to the cipher, with the trailer still pending, is a whole number of words: encrypted frames are
aligned to four bytes (`alignOf`) and `FlushUnlocked` pads in words -/
def EInv (w : WState) : Prop :=
  w.mode.enc = true → w.encStart ≤ w.out.length ∧ (w.out.length - w.encStart + w.pending.length) % 4 = 0

/-- a mode change is admissible in writer state `w`: encryption is turned on at most once and only when nothing is
waiting in `headerWriteBuf` (every `WritePacket` of the handshake flushes) -/
def ModeOK (w : WState) : ModeOp → Prop
  | .encrypt _ iv => w.mode.enc = false ∧ w.pending = [] ∧ iv.length = blockSize
  | _ => True

def ModesOK : WState → List ModeOp → Prop
  | _, [] => True
  | w, m :: ms => ModeOK w m ∧ ModesOK (wMode w m) ms

def StepsOK : WState → List Step → Prop
  | _, [] => True
  | w, s :: ss =>
    ModesOK w s.modes ∧ PktOK ⟨w.n, (wModes w s.modes).mode⟩ s.tip s.body ∧ StepsOK (wStep e w s) ss

theorem wModes_keep {α : Type} (f : WState → α) (hf : ∀ w m, f (wMode w m) = f w) (w : WState) (ms : List ModeOp) :
    f (wModes w ms) = f w := by
  induction ms generalizing w with
  | nil => rfl
  | cons m ms ih => exact (ih (wMode w m)).trans (hf w m)

theorem wModes_n (w : WState) (ms : List ModeOp) : (wModes w ms).n = w.n :=
  wModes_keep (·.n) (fun _ m => by cases m <;> rfl) w ms

theorem wModes_L (w : WState) (ms : List ModeOp) : (wModes w ms).L = w.L :=
  wModes_keep (·.L) (fun _ m => by cases m <;> rfl) w ms

theorem wModes_pending (w : WState) (ms : List ModeOp) : (wModes w ms).pending = w.pending :=
  wModes_keep (·.pending) (fun _ m => by cases m <;> rfl) w ms

theorem wModes_out (w : WState) (ms : List ModeOp) : (wModes w ms).out = w.out :=
  wModes_keep (·.out) (fun _ m => by cases m <;> rfl) w ms

theorem wApplyMode_ok (w : WState) (m : ModeOp) (h : ModeOK w m) : wApplyMode w m = some (wMode w m) := by
  cases m with
  | setProto v => rfl
  | setCrcC => rfl
  | encrypt k iv => simp only [wApplyMode, h.1, Bool.false_eq_true, if_false]; rfl

theorem EInv_wMode (w : WState) (m : ModeOp) (h : ModeOK w m) (hi : EInv w) : EInv (wMode w m) := by
  cases m with
  | setProto v => exact hi
  | setCrcC => exact hi
  | encrypt k iv =>
    intro _
    simp only [wMode, wEncrypt, h.2.1, List.length_nil]
    omega

/-- one walk for both, since `schedOfOps` follows `runW` case by case -/
theorem runW_append (a b : List Op) (w : WState) :
    runW e (a ++ b) w = (match runW e a w with | none => none | some w1 => runW e b w1) ∧
    ∀ k, schedOfOps e (a ++ b) w k =
      schedOfOps e a w k ++ (match runW e a w with | none => [] | some w1 => schedOfOps e b w1 k) := by
  induction a generalizing w with
  | nil => exact ⟨rfl, fun _ => rfl⟩
  | cons op a ih =>
    simp only [List.cons_append, runW, schedOfOps]
    cases stepW e w op <;> simp [ih, List.append_assoc]

theorem runW_modes (w : WState) (ms : List ModeOp) (h : ModesOK w ms) :
    runW e (ms.map .mode) w = some (wModes w ms) ∧
    ∀ k, schedOfOps e (ms.map .mode) w k = if w.n = k then ms else [] := by
  induction ms generalizing w with
  | nil => exact ⟨rfl, fun k => by simp [schedOfOps]⟩
  | cons m ms ih =>
    obtain ⟨i1, i2⟩ := ih _ h.2
    simp only [List.map_cons, runW, schedOfOps, stepW, wApplyMode_ok w m h.1, wModes, List.foldl_cons]
    refine ⟨i1, fun k => ?_⟩
    rw [i2, show (wMode w m).n = w.n from wModes_n w [m]]
    split <;> simp

theorem EInv_wModes (w : WState) (ms : List ModeOp) (h : ModesOK w ms) (hi : EInv w) : EInv (wModes w ms) := by
  induction ms generalizing w with
  | nil => exact hi
  | cons m ms ih => exact ih _ h.2 (EInv_wMode w m h.1 hi)

theorem writeNoFlush_ok (w : WState) (tip : Nat) (body : Bytes)
    (h1 : body.length ≤ maxPacketLen - packetOverhead) (h2 : w.mode.proto = 0 → body.length % 4 = 0) :
    writeNoFlush e w tip body = .ok (wWrite e w tip body) := by
  unfold writeNoFlush checkBodyLen
  rw [if_neg (by omega), if_neg (by intro ⟨a, b⟩; exact b (h2 a))]
  rfl

theorem wWrite_L (w : WState) (tip : Nat) (body : Bytes) :
    (wWrite e w tip body).L = w.L ++ frame e w.mode w.n tip body := by
  simp [WState.L, wWrite, frame, List.append_assoc]

theorem align_mod (m : Mode) (l : Nat) (h : m.enc = true) : (l + alignOf m l) % 4 = 0 := by
  unfold alignOf; rw [if_pos h]; omega

theorem EInv_wWrite (w : WState) (tip : Nat) (body : Bytes) (hi : EInv w) : EInv (wWrite e w tip body) := by
  intro he
  have he' : w.mode.enc = true := he
  obtain ⟨h1, h2⟩ := hi he'
  have ha := align_mod w.mode body.length he'
  simp only [wWrite, List.length_append, header_length, le32_length, zeros, List.length_replicate]
  constructor
  · omega
  · omega

theorem padOf_noenc (w : WState) (h : w.mode.enc = false) : padOf w = 0 := by
  unfold padOf cryptoPadding; simp [h]

theorem padOf_enc (w : WState) (h : w.mode.enc = true) :
    padOf w = (16 - (w.out.length - w.encStart + w.pending.length) % 16) % 16 := by
  unfold padOf cryptoPadding
  rw [if_pos h, block_eq]

theorem pad_arith (x : Nat) (h : x % 4 = 0) :
    (16 - x % 16) % 16 ≤ 12 ∧ (16 - x % 16) % 16 % 4 = 0 ∧ (x + (16 - x % 16) % 16) % 16 = 0 := by
  omega

theorem padOf_bound (w : WState) (hi : EInv w) : padOf w ≤ 12 ∧ padOf w % 4 = 0 := by
  cases he : w.mode.enc with
  | false => rw [padOf_noenc w he]; exact ⟨Nat.zero_le _, rfl⟩
  | true =>
    have := pad_arith _ (hi he).2
    rw [padOf_enc w he]
    exact ⟨this.1, this.2.1⟩

theorem take_padPattern (p : Nat) (h1 : p ≤ 12) (h2 : p % 4 = 0) : padPattern.take p = padWords (p / 4) := by
  have : p = 0 ∨ p = 4 ∨ p = 8 ∨ p = 12 := by omega
  rcases this with h | h | h | h <;> subst h <;> rfl

theorem flush_ok (w : WState) (hi : EInv w) : flush w = some (wFlush w) := by
  have := padOf_bound w hi
  unfold flush
  have hl : padPattern.length = 12 := rfl
  simp only [hl]
  rw [if_neg (by unfold padOf at this; omega)]
  rfl

theorem wFlush_L (w : WState) (hi : EInv w) : (wFlush w).L = w.L ++ padWords (padOf w / 4) := by
  have := padOf_bound w hi
  simp [WState.L, wFlush, take_padPattern _ this.1 this.2, List.append_assoc]

theorem take_pad_length (w : WState) (hi : EInv w) : (padPattern.take (padOf w)).length = padOf w := by
  have hl : padPattern.length = 12 := rfl
  rw [List.length_take, hl]
  exact Nat.min_eq_left (padOf_bound w hi).1

theorem wFlush_aligned (w : WState) (hi : EInv w) (he : w.mode.enc = true) :
    ((wFlush w).out.length - (wFlush w).encStart + (wFlush w).pending.length) % blockSize = 0 := by
  obtain ⟨h1, h2⟩ := hi he
  have h3 := (pad_arith _ h2).2.2
  rw [← padOf_enc w he] at h3
  simp only [wFlush, List.length_append, take_pad_length w hi, List.length_nil]
  rw [block_eq]
  omega

theorem EInv_wFlush (w : WState) (hi : EInv w) : EInv (wFlush w) := by
  intro he
  have h1 := (hi he).1
  have h2 := wFlush_aligned w hi he
  rw [block_eq] at h2
  simp only [wFlush, List.length_append, List.length_nil] at h2 ⊢
  omega

theorem padOf_wFlush (w : WState) (hi : EInv w) : padOf (wFlush w) = 0 := by
  cases he : w.mode.enc with
  | false => exact padOf_noenc _ he
  | true =>
    have h := wFlush_aligned w hi he
    rw [block_eq] at h
    rw [padOf_enc (wFlush w) he]
    omega

theorem wFlush_idem (w : WState) (hi : EInv w) : wFlush (wFlush w) = wFlush w := by
  have h0 := padOf_wFlush w hi
  unfold wFlush at h0 ⊢
  simp only at h0 ⊢
  rw [h0]
  simp

theorem runW_flushes (w : WState) (k : Nat) (hi : EInv w) :
    runW e (List.replicate k .flush) (wFlush w) = some (wFlush w) := by
  induction k with
  | zero => rfl
  | succ k ih =>
    simp only [List.replicate_succ, runW, stepW]
    rw [flush_ok _ (EInv_wFlush w hi), wFlush_idem w hi]
    exact ih

theorem runW_step (w : WState) (s : Step) (hm : ModesOK w s.modes)
    (hp : PktOK ⟨w.n, (wModes w s.modes).mode⟩ s.tip s.body) (hi : EInv w) :
    runW e s.ops w = some (wStep e w s) := by
  unfold Step.ops
  rw [(runW_append e _ _ w).1, (runW_modes e w s.modes hm).1]
  simp only [runW, stepW]
  have hi1 := EInv_wModes w s.modes hm hi
  obtain ⟨hlen, -, halign, -⟩ := hp
  rw [writeNoFlush_ok e _ _ _ hlen halign]
  have hi2 := EInv_wWrite e _ s.tip s.body hi1
  simp only
  unfold wStep Step.flushes
  cases hf : s.flush with
  | true =>
    simp only [if_true, Bool.true_or]
    rw [flush_ok _ hi2]
    simp only
    exact runW_flushes e _ _ hi2
  | false =>
    simp only [Bool.false_eq_true, if_false, Bool.false_or]
    cases hx : s.extra with
    | zero => simp [runW]
    | succ k =>
      simp only [List.replicate_succ, runW, stepW]
      rw [flush_ok _ hi2]
      simp only [Nat.zero_lt_succ, decide_true, if_true]
      exact runW_flushes e _ _ hi2

theorem EInv_wStep (w : WState) (s : Step) (hm : ModesOK w s.modes) (hi : EInv w) : EInv (wStep e w s) := by
  have hi2 := EInv_wWrite e _ s.tip s.body (EInv_wModes w s.modes hm hi)
  unfold wStep
  split
  · exact EInv_wFlush _ hi2
  · exact hi2

theorem wStep_L (w : WState) (s : Step) (hm : ModesOK w s.modes) (hi : EInv w) :
    (wStep e w s).L = w.L ++ stepBytes e w s := by
  have hi2 := EInv_wWrite e _ s.tip s.body (EInv_wModes w s.modes hm hi)
  unfold wStep stepBytes jStep
  split
  · rw [wFlush_L _ hi2, wWrite_L, wModes_L, wModes_n, List.append_assoc]
  · rw [wWrite_L, wModes_L, wModes_n]; simp [padWords]

theorem runW_steps (w : WState) (ss : List Step) (hok : StepsOK e w ss) (hi : EInv w) :
    runW e (flat ss) w = some (wSteps e w ss) ∧ (wSteps e w ss).L = w.L ++ stepsBytes e w ss ∧ EInv (wSteps e w ss) := by
  induction ss generalizing w with
  | nil => simp [flat, runW, wSteps, stepsBytes, hi]
  | cons s ss ih =>
    obtain ⟨hm, hp, hrest⟩ := hok
    have hi' := EInv_wStep e w s hm hi
    obtain ⟨h1, h2, h3⟩ := ih (wStep e w s) hrest hi'
    refine ⟨?_, ?_, h3⟩
    · simp only [flat, List.flatMap_cons] at h1 ⊢
      rw [(runW_append e _ _ w).1, runW_step e w s hm hp hi]
      exact h1
    · simp only [wSteps, stepsBytes]
      rw [h2, wStep_L e w s hm hi, List.append_assoc]

end TLVerif.Packet
