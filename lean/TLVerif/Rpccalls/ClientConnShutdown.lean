import TLVerif.Rpccalls.ClientConnLemmas
/-!
Graceful shutdown of a `clientConn` (`rpcServerWantsFin` received): the connection must be closed by whoever
takes the in-flight count to zero — a response, an RPC error, an explicit cancel **or a local deadline** — and
after the close the connect loop (`continueRunningImpl`, `setClientConn`, `sendLoop`) sends every call that was
queued meanwhile.
-/
namespace TLVerif.Rpccalls

/-- protocol of `goConnect`: `run()` (hence `setClientConn`) is entered only after `continueRunningImpl` of the
previous connection, whose `massCancelRequestsLocked` reset `isShutdown`; `shutdown()` itself needs a connection -/
def Op.cwb (σ : Conn) : Op → Bool
  | .connect => !σ.isShutdown
  | _ => true

/-- histories in which the connect loop behaves as `goConnect` does (no other assumption) -/
inductive CReach : List Op → Conn → List Ev → Prop
  | init : CReach [] Conn.init []
  | snoc {ops σ evs op σ' e} : CReach ops σ evs → op.cwb σ = true → step σ op = .ok (σ', e) →
      CReach (ops ++ [op]) σ' (evs ++ e)

/-- a connection in graceful shutdown with nothing in flight does not stay open -/
def ShutInv (σ : Conn) : Prop := σ.hasConn = true → σ.isShutdown = true → σ.inFlight ≠ 0

theorem ShutInv.of_noConn {σ : Conn} (h : σ.hasConn = false) : ShutInv σ := fun hc => by simp [h] at hc

theorem ShutInv.of_notShut {σ : Conn} (h : σ.isShutdown = false) : ShutInv σ := fun _ hs => by simp [h] at hs

theorem Drains.shutInv {σ σ' e} (h : Drains σ σ' e) (hi : ShutInv σ) : ShutInv σ' := by
  obtain ⟨hs, ⟨hn, hc⟩ | ⟨hn, hc⟩⟩ := h
  · intro h1 h2
    rw [hn]
    exact hi (hc ▸ h1) (hs ▸ h2)
  · intro h1 h2 h3
    cases hcl : closes σ <;> rw [hcl] at hc
    · rw [if_neg Bool.false_ne_true] at hc
      rw [hc] at h1; rw [hs] at h2; rw [hn] at h3
      simp [closes, h1, h2, h3] at hcl
    · rw [if_pos rfl] at hc
      simp [hc.1] at h1

theorem Drains.closed {σ σ' e} (h : Drains σ σ' e) (hc : σ.hasConn = true) (hsd : σ.isShutdown = true)
    (hn : σ'.inFlight = 0) (hchg : σ'.inFlight ≠ σ.inFlight) : Ev.closeConn ∈ e ∧ σ'.hasConn = false := by
  obtain ⟨-, ⟨h1, -⟩ | ⟨h1, h2⟩⟩ := h
  · exact absurd h1 hchg
  · have : closes σ = true := by simp [closes, hc, hsd, ← h1, hn]
    rw [this, if_pos rfl] at h2
    exact ⟨h2.2, h2.1⟩

theorem shutInv_step {σ op σ' e} (hi : ShutInv σ) (hc : op.cwb σ = true) (h : step σ op = .ok (σ', e)) :
    ShutInv σ' := by
  cases ((step_spec σ op).of_ok h).2 with
  | drains d => exact d.shutInv hi
  | closed hn => exact .of_noConn hn
  | reset hs => exact .of_notShut hs
  | pending hf => exact fun _ _ => hf
  | connect hop hs =>
    subst hop
    exact .of_notShut (by rw [hs]; simpa [Op.cwb] using hc)

theorem creach_spec {ops σ evs} (h : CReach ops σ evs) : Reach ops σ evs ∧ ShutInv σ := by
  induction h with
  | init => exact ⟨.init, .of_noConn rfl⟩
  | snoc _ hc hs ih => exact ⟨.snoc ih.1 hs, shutInv_step ih.2 hc hs⟩

theorem CReach.reach {ops σ evs} (h : CReach ops σ evs) : Reach ops σ evs := (creach_spec h).1

theorem disc_spec {σ : Conn} {g σ' e} (h : step σ (.disc g) = .ok (σ', e)) :
    σ'.calls = σ.calls.filter (requeued σ.isOpen) ∧ σ'.writeQ = requeue σ'.calls ∧ σ'.isOpen = σ.isOpen ∧
    σ'.isShutdown = false ∧
    ∀ k c, (k, c) ∈ σ.calls → requeued σ.isOpen (k, c) = false →
      .deliver c.owner c.cb c.qid (massRes σ.isOpen c) ∈ e := by
  rw [step, massCancel_eq] at h
  by_cases hc : sentCount σ.calls ≠ 0 ∧ σ.inFlight < sentCount σ.calls
  · rw [if_pos hc] at h; cases h
  · rw [if_neg hc] at h
    obtain ⟨rfl, rfl⟩ := ok_inj h
    -- `σ'` is `if g then σ1 else { σ1 with waiting := true }`, the same in the four fields on either branch
    refine ⟨?_, ?_, ?_, ?_, fun k c hkc hq => List.mem_append_left _ (mem_massEv hkc hq)⟩ <;> split <;> rfl

theorem sendStep_writes {σ σ' : Conn} {e} (hc : σ.hasConn = true) (hs : σ.isShutdown = false)
    (h : sendStep σ = .ok (σ', e)) {o q} (hq : WQ.req o q ∈ σ.writeQ) (hk : q ∈ keys σ.calls) : Ev.pkt (.req q) ∈ e := by
  have hne : σ.writeQ.isEmpty = false := by simpa using List.ne_nil_of_mem hq
  simp only [sendStep, hc, hs, hne, Bool.not_true, Bool.not_false, Bool.false_eq_true, if_false, Bool.and_self,
    Bool.or_true] at h
  split at h
  · simp at h
  · rename_i hm
    obtain ⟨-, rfl⟩ := ok_inj h
    obtain ⟨-, -, -, hwritten⟩ := moveReqs_written hm
    exact List.mem_append_left _ (List.mem_map_of_mem (hwritten o q hq hk))

end TLVerif.Rpccalls
