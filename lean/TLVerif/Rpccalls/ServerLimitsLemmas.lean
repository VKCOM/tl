import TLVerif.Rpccalls.WorkerPool
import TLVerif.Rpccalls.ReqMem
/-!
Invariants of the `workerPool` model and of the request-memory semaphore model (for C39).
-/
namespace TLVerif.Rpccalls

/-- histories of a pool created by `workerPoolNew(create)` in which only handed-out workers are put back
(`POp.guard`; `Pool.run` checks no guard, so it is not the notion the invariant holds of) -/
inductive PReach (create : Int) : List POp → Pool → List PEv → Prop
  | init : PReach create [] (Pool.new create) []
  | snoc {ops p evs op} : PReach create ops p evs → op.guard p = true →
      PReach create (ops ++ [op]) (p.step op).1 (evs ++ (p.step op).2)

structure PInv (p : Pool) : Prop where
  acct : p.created = p.busy.length + p.free.length
  limit : p.created ≤ p.create

theorem PInv.waiting {p : Pool} (hi : PInv p) (k : Nat) : PInv { p with waiting := k } :=
  ⟨hi.acct, hi.limit⟩

theorem PInv.busy_lt_of_ready {p : Pool} (hi : PInv p) (ho : p.closed = false) (hr : p.ready = true) :
    p.busy.length < p.create := by
  have h1 := hi.acct
  have h2 := hi.limit
  have h3 : p.free.length = 0 → p.created < p.create := fun h0 => by
    simpa [Pool.ready, ho, List.eq_nil_of_length_eq_zero h0] using hr
  omega

theorem PInv.not_ready_of_full {p : Pool} (hi : PInv p) (ho : p.closed = false) (hf : p.busy.length = p.create) :
    p.ready = false :=
  Bool.eq_false_iff.mpr fun hr => Nat.ne_of_lt (hi.busy_lt_of_ready ho hr) hf

theorem pinv_take {p : Pool} (hi : PInv p) (hr : p.ready = true) :
    PInv p.take.1 ∧ p.take.1.create = p.create ∧
    ∀ w n, PEv.got w n ∈ p.take.2 → p.busy.length < p.create ∧ p.take.1.busy.length = p.busy.length + 1 := by
  unfold Pool.take
  split
  · exact ⟨hi, rfl, by simp⟩
  · rename_i hc
    have h1 := hi.acct
    have h2 := hi.limit
    have h3 := hi.busy_lt_of_ready (eq_false_of_ne_true hc) hr
    split
    · rename_i w hl
      obtain ⟨l, hf⟩ := List.getLast?_eq_some_iff.mp hl
      refine ⟨⟨?_, h2⟩, rfl, fun _ _ _ => ⟨h3, rfl⟩⟩
      simp only [hf, List.dropLast_concat, List.length_append, List.length_cons, List.length_nil] at h1 ⊢
      omega
    · rename_i hl
      rw [List.getLast?_eq_none_iff.mp hl] at h1 ⊢
      refine ⟨⟨?_, ?_⟩, rfl, fun _ _ _ => ⟨h3, rfl⟩⟩ <;>
        simp only [List.length_cons, List.length_nil] at h1 ⊢ <;> omega

/-- What `gcLocked` leaves alone in its result `r`; `gcLocked_spec` reads all of it off one case analysis. -/
structure Pool.GcLockedSpec (p : Pool) (r : Pool × List PEv) : Prop where
  busy : r.1.busy = p.busy
  closed : r.1.closed = p.closed
  create : r.1.create = p.create
  waiting : r.1.waiting = p.waiting
  noGot : ∀ w n, PEv.got w n ∉ r.2
  inv : PInv p → PInv r.1

theorem Pool.gcLocked_spec (p : Pool) (e : Bool) : p.GcLockedSpec (p.gcLocked e) := by
  unfold Pool.gcLocked
  split
  · split
    · rename_i w t hf _
      refine ⟨rfl, rfl, rfl, rfl, by simp, fun hi => ?_⟩
      have h1 := hi.acct
      rw [hf] at h1
      exact ⟨by simp [h1, ← Int.add_assoc], Int.le_trans (Int.sub_le_self _ (by decide)) hi.limit⟩
    · exact ⟨rfl, rfl, rfl, rfl, by simp, id⟩
  · exact ⟨rfl, rfl, rfl, rfl, by simp, id⟩

theorem pinv_step {p : Pool} {op : POp} (hi : PInv p) (hg : op.guard p = true) :
    PInv (p.step op).1 ∧ (p.step op).1.create = p.create ∧
    ∀ w n, PEv.got w n ∈ (p.step op).2 → p.busy.length < p.create ∧ (p.step op).1.busy.length = p.busy.length + 1 := by
  cases op with
  | getEnter =>
    simp only [Pool.step]
    split
    · exact pinv_take hi ‹_›
    · exact ⟨hi.waiting _, rfl, by simp⟩
  | recheck =>
    simp only [Pool.step]
    split
    · exact ⟨hi, rfl, by simp⟩
    · split
      · exact pinv_take (hi.waiting _) ‹_›
      · exact ⟨hi, rfl, by simp⟩
  | put w e =>
    have hw : w ∈ p.busy := List.contains_iff_mem.mp hg
    have hlen : (p.busy.erase w).length + 1 = p.busy.length := by
      rw [List.length_erase_of_mem hw]; exact Nat.sub_add_cancel (List.length_pos_of_mem hw)
    simp only [Pool.step]
    split
    · have h1 := hi.acct
      refine ⟨⟨?_, Int.le_trans (Int.sub_le_self _ (by decide)) hi.limit⟩, rfl, by simp⟩
      simp only; omega
    · have g := p.gcLocked_spec e
      have h1 := (g.inv hi).acct
      rw [g.busy] at h1
      refine ⟨⟨?_, (g.inv hi).limit⟩, g.create, fun w n hm => absurd hm (g.noGot w n)⟩
      simp only [g.busy, List.length_append, List.length_cons, List.length_nil]
      omega
  | gc e =>
    have g := p.gcLocked_spec e
    exact ⟨g.inv hi, g.create, fun w n hm => absurd hm (g.noGot w n)⟩
  | close =>
    have h1 := hi.acct
    refine ⟨⟨?_, Int.le_trans (Int.sub_le_self _ (Int.natCast_nonneg _)) hi.limit⟩, rfl, by simp [Pool.step]⟩
    simp [Pool.step, h1]

theorem preach_inv {c ops p evs} (h : PReach c ops p evs) : PInv p ∧ p.create = (Pool.new c).create := by
  induction h with
  | init => exact ⟨⟨rfl, Int.natCast_nonneg _⟩, rfl⟩
  | snoc _ hg ih =>
    obtain ⟨a, b, -⟩ := pinv_step ih.1 hg
    exact ⟨a, b.trans ih.2⟩

theorem sumHeld_append (a b : List (Nat × Int)) : sumHeld (a ++ b) = sumHeld a + sumHeld b := by
  induction a with
  | nil => simp [sumHeld]
  | cons x t ih => obtain ⟨i, n⟩ := x; simp only [List.cons_append, sumHeld, ih, Int.add_assoc]

theorem sumHeld_ge_length_mul {l : List (Nat × Int)} {b : Int} (h : ∀ x ∈ l, b ≤ x.2) :
    (l.length : Int) * b ≤ sumHeld l := by
  induction l with
  | nil => simp [sumHeld]
  | cons x t ih =>
    obtain ⟨i, n⟩ := x
    obtain ⟨h1, h2⟩ := List.forall_mem_cons.mp h
    have := ih h2
    simp only [List.length_cons, sumHeld, Int.natCast_add, Int.add_mul, Int.natCast_one, Int.one_mul] at h1 ⊢
    omega

theorem eraseId_sublist (id : Nat) (l : List (Nat × Int)) : (eraseId id l).Sublist l := by
  fun_induction eraseId id l with
  | case1 => exact .slnil
  | case2 => exact .cons _ (.refl _)
  | case3 _ _ _ _ ih => exact .cons_cons _ ih

theorem heldAmount_eraseId {id : Nat} {l : List (Nat × Int)} {n : Int} (h : heldAmount id l = some n) :
    (id, n) ∈ l ∧ sumHeld l = sumHeld (eraseId id l) + n := by
  fun_induction heldAmount id l with
  | case1 => cases h
  | case2 => cases h; simp [eraseId, sumHeld, Int.add_comm]
  | case3 _ _ _ hi ih =>
    obtain ⟨hm, hs⟩ := ih h
    exact ⟨List.mem_cons_of_mem _ hm, by simp only [eraseId, hi, if_false, sumHeld, hs, Int.add_assoc]⟩

theorem notifyLoop_spec (size : Int) (cur : Int) (ws : List (Nat × Int)) :
    (notifyLoop size cur ws).2.2 ++ (notifyLoop size cur ws).2.1 = ws ∧
    (notifyLoop size cur ws).1 = cur + sumHeld (notifyLoop size cur ws).2.2 ∧
    (cur ≤ size → (notifyLoop size cur ws).1 ≤ size) := by
  induction ws generalizing cur with
  | nil => simp [notifyLoop, sumHeld]
  | cons w t ih =>
    obtain ⟨id, n⟩ := w
    simp only [notifyLoop]
    split
    · simp [sumHeld]
    · obtain ⟨h1, h2, h3⟩ := ih (cur + n)
      rename_i hfit
      refine ⟨by simp [h1], ?_, fun _ => h3 (Int.add_le_of_le_sub_left (Int.not_lt.mp hfit))⟩
      simp only [sumHeld]; rw [h2, Int.add_assoc]

theorem Sem.fits_iff {s : Sem} {n : Int} : s.fits n = true ↔ s.cur + n ≤ s.size ∧ s.waiters = [] := by
  simp only [Sem.fits, Bool.and_eq_true, decide_eq_true_eq, List.isEmpty_iff]
  exact and_congr_left' (by omega)

theorem Sem.panic_not_mem_notify (s : Sem) : SEv.panic ∉ s.notify.2 := by simp [Sem.notify]

/-- amounts requested are never negative (`requestBufTake` of non-negative sizes); Go `Acquire` and `TryAcquire`
panic on `n < 0` before they look at the semaphore, so the guard leaves out no call that reaches the counter -/
def SOp.nonneg : SOp → Bool
  | .tryAcq _ n => 0 ≤ n
  | .acquire _ n => 0 ≤ n
  | _ => true

/-- histories from `Sem.new size` under `SOp.nonneg`, what `sreach_inv` ranges over (`Sem.run` checks no guard) -/
inductive SReach (size : Int) : List SOp → Sem → List SEv → Prop
  | init : SReach size [] (Sem.new size) []
  | snoc {ops s evs op} : SReach size ops s evs → op.nonneg = true →
      SReach size (ops ++ [op]) (s.step op).1 (evs ++ (s.step op).2)

structure SInv (s : Sem) : Prop where
  acct : s.cur = sumHeld s.held
  limit : s.cur ≤ s.size
  heldPos : ∀ h ∈ s.held, 0 ≤ h.2
  waitPos : ∀ w ∈ s.waiters, 0 ≤ w.2

theorem SInv.cur_nonneg {s : Sem} (hi : SInv s) : 0 ≤ s.cur := by
  rw [hi.acct]; exact Int.mul_zero _ ▸ sumHeld_ge_length_mul hi.heldPos

theorem sinv_notify {s : Sem} (hi : SInv s) : SInv s.notify.1 := by
  obtain ⟨h1, h2, h3⟩ := notifyLoop_spec s.size s.cur s.waiters
  have hw := hi.waitPos
  rw [← h1, List.forall_mem_append] at hw
  refine ⟨?_, h3 hi.limit, List.forall_mem_append.mpr ⟨hi.heldPos, hw.1⟩, hw.2⟩
  simp only [Sem.notify]
  rw [h2, sumHeld_append, hi.acct]

/-- the fast path of `TryAcquire` / `Acquire` -/
theorem sinv_admit {s : Sem} (hi : SInv s) {n : Int} (hn : 0 ≤ n) (hf : s.fits n = true) (id : Nat) :
    SInv { s with cur := s.cur + n, held := s.held ++ [(id, n)] } := by
  refine ⟨?_, (Sem.fits_iff.mp hf).1, List.forall_mem_append.mpr ⟨hi.heldPos, List.forall_mem_singleton.mpr hn⟩,
    hi.waitPos⟩
  simp only [sumHeld_append, sumHeld, hi.acct, Int.add_zero]

theorem sinv_step {s : Sem} {op : SOp} (hi : SInv s) (hn : op.nonneg = true) :
    SInv (s.step op).1 ∧ (s.step op).1.size = s.size ∧ SEv.panic ∉ (s.step op).2 := by
  cases op with
  | tryAcq id n =>
    simp only [Sem.step]
    split
    · exact ⟨sinv_admit hi (of_decide_eq_true hn) ‹_› id, rfl, by simp⟩
    · exact ⟨hi, rfl, by simp⟩
  | acquire id n =>
    have hn : 0 ≤ n := of_decide_eq_true hn
    simp only [Sem.step]
    split
    · exact ⟨sinv_admit hi hn ‹_› id, rfl, by simp⟩
    · split
      · exact ⟨hi, rfl, by simp⟩
      · exact ⟨⟨hi.acct, hi.limit, hi.heldPos,
          List.forall_mem_append.mpr ⟨hi.waitPos, List.forall_mem_singleton.mpr hn⟩⟩, rfl, by simp⟩
  | cancel id =>
    have hi1 : SInv { s with waiters := eraseId id s.waiters } :=
      ⟨hi.acct, hi.limit, hi.heldPos, fun x hx => hi.waitPos x ((eraseId_sublist id _).subset hx)⟩
    simp only [Sem.step]
    split
    · exact ⟨hi, rfl, by simp⟩
    · split
      · exact ⟨sinv_notify hi1, rfl, by simp [Sem.panic_not_mem_notify]⟩
      · exact ⟨hi1, rfl, by simp⟩
  | release id =>
    simp only [Sem.step]
    cases hh : heldAmount id s.held with
    | none => exact ⟨hi, rfl, by simp⟩
    | some n =>
      obtain ⟨hm, hs⟩ := heldAmount_eraseId hh
      have hi1 : SInv { s with cur := s.cur - n, held := eraseId id s.held } :=
        ⟨by show s.cur - n = _; rw [hi.acct, hs]; exact Int.add_sub_cancel _ _,
          Int.le_trans (Int.sub_le_self _ (hi.heldPos _ hm)) hi.limit,
          fun x hx => hi.heldPos x ((eraseId_sublist id _).subset hx), hi.waitPos⟩
      -- no panic: `split` finds `hc` in the context and rewrites the inner `if s.cur - n < 0` away with it
      have hc : ¬ (s.cur - n < 0) := Int.not_lt.mpr hi1.cur_nonneg
      simp only
      split
      · exact ⟨hi1, rfl, by simp⟩
      · exact ⟨sinv_notify hi1, rfl, by simp [Sem.panic_not_mem_notify]⟩

theorem sreach_inv {size ops s evs} (hsz : 0 ≤ size) (h : SReach size ops s evs) :
    SInv s ∧ s.size = size ∧ SEv.panic ∉ evs := by
  induction h with
  | init => exact ⟨⟨rfl, hsz, by simp [Sem.new], by simp [Sem.new]⟩, rfl, by simp⟩
  | snoc _ hn ih =>
    obtain ⟨a, b, c⟩ := sinv_step ih.1 hn
    exact ⟨a, b.trans ih.2.1, by simp only [List.mem_append, not_or]; exact ⟨ih.2.2, c⟩⟩

end TLVerif.Rpccalls
