import TLVerif.Rpccalls.ClientConn
/-!
The data of a `clientConn` on its own: the call map as an association list, the counters the theorems speak
of, and the two loops over all calls — `massCancelRequestsLocked` as a filter of the map,
`moveRequestsToSendLocked` by what it leaves alone (`moveReqs_frame`) and what it writes (`moveReqs_written`).
-/
namespace TLVerif.Rpccalls

def keys (m : List (Nat × Call)) : List Nat := m.map (·.1)

theorem lookup_mem {k : Nat} {m : List (Nat × Call)} {c : Call} (h : lookup k m = some c) : (k, c) ∈ m := by
  induction m with
  | nil => simp [lookup] at h
  | cons x t ih => grind [lookup]

theorem mem_keys_iff_lookup {k : Nat} {m : List (Nat × Call)} : k ∈ keys m ↔ ∃ c, lookup k m = some c := by
  refine ⟨fun h => ?_, fun ⟨c, h⟩ => List.mem_map.mpr ⟨(k, c), lookup_mem h, rfl⟩⟩
  fun_induction lookup k m with
  | case1 => cases h
  | case2 => exact ⟨_, rfl⟩
  | case3 _ _ _ hk ih => exact ih ((List.mem_cons.mp h).resolve_left (Ne.symm hk))

theorem lookup_eq_none_iff {k : Nat} {m : List (Nat × Call)} : lookup k m = none ↔ k ∉ keys m := by
  rw [mem_keys_iff_lookup]
  cases lookup k m <;> simp

theorem lookup_of_mem_nodup {k : Nat} {c : Call} {m : List (Nat × Call)} (hn : (keys m).Nodup) (h : (k, c) ∈ m) :
    lookup k m = some c := by
  induction m with
  | nil => simp at h
  | cons y t ih =>
    obtain ⟨k', c'⟩ := y
    simp only [keys, List.map_cons, List.nodup_cons] at hn
    rcases List.mem_cons.mp h with h | h
    · cases h; exact if_pos rfl
    · have hk : k' ≠ k := fun e => hn.1 (e ▸ List.mem_map_of_mem h)
      exact (if_neg hk).trans (ih hn.2 h)

theorem eraseKey_sublist (k : Nat) (m : List (Nat × Call)) : (eraseKey k m).Sublist m := by
  fun_induction eraseKey k m with
  | case1 => exact .slnil
  | case2 => exact List.sublist_cons_self _ _
  | case3 _ _ _ _ ih => exact ih.cons_cons _

theorem mem_eraseKey {k : Nat} {m : List (Nat × Call)} {x : Nat × Call} (h : x ∈ eraseKey k m) : x ∈ m :=
  (eraseKey_sublist k m).subset h

theorem keys_eraseKey_sublist (k : Nat) (m : List (Nat × Call)) : (keys (eraseKey k m)).Sublist (keys m) :=
  (eraseKey_sublist k m).map _

theorem lookup_eraseKey {m : List (Nat × Call)} (h : (keys m).Nodup) (k k' : Nat) :
    lookup k' (eraseKey k m) = if k' = k then none else lookup k' m := by
  fun_induction eraseKey k m with
  | case1 => simp [lookup]
  | case2 c t =>
    by_cases hk : k' = k
    · rw [if_pos hk, hk]; exact lookup_eq_none_iff.mpr (List.nodup_cons.mp h).1
    · rw [if_neg hk, lookup, if_neg (Ne.symm hk)]
  | case3 _ _ _ hk ih => grind [lookup, ih (List.nodup_cons.mp h).2]

theorem eraseKey_of_lookup_none {k : Nat} {m : List (Nat × Call)} (h : lookup k m = none) : eraseKey k m = m := by
  induction m with
  | nil => rfl
  | cons y t ih => grind [eraseKey, lookup]

theorem countP_eraseKey (p : Nat × Call → Bool) {k : Nat} {m : List (Nat × Call)} {c : Call}
    (h : lookup k m = some c) : (eraseKey k m).countP p + (if p (k, c) then 1 else 0) = m.countP p := by
  fun_induction lookup k m with
  | case1 => cases h
  | case2 =>
    cases h
    simp only [eraseKey, if_true, List.countP_cons]
  | case3 _ _ _ hk ih =>
    have := ih h
    simp only [eraseKey, hk, if_false, List.countP_cons]
    omega

theorem keys_markSent (k : Nat) (m : List (Nat × Call)) : keys (markSent k m) = keys m := by
  induction m with
  | nil => rfl
  | cons y t ih => grind [markSent, keys]

theorem lookup_markSent (k k' : Nat) (m : List (Nat × Call)) :
    lookup k' (markSent k m) = if k' = k then (lookup k m).map ({ · with unsent := false }) else lookup k' m := by
  induction m with
  | nil => simp [lookup, markSent]
  | cons y t ih => grind [markSent, lookup]

/-- how a call that stays registered can change in a step (`step_prov`): too little to disturb `Inv.hist` -/
def sameCall (c c' : Call) : Prop := c' = c ∨ c' = { c with unsent := false }

theorem sameCall.trans {a b c : Call} (h1 : sameCall a b) (h2 : sameCall b c) : sameCall a c := by
  rcases h1 with rfl | rfl <;> rcases h2 with rfl | rfl <;> simp [sameCall]

theorem sameCall.unsent {c c' : Call} (h : sameCall c c') (hu : c'.unsent = true) : c.unsent = true := by
  rcases h with rfl | rfl
  · exact hu
  · cases hu

theorem mem_markSent {k k' : Nat} {m : List (Nat × Call)} {c' : Call} (h : (k', c') ∈ markSent k m) :
    ∃ c, (k', c) ∈ m ∧ sameCall c c' := by
  fun_induction markSent k m with
  | case1 => cases h
  | case2 c t =>
    rcases List.mem_cons.mp h with h | h
    · cases h; exact ⟨c, List.mem_cons_self .., .inr rfl⟩
    · exact ⟨c', List.mem_cons_of_mem _ h, .inl rfl⟩
  | case3 _ _ _ _ ih =>
    rcases List.mem_cons.mp h with h | h
    · cases h; exact ⟨c', List.mem_cons_self .., .inl rfl⟩
    · obtain ⟨c, hc, hs⟩ := ih h
      exact ⟨c, List.mem_cons_of_mem _ hc, hs⟩

theorem eraseKey_markSent (k : Nat) (m : List (Nat × Call)) : eraseKey k (markSent k m) = eraseKey k m := by
  induction m with
  | nil => rfl
  | cons y t ih => grind [markSent, eraseKey]

theorem countP_markSent (p : Nat × Call → Bool) {k : Nat} {m : List (Nat × Call)} {c : Call}
    (h : lookup k m = some c) :
    (markSent k m).countP p + (if p (k, c) then 1 else 0) =
      m.countP p + (if p (k, { c with unsent := false }) then 1 else 0) := by
  have h1 := countP_eraseKey p (c := { c with unsent := false }) (by rw [lookup_markSent, if_pos rfl, h]; rfl)
  have h2 := countP_eraseKey p h
  rw [eraseKey_markSent] at h1
  omega

def completes (o : Nat) : Ev → Bool
  | .deliver o' _ _ _ => o' == o
  | .cancelled o' _ _ => o' == o
  | _ => false

def nCompl (o : Nat) (evs : List Ev) : Nat := evs.countP (completes o)
def nOwner (o : Nat) (m : List (Nat × Call)) : Nat := m.countP (fun kc => kc.2.owner == o)
def isSetupOf (o : Nat) : Op → Bool
  | .setup o' _ _ _ _ => o' == o
  | _ => false
def nSetup (o : Nat) (ops : List Op) : Nat := ops.countP (isSetupOf o)
def sentCount (m : List (Nat × Call)) : Nat := m.countP (fun kc => !kc.2.unsent)

theorem nCompl_append (o : Nat) (a b : List Ev) : nCompl o (a ++ b) = nCompl o a + nCompl o b := by
  simp [nCompl, List.countP_append]

theorem nCompl_eq_zero {o : Nat} {e : List Ev} (h : ∀ x ∈ e, completes o x = false) : nCompl o e = 0 :=
  List.countP_eq_zero.mpr (by simpa using h)

theorem nSetup_append (o : Nat) (a b : List Op) : nSetup o (a ++ b) = nSetup o a + nSetup o b := by
  simp [nSetup, List.countP_append]

theorem nOwner_eraseKey {o k : Nat} {m : List (Nat × Call)} {c : Call} (h : lookup k m = some c) :
    nOwner o (eraseKey k m) + (if c.owner == o then 1 else 0) = nOwner o m :=
  countP_eraseKey _ h

theorem sentCount_eraseKey {k : Nat} {m : List (Nat × Call)} {c : Call} (h : lookup k m = some c) :
    sentCount (eraseKey k m) + (if c.unsent then 0 else 1) = sentCount m := by
  have := countP_eraseKey (fun kc => !kc.2.unsent) h
  cases hu : c.unsent <;> simpa [hu, sentCount] using this

def reqQids : List WQ → List Nat
  | [] => []
  | .req _ q :: t => q :: reqQids t
  | .cancel _ :: t => reqQids t

theorem reqQids_eq_filterMap (l : List WQ) :
    reqQids l = l.filterMap (fun | .req _ q => some q | .cancel _ => none) := by
  induction l with
  | nil => rfl
  | cons w t ih => cases w <;> simp [reqQids, ih]

theorem mem_reqQids {q : Nat} {wq : List WQ} : q ∈ reqQids wq ↔ ∃ o, WQ.req o q ∈ wq := by
  rw [reqQids_eq_filterMap, List.mem_filterMap]
  constructor
  · rintro ⟨_ | _, hw, h⟩
    · cases h; exact ⟨_, hw⟩
    · cases h
  · exact fun ⟨o, h⟩ => ⟨_, h, rfl⟩

theorem reqQids_append (a b : List WQ) : reqQids (a ++ b) = reqQids a ++ reqQids b := by
  simp only [reqQids_eq_filterMap, List.filterMap_append]

/-- the two tests `moveRequestsToSendLocked` makes of a queued request whose call is registered; it panics with
"wrong request in queue" or "double sent" when one fails -/
def wqOK (m : List (Nat × Call)) (wq : List WQ) : Prop :=
  ∀ o q, WQ.req o q ∈ wq → ∀ c, lookup q m = some c → c.owner = o ∧ c.unsent = true

theorem mem_requeue {o q : Nat} {kept : List (Nat × Call)} :
    WQ.req o q ∈ requeue kept ↔ ∃ k c, (k, c) ∈ kept ∧ c.owner = o ∧ c.qid = q := by
  simp [requeue, List.mem_mergeSort]

theorem reqQids_requeue_perm (kept : List (Nat × Call)) :
    (reqQids (requeue kept)).Perm (kept.map (fun kc => kc.2.qid)) := by
  rw [requeue, reqQids_eq_filterMap]
  refine ((List.mergeSort_perm _ _).filterMap _).trans ?_
  rw [List.filterMap_map, ← List.filterMap_eq_map]
  rfl

/-- the error a call gets from `massCancelRequestsLocked` when it is not re-queued -/
def massRes (isOpen : Bool) (c : Call) : Res :=
  if !c.unsent then .sideEffect else if c.failNoConn || !isOpen then .noSideEffect else .deadline

/-- the calls that `massCancelRequestsLocked` leaves registered and re-queues -/
def requeued (isOpen : Bool) (kc : Nat × Call) : Bool :=
  kc.2.unsent && !(kc.2.failNoConn || !isOpen) && kc.2.dl != .past

def massEv (isOpen : Bool) (kc : Nat × Call) : Ev :=
  .deliver kc.2.owner kc.2.cb kc.2.qid (massRes isOpen kc.2)

/-- The loop is a filter of the map. It takes 1 off `inFlight` for each sent call and panics as soon as that would go
below 0, hence iff `inFlight` is below the number of sent calls. -/
theorem massLoop_eq (isOpen : Bool) (m : List (Nat × Call)) (n : Int) :
    massLoop isOpen m n =
      if sentCount m ≠ 0 ∧ n < sentCount m then .error .inFlightNeg
      else .ok (m.filter (requeued isOpen), n - sentCount m,
        (m.filter (fun kc => !requeued isOpen kc)).map (massEv isOpen)) := by
  induction m generalizing n with
  | nil => simp [massLoop, sentCount]
  | cons y t ih =>
    obtain ⟨k, c⟩ := y
    rw [massLoop, ih, ih]
    cases hu : c.unsent
    · -- a sent call: one more to take off; the head panics iff `n < 1`, the tail iff `n - 1 < sentCount t`
      have hs : sentCount ((k, c) :: t) = sentCount t + 1 := by simp [sentCount, hu]
      have hr : requeued isOpen (k, c) = false := by simp [requeued, hu]
      simp only [hs, List.filter_cons, hr, Bool.not_false, if_true, Bool.false_eq_true, if_false, List.map_cons]
      by_cases h : sentCount t + 1 ≠ 0 ∧ n < ↑(sentCount t + 1)
      · rw [if_pos h]
        by_cases h1 : n - 1 < 0
        · rw [if_pos h1]
        · rw [if_neg h1, if_pos (by omega)]
      · rw [if_neg h, if_neg (by omega), if_neg (by omega)]
        simp [massEv, massRes, hu]; omega
    · -- an unsent call: the count is that of the tail; it is kept or answered according to `requeued`
      have hs : sentCount ((k, c) :: t) = sentCount t := by simp [sentCount, hu]
      rw [hs]
      by_cases h : sentCount t ≠ 0 ∧ n < sentCount t
      · simp [h]
      · have hr : requeued isOpen (k, c) = (!(c.failNoConn || !isOpen) && !(c.dl == .past)) := by
          simp [requeued, hu, bne]
        cases hf : (c.failNoConn || !isOpen)
        · cases hd : (c.dl == .past) <;> simp [h, hr, massEv, massRes, hu, hf, hd]
        · simp [h, hr, massEv, massRes, hu, hf]

theorem requeued_unsent {isOpen : Bool} {kc : Nat × Call} (h : requeued isOpen kc = true) : kc.2.unsent = true := by
  simp only [requeued, Bool.and_eq_true] at h
  exact h.1.1

theorem sentCount_requeued (isOpen : Bool) (m : List (Nat × Call)) : sentCount (m.filter (requeued isOpen)) = 0 := by
  simp only [sentCount, List.countP_eq_zero, List.mem_filter]
  rintro kc ⟨-, h⟩
  simp [requeued_unsent h]

theorem nOwner_requeued (isOpen : Bool) (o : Nat) (m : List (Nat × Call)) :
    nCompl o ((m.filter (fun kc => !requeued isOpen kc)).map (massEv isOpen)) + nOwner o (m.filter (requeued isOpen)) =
      nOwner o m := by
  have : ∀ l, nCompl o (l.map (massEv isOpen)) = nOwner o l := fun l => by
    simp only [nCompl, nOwner, List.countP_map]; rfl
  rw [this, nOwner, nOwner, nOwner, List.countP_eq_countP_filter_add m _ (requeued isOpen)]
  omega

theorem mem_massEv {isOpen : Bool} {m : List (Nat × Call)} {k : Nat} {c : Call} (h : (k, c) ∈ m)
    (hq : requeued isOpen (k, c) = false) :
    Ev.deliver c.owner c.cb c.qid (massRes isOpen c) ∈ (m.filter (fun kc => !requeued isOpen kc)).map (massEv isOpen) :=
  List.mem_map.mpr ⟨(k, c), List.mem_filter.mpr ⟨h, by simp [hq]⟩, rfl⟩

theorem moveReqs_ok {wq : List WQ} {m : List (Nat × Call)} {n : Int} (h1 : wqOK m wq) (h2 : (reqQids wq).Nodup) :
    ∃ r, moveReqs wq m n = .ok r := by
  induction wq generalizing m n with
  | nil => exact ⟨_, rfl⟩
  | cons w t ih =>
    have h1' : wqOK m t := fun o q hq => h1 o q (List.mem_cons_of_mem _ hq)
    cases w with
    | cancel q0 =>
      obtain ⟨r, hr⟩ := ih (n := n) h1' h2
      simp only [moveReqs, hr]
      exact ⟨_, rfl⟩
    | req o0 q0 =>
      simp only [reqQids, List.nodup_cons] at h2
      simp only [moveReqs]
      cases hl : lookup q0 m with
      | none => exact ih h1' h2.2
      | some c =>
        obtain ⟨ho, hu⟩ := h1 o0 q0 List.mem_cons_self c hl
        have h1'' : wqOK (markSent q0 m) t := by
          intro o q hq c' hc'
          have hne : q ≠ q0 := fun e => h2.1 (e ▸ mem_reqQids.mpr ⟨o, hq⟩)
          exact h1' o q hq c' (by rwa [lookup_markSent, if_neg hne] at hc')
        obtain ⟨r, hr⟩ := ih (n := n + 1) h1'' h2.2
        simp only [hu, Bool.not_true, Bool.false_eq_true, if_false, ho, bne_self_eq_false, hr]
        exact ⟨_, rfl⟩

section
variable {wq : List WQ} {m m' : List (Nat × Call)} {n n' : Int} {out : List Pkt}

theorem moveReqs_frame (h : moveReqs wq m n = .ok (m', n', out)) :
    keys m' = keys m ∧ (∀ k c', (k, c') ∈ m' → ∃ c, (k, c) ∈ m ∧ sameCall c c') ∧
    (∀ o, nOwner o m' = nOwner o m) ∧ n' - n = (sentCount m' : Int) - sentCount m := by
  fun_induction moveReqs wq m n generalizing m' n' out with
  | case1 => cases h; exact ⟨rfl, fun _ c' hm => ⟨c', hm, .inl rfl⟩, fun _ => rfl, by omega⟩
  -- a cancel entry is passed on (`case3`), a request whose call is gone is skipped (`case4`)
  | case3 _ _ _ _ _ _ _ hr ih => cases h; exact ih hr
  | case4 _ _ _ _ _ _ ih => exact ih h
  -- the request of a registered, unsent call is written and the call marked sent
  | case8 _ _ _ _ _ c hl hu _ _ _ _ hr ih =>
    cases h
    replace hu : c.unsent = true := by simpa using hu
    obtain ⟨i1, i2, i3, i4⟩ := ih hr
    refine ⟨by rw [i1, keys_markSent], fun k c' hm => ?_, fun o => ?_, ?_⟩
    · obtain ⟨c1, h1, s1⟩ := i2 k c' hm
      obtain ⟨c2, h2, s2⟩ := mem_markSent h1
      exact ⟨c2, h2, s2.trans s1⟩
    · have := countP_markSent (fun kc => kc.2.owner == o) hl
      have i3 := i3 o
      dsimp only at this
      simp only [nOwner] at i3 ⊢
      omega
    · have := countP_markSent (fun kc => !kc.2.unsent) hl
      simp only [hu, sentCount] at this i4 ⊢
      simp at this
      omega
  -- a panic, here or further down the queue
  | case2 | case5 | case6 | case7 => cases h

theorem moveReqs_written (h : moveReqs wq m n = .ok (m', n', out)) :
    (∀ q, Pkt.req q ∈ out → q ∈ reqQids wq ∧ ∃ c, lookup q m = some c ∧ c.unsent = true) ∧
    (∀ k, lookup k m' = (lookup k m).map (fun c => if Pkt.req k ∈ out then { c with unsent := false } else c)) ∧
    (∀ q, out.count (Pkt.req q) ≤ 1) ∧
    ∀ o q, WQ.req o q ∈ wq → q ∈ keys m → Pkt.req q ∈ out := by
  fun_induction moveReqs wq m n generalizing m' n' out with
  | case1 => cases h; simp
  -- a cancel entry
  | case3 _ _ _ _ _ _ _ hr ih => cases h; simpa [reqQids] using ih hr
  -- a request whose call is gone
  | case4 _ _ _ _ _ hl ih =>
    have ih := ih h
    refine ⟨fun q hq => ⟨List.mem_cons_of_mem _ (ih.1 q hq).1, (ih.1 q hq).2⟩, ih.2.1, ih.2.2.1, fun o q hq hk => ?_⟩
    rcases List.mem_cons.mp hq with hq | hq
    · obtain ⟨-, rfl⟩ := WQ.req.inj hq
      exact absurd hk (lookup_eq_none_iff.mp hl)
    · exact ih.2.2.2 o q hq hk
  -- the request of the registered, unsent call `c` with id `q0`
  | case8 _ q0 _ _ _ c hl hu _ _ _ _ hr ih =>
    cases h
    replace hu : c.unsent = true := by simpa using hu
    obtain ⟨i1, i2, i3, i4⟩ := ih hr
    -- `q0` itself is not written again: it is marked sent now
    have hn : Pkt.req q0 ∉ _ := fun hm => by
      obtain ⟨-, c', hc', hu'⟩ := i1 q0 hm
      rw [lookup_markSent, if_pos rfl, hl] at hc'
      obtain rfl := Option.some.inj hc'
      simp at hu'
    refine ⟨fun q hq => ?_, fun k => ?_, fun q => ?_, fun o' q hq hk => ?_⟩
    · by_cases hqq : q = q0
      · subst hqq; exact ⟨List.mem_cons_self, c, hl, hu⟩
      · obtain ⟨h1, h2⟩ := i1 q (by simpa [hqq] using hq)
        exact ⟨List.mem_cons_of_mem _ h1, by rwa [lookup_markSent, if_neg hqq] at h2⟩
    · rw [i2, lookup_markSent]
      by_cases hk : k = q0
      · subst hk; simp [hl]
      · simp [hk]
    · by_cases hqq : q0 = q
      · subst hqq; simp [List.count_eq_zero.mpr hn]
      · simpa [List.count_cons, hqq] using i3 q
    · rcases List.mem_cons.mp hq with hq | hq
      · obtain ⟨-, rfl⟩ := WQ.req.inj hq
        exact List.mem_cons_self
      · exact List.mem_cons_of_mem _ (i4 o' q hq (by rwa [keys_markSent]))
  -- a panic, here or further down the queue
  | case2 | case5 | case6 | case7 => cases h

end

end TLVerif.Rpccalls
