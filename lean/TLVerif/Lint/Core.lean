import TLVerif.Lint.Ast
/-! `lintCore`: executable model of `tlcodegen.CheckBackwardCompatibility` (internal/tlcodegen/tlgen.go),
written the way the Go code is written: `extractTypes`, the parts of `checkNatUsages` the linter reads
(`TypeNameAndArgIndexToBitsUsedInLayout` = two-pass DFS `fillUsages`, `CombinatorsNatFieldIndexToBitsUsed`,
`TypeNameAndArgToAffectingCombinatorsNatFields`, `TypeNameAndArgIndexToBitsUsedByNat`),
`checkCombinatorsBackwardCompatibility` (`compareTypes`, field-mask rules, function-argument rules,
`checkIsSelectedBitAvailable`/`getUsedBitsForFieldMask`), `checkBoxUsage`/`checkAllTypeRefs`.
The Go code returns the first error; only the verdict is modelled: `ok` (nil), `rej` (an error), `panic`
(an index out of range: in `compareTypes` when the new reference has fewer arguments, or in `checkNatUsages`,
recorded as `St.panicked`). Sets (Go maps to `bool`)
are lists used through membership / emptiness only. Core Lean only. -/
namespace TLVerif.Lint

inductive R where
  | ok | rej | panic
  deriving DecidableEq, Repr

/-- sequencing: the first non-`ok` outcome wins (Go: early `return err`). -/
def R.andThen : R → R → R
  | .ok, b => b
  | a, _ => a

def allR {α : Type} (f : α → R) : List α → R
  | [] => .ok
  | x :: xs => (f x).andThen (allR f xs)

def rejIf (b : Bool) : R := if b then .rej else .ok

/-- last element satisfying `p` (Go: a map filled in a loop, the last write wins). -/
def findLast {α : Type} (p : α → Bool) : List α → Option α
  | [] => none
  | x :: xs => match findLast p xs with
    | some y => some y
    | none => if p x then some x else none

def lastIdxAux {α : Type} (p : α → Bool) : List α → Nat → Option Nat
  | [], _ => none
  | x :: xs, i => match lastIdxAux p xs (i + 1) with
    | some j => some j
    | none => if p x then some i else none

def lastIdx {α : Type} (p : α → Bool) (l : List α) : Option Nat := lastIdxAux p l 0

def firstIdxAux {α : Type} (p : α → Bool) : List α → Nat → Option Nat
  | [], _ => none
  | x :: xs, i => if p x then some i else firstIdxAux p xs (i + 1)

def firstIdx {α : Type} (p : α → Bool) (l : List α) : Option Nat := firstIdxAux p l 0

/-- keeps the first occurrence of every string (Go: `order = append(order, name)` when first seen). -/
def dedup : List String → List String
  | [] => []
  | x :: xs => x :: (dedup xs).filter (fun y => y != x)

/-! ### extractTypes -/

def isTypeComb (c : Comb) : Bool := !c.builtin && !c.isFunc

def typeCombs (s : Schema) (T : String) : List Comb := (s.filter isTypeComb).filter (fun c => c.tyName == T)

def typeOrder (s : Schema) : List String := dedup ((s.filter isTypeComb).map (·.tyName))

def funcCombs (s : Schema) : List Comb := s.filter (·.isFunc)

def funcOrder (s : Schema) : List String := (funcCombs s).map (·.name)

def findFunc (s : Schema) (n : String) : Option Comb := findLast (fun c => c.name == n) (funcCombs s)

/-- the function map has one entry per name: the last declaration. -/
def lastByName : List Comb → List Comb
  | [] => []
  | c :: cs => if cs.any (fun d => d.name == c.name) then lastByName cs else c :: lastByName cs

/-- every combinator that gets an entry in `combinatorsNatFieldToAffectedBits`, in the order of the writes. -/
def natCombs (s : Schema) : List Comb := (typeOrder s).flatMap (typeCombs s) ++ lastByName (funcCombs s)

/-! ### checkNatUsages -/

/-- `typeRefsToTypeNames`: type names and constructor names to the type name. -/
def resolvePairs (s : Schema) : List (String × String) :=
  (typeOrder s).flatMap (fun T => (T, T) :: (typeCombs s T).map (fun c => (c.name, T)))

def resolve (s : Schema) (n : String) : Option String :=
  (findLast (fun p => p.1 == n) (resolvePairs s)).map (·.2)

abbrev Key := String × Nat

mutual
  /-- positions `(type, argument index)` at which the name `searching` is passed as a type argument inside a
  reference (the common skeleton of `iterateTypeRefArgs` / `searchNat`): arguments equal to the name are
  matched (only if the head resolves to a declared type), other arguments are entered recursively. -/
  def matchesRef (res : String → Option String) (searching : String) : TypeRef → List Key
    | .mk n _ args => matchesArgs res searching (res n) 0 args
  def matchesArgs (res : String → Option String) (searching : String) (tn : Option String) (idx : Nat) : Args → List Key
    | .nil => []
    | .arith _ r => matchesArgs res searching tn (idx + 1) r
    | .ty t r =>
      (if t.name == searching then (match tn with | some T => [(T, idx)] | none => [])
       else matchesRef res searching t) ++ matchesArgs res searching tn (idx + 1) r
end

/-- state of the `fillUsages` DFS. `bits`/`aff` are relations (sets of pairs). -/
structure St where
  visited : List Key
  bits : List (Key × Nat)   -- typeNameToTypeArguments
  aff : List (Key × Key)    -- typeArgumentToAffectedTypeArguments
  oof : Bool                -- recursion budget exhausted (cannot happen: the budget exceeds the number of keys)
  panicked : Bool           -- `TemplateArguments[i]` evaluated with `i` out of range (Go: index panic)

def St.bitsOf (st : St) (k : Key) : List Nat := (st.bits.filter (fun p => p.1 == k)).map (·.2)
def St.affOf (st : St) (k : Key) : List Key := (st.aff.filter (fun p => p.1 == k)).map (·.2)

/-- one field inside `fillUsages(T, i)`: the mask bit, then `iterateTypeRefArgs` over the field type. -/
def fillField (rec : St → String → Nat → St) (res : String → Option String) (key : Key)
    (searching : Option String) (targName : Option String) (st : St) (f : Field) : St :=
  let st := match f.mask, targName with
    | some m, some tn => if m.name == tn then { st with bits := (key, m.bit) :: st.bits } else st
    | some _, none => { st with panicked := true }
    | none, _ => st
  match searching with
  | none => { st with panicked := true }
  | some sname =>
    (matchesRef res sname f.ty).foldl (fun st k =>
      let st := if st.visited.contains k then st else rec st k.1 k.2
      { st with bits := (st.bitsOf k).map (fun b => (key, b)) ++ st.bits,
                aff := (key, k) :: (st.affOf k).map (fun a => (key, a)) ++ st.aff }) st

def fill : Nat → Schema → St → String → Nat → St
  | 0, _, st, _, _ => { st with oof := true }
  | fuel + 1, s, st, T, i =>
    if st.visited.contains (T, i) then st else
    let st := { st with visited := (T, i) :: st.visited }
    let combs := typeCombs s T
    let searching := match combs.head? with
      | some c => (c.targs[i]?).map (·.name)
      | none => none
    combs.foldl (fun st c =>
      c.fields.foldl (fillField (fill fuel s) (resolve s) (T, i) searching ((c.targs[i]?).map (·.name))) st) st

def natRoots (s : Schema) : List Key :=
  (typeOrder s).flatMap (fun T => match (typeCombs s T).head? with
    | none => []
    | some c => (c.targs.zipIdx.filter (fun p => p.1.isNat)).map (fun p => (T, p.2)))

mutual
  def maxArityRef : TypeRef → Nat
    | .mk _ _ args => max args.length (maxArityArgs args)
  def maxArityArgs : Args → Nat
    | .nil => 0
    | .arith _ r => maxArityArgs r
    | .ty t r => max (maxArityRef t) (maxArityArgs r)
end

def maxArity (s : Schema) : Nat :=
  s.foldl (fun m c => c.fields.foldl (fun m f => max m (maxArityRef f.ty)) (max m (max c.targs.length (maxArityRef c.result)))) 0

/-- more than the number of distinct `(type, index)` keys `fillUsages` can be called with. -/
def dfsFuel (s : Schema) : Nat := (s.length + 1) * (maxArity s + 1) + 1

def dfsPass (s : Schema) (st : St) : St := (natRoots s).foldl (fun st k => fill (dfsFuel s) s st k.1 k.2) st

/-- the two passes of `fillUsages` ("repeat to get all values missed in recursion"). -/
def layout (s : Schema) : St :=
  let st1 := dfsPass s { visited := [], bits := [], aff := [], oof := false, panicked := false }
  dfsPass s { st1 with visited := [] }

def natFieldIdxs (c : Comb) : List Nat :=
  (c.fields.zipIdx.filter (fun p => p.1.ty.name == "#")).map (·.2)

/-- the references searched for uses of nat field `i`: types of the later fields, and the result of a function. -/
def laterRefs (c : Comb) (i : Nat) : List TypeRef :=
  (c.fields.drop (i + 1)).map (·.ty) ++ (if c.isFunc then [c.result] else [])

def directBits (c : Comb) (i : Nat) (fname : String) : List Nat :=
  (c.fields.drop (i + 1)).filterMap (fun f => match f.mask with
    | some m => if m.name == fname then some m.bit else none
    | none => none)

def natMatches (s : Schema) (c : Comb) (i : Nat) : List Key :=
  match c.fields[i]? with
  | none => []
  | some fi => if fi.ty.name != "#" then [] else (laterRefs c i).flatMap (matchesRef (resolve s) fi.name)

/-- `combinatorsNatFieldToAffectedBits[c][i]` as written while visiting `c`. -/
def cbOf (s : Schema) (L : St) (c : Comb) (i : Nat) : List Nat :=
  match c.fields[i]? with
  | none => []
  | some fi => if fi.ty.name != "#" then [] else
    directBits c i fi.name ++ (natMatches s c i).flatMap L.bitsOf

/-- `CombinatorsNatFieldIndexToBitsUsed[name][i]` (the last combinator written under that name). -/
def cbByName (s : Schema) (L : St) (name : String) (i : Nat) : List Nat :=
  match findLast (fun c => c.name == name) (natCombs s) with
  | some c => cbOf s L c i
  | none => []

def matchHits (L : St) (k : Key) (ms : List Key) : Bool :=
  ms.any (fun m => m == k || (L.affOf m).contains k)

/-- `TypeNameAndArgToAffectingCombinatorsNatFields[T][a]`. -/
def affectingOf (s : Schema) (L : St) (k : Key) : List (String × Nat) :=
  (natCombs s).flatMap (fun c =>
    ((natFieldIdxs c).filter (fun i => matchHits L k (natMatches s c i))).map (fun i => (c.name, i)))

/-- `TypeNameAndArgIndexToBitsUsedByNat[T][a]`. -/
def visitingOf (s : Schema) (L : St) (k : Key) : List Nat :=
  (natCombs s).flatMap (fun c =>
    ((natFieldIdxs c).filter (fun i => matchHits L k (natMatches s c i))).flatMap (fun i => cbByName s L c.name i))

/-- `getUsedBitsForFieldMask(newCombinator, field with mask m, oldInfo, newInfo)`. -/
def usedBits (os : Schema) (ol : St) (ns : Schema) (nl : St) (c : Comb) (m : Mask) : List Nat :=
  match firstIdx (fun a : TArg => a.name == m.name) c.targs with
  | some ti =>
    let outer := visitingOf os ol (c.tyName, ti)
    if !outer.isEmpty then outer else
    let inner := ol.bitsOf (c.tyName, ti)
    if !inner.isEmpty then inner else
    (affectingOf ns nl (c.tyName, ti)).flatMap (fun p => cbByName os ol p.1 p.2)
  | none =>
    match firstIdx (fun f : Field => f.name == m.name) c.fields with
    | some k => cbByName os ol c.name k
    | none => []

/-! ### checkCombinatorsBackwardCompatibility -/

/-- `fillMapping`: field names to their index, template arguments to `-(i+1)`; later writes win. -/
def mapping (c : Comb) (n : String) : Option Int :=
  match lastIdx (fun a : TArg => a.name == n) c.targs with
  | some i => some (-((i : Int) + 1))
  | none => (lastIdx (fun f : Field => f.name == n) c.fields).map (fun i => (i : Int))

/-- the head test of `compareTypes`: local names (fields / template arguments) must map to the same index,
other names must be equal. -/
def headBad (ni oi : Option Int) (nn on : String) : Bool :=
  match ni, oi with
  | some _, none => true
  | none, some _ => true
  | some a, some b => a != b
  | none, none => nn != on

mutual
  /-- `compareTypes(newType, oldType)`; note that `Bare` is never looked at. -/
  def cmpType (nm om : String → Option Int) : TypeRef → TypeRef → R
    | .mk nn _ na, .mk on _ oa =>
      if headBad (nm nn) (om on) nn on then .rej else cmpArgs nm om na oa
  /-- the loop over `oldType.Args` indexing `newType.Args[i]` (panics when the new list is shorter). -/
  def cmpArgs (nm om : String → Option Int) : Args → Args → R
    | _, .nil => .ok
    | .nil, .arith _ _ => .panic
    | .nil, .ty _ _ => .panic
    | .arith n r, .arith o r' => if n != o then .rej else cmpArgs nm om r r'
    | .arith _ _, .ty _ _ => .rej
    | .ty _ _, .arith _ _ => .rej
    | .ty t r, .ty t' r' => (cmpType nm om t t').andThen (cmpArgs nm om r r')
end

def maskCheck (nm om : String → Option Int) (nf of : Field) : R :=
  match nf.mask, of.mask with
  | none, none => .ok
  | some _, none => .rej
  | none, some _ => .rej
  | some a, some b =>
    if (nm a.name).getD 0 != (om b.name).getD 0 then .rej
    else if a.bit != b.bit then .rej else .ok

def fieldCheck (nm om : String → Option Int) (nf of : Field) : R :=
  (cmpType nm om nf.ty of.ty).andThen (maskCheck nm om nf of)

/-- the loop over the old fields (the new list is at least as long here). -/
def fieldsCheck (nm om : String → Option Int) : List Field → List Field → R
  | _, [] => .ok
  | [], _ :: _ => .panic
  | nf :: ns, of :: os => (fieldCheck nm om nf of).andThen (fieldsCheck nm om ns os)

structure Ctx where
  os : Schema
  ol : St
  ns : Schema
  nl : St

def bitAvailable (x : Ctx) (nc : Comb) (m : Mask) : Bool :=
  !(usedBits x.os x.ol x.ns x.nl nc m).contains m.bit

/-- the final loop over appended fields starting at `firstCombinatorToCheck`. -/
def appendedCheck (x : Ctx) (nc : Comb) (fs : List Field) : R :=
  allR (fun f : Field => match f.mask with
    | none => .rej
    | some m => rejIf (!bitAvailable x nc m)) fs

/-- the `functionCheck` block: returns the verdict of the block and the new `firstCombinatorToCheck`. -/
def funcBlock (x : Ctx) (nc oc : Comb) : R × Nat :=
  let first := oc.fields.length
  let containsFieldMask := oc.fields.any (fun f => f.mask.isSome)
  let containsNats := oc.fields.any (fun f => f.ty.name == "#")
  if nc.fields.length > first && !containsFieldMask then
    if !containsNats then
      match nc.fields[first]? with
      | none => (.ok, first)
      | some fa =>
        if fa.ty.name != "#" then (.rej, first)
        else if nc.fields.length == first + 1 && (cbByName x.ns x.nl nc.name first).isEmpty then (.rej, first + 1)
        else (.ok, first + 1)
    else
      if nc.fields.length > oc.fields.length + 1 then
        match nc.fields[first]? with
        | none => (.ok, first)
        | some fa =>
          if fa.ty.name == "#" && fa.mask.isNone then
            (allR (fun f : Field => match f.mask with
              | none => .rej
              | some m => rejIf (m.name != fa.name)) (nc.fields.drop (first + 1)), first + 1)
          else (.ok, first)
      else (.ok, first)
  else (.ok, first)

def checkComb (x : Ctx) (nc oc : Comb) : R :=
  if nc.fields.length < oc.fields.length then .rej
  else if nc.targs.length < oc.targs.length then .rej
  else
    let nm := mapping nc
    let om := mapping oc
    (fieldsCheck nm om nc.fields oc.fields).andThen <|
    let functionCheck := nc.isFunc && oc.isFunc
    let fb := if functionCheck then funcBlock x nc oc else (.ok, oc.fields.length)
    fb.1.andThen <|
    (appendedCheck x nc (nc.fields.drop fb.2)).andThen <|
    (if functionCheck then cmpType nm om nc.result oc.result else .ok)

/-! ### checkBoxUsage / checkAllTypeRefs -/

mutual
  /-- `checkBoxUsage` (true = error): only the first non-arithmetic argument is followed. -/
  def boxUsage (tyName consName : String) : TypeRef → Bool
    | .mk n b args => (n == tyName && b) || n == consName || boxUsageArgs tyName consName args
  def boxUsageArgs (tyName consName : String) : Args → Bool
    | .nil => false
    | .arith _ r => boxUsageArgs tyName consName r
    | .ty t _ => boxUsage tyName consName t
end

/-- `checkAllTypeRefs(oldTL, checkBoxUsage)`: `FuncDecl` and the field types of every combinator
(the contents of `[ ]` repeats are not visited). -/
def boxCheckAll (s : Schema) (c : Comb) : R :=
  allR (fun d : Comb =>
    (rejIf (boxUsage c.tyName c.name d.result)).andThen
      (allR (fun f : Field => rejIf (boxUsage c.tyName c.name f.ty)) d.fields)) s

/-! ### CheckBackwardCompatibility -/

def typeCheck (x : Ctx) (T : String) : R :=
  let oc := typeCombs x.os T
  let nc := typeCombs x.ns T
  (allR (fun c : Comb => match findLast (fun d => d.name == c.name) nc with
      | none => .rej
      | some c' => checkComb x c' c) oc).andThen <|
  (rejIf (oc.length > nc.length && nc.length != 0)).andThen <|
  (match oc with
   | [c] => if nc.length > 1 then boxCheckAll x.os c else .ok
   | _ => .ok)

def funcCheck (x : Ctx) (n : String) : R :=
  match findFunc x.os n with
  | none => .ok
  | some o => match findFunc x.ns n with
    | none => .rej
    | some f => checkComb x f o

def newFuncCheck (x : Ctx) (n : String) : R :=
  if (findFunc x.os n).isSome then .ok else
  match findFunc x.ns n with
  | none => .ok
  | some f => match f.fields with
    | [] => .ok
    | f0 :: _ => rejIf (f0.ty.name != "#")

def mkCtx (old new : Schema) : Ctx := { os := old, ol := layout old, ns := new, nl := layout new }

/-- `CheckBackwardCompatibility(newTL, oldTL)`. -/
def lintCore (old new : Schema) : R :=
  let x := mkCtx old new
  if x.ol.panicked || x.nl.panicked then .panic else
  (allR (typeCheck x) (typeOrder old)).andThen <|
  (allR (funcCheck x) (funcOrder old)).andThen <|
  allR (newFuncCheck x) (funcOrder new)

def lintAccepts (old new : Schema) : Bool := lintCore old new == .ok

end TLVerif.Lint
