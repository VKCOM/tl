import TLVerif.Lint.Spec
import TLVerif.Prim.TL1String
/-! Semantic side of C28, independent of the linter: a TL1 value encoder for the schema fragment
(`#`, `int`, `long`, `string`, constructors with fields, local and template field masks, bare / boxed references,
type applications with `Type` and `#` arguments, `[ ]` repeats, unions) and the decidable relation
`wireCompat old new`. Core Lean and the string encoding of `Prim.TL1String` only. -/
namespace TLVerif.Lint

abbrev Bytes := List UInt8

def le32 (n : Nat) : Bytes :=
  [UInt8.ofNat n, UInt8.ofNat (n >>> 8), UInt8.ofNat (n >>> 16), UInt8.ofNat (n >>> 24)]

mutual
  /-- untyped values: a `#`, a primitive payload, a constructor with one entry per field (entries of absent
  optional fields are ignored; missing trailing entries mean "absent"), an array. -/
  inductive Val where
    | nat (n : Nat)
    | prim (bs : Bytes)
    | ctor (cons : String) (fields : VList)
    | arr (elems : VList)
    | absent
  inductive VList where
    | nil
    | cons (v : Val) (rest : VList)
end

/-- evaluation environment inside one combinator. -/
structure Env where
  tys : List (String × TypeRef)   -- `Type` template arguments (closed references)
  nats : List (String × Nat)      -- `#` template arguments and local `#` fields read so far
  prevAnon : Option Nat           -- value of the immediately preceding anonymous `#` field (size of a following `[t]`)
  lastNat : Option Nat            -- value of the last template argument if it is a `#` (size of a leading `[t]`)

def Env.empty : Env := { tys := [], nats := [], prevAnon := none, lastNat := none }

mutual
  /-- closes a reference: `Type` variables are replaced by their (closed) bindings, `#` variables passed as
  arguments by their values (as arithmetic constants). -/
  def substRef (e : Env) : TypeRef → TypeRef
    | .mk n b args => match e.tys.lookup n with
      | some t => t
      | none => .mk n b (substArgs e args)
  def substArgs (e : Env) : Args → Args
    | .nil => .nil
    | .arith n r => .arith n (substArgs e r)
    | .ty t r => match e.nats.lookup t.name with
      | some v => .arith v (substArgs e r)
      | none => .ty (substRef e t) (substArgs e r)
end

/-- binds the template arguments of a combinator to the (closed) arguments of a reference. -/
def bindTargs : List TArg → Args → Env → Option Env
  | [], .nil, e => some e
  | a :: as, .arith v r, e =>
    if a.isNat then bindTargs as r { e with nats := (a.name, v) :: e.nats, lastNat := some v } else none
  | a :: as, .ty t r, e =>
    if a.isNat then none else bindTargs as r { e with tys := (a.name, t) :: e.tys, lastNat := none }
  | _, _, _ => none

/-- is the field present? `none` if its mask name is unbound. -/
def present (e : Env) (f : Field) : Option Bool :=
  match f.mask with
  | none => some true
  | some m => (e.nats.lookup m.name).map (fun v => v.testBit m.bit)

def isNatField (f : Field) : Bool := f.ty.name == "#" && f.rep.isNone

/-- environment after a field (`v` = the value read for a present `#` field, 0 for an absent one). -/
def Env.after (e : Env) (f : Field) (v : Option Nat) : Env :=
  if isNatField f then
    let k := v.getD 0
    { e with nats := if f.name == "" then e.nats else (f.name, k) :: e.nats,
             prevAnon := if f.name == "" then v else none }
  else { e with prevAnon := none }

def repCount (e : Env) : Scale → Option Nat
  | .arith n => some n
  | .var x => e.nats.lookup x
  | .implicit => match e.prevAnon with
    | some v => some v
    | none => e.lastNat

def usedAsScale (c : Comb) (i : Nat) (name : String) : Bool :=
  c.fields.any (fun f => match f.rep with
    | some (.var x, _) => x == name
    | _ => false) ||
  (match c.fields[i + 1]? with
   | some f => (match f.rep with | some (.implicit, _) => true | _ => false)
   | none => false)

/-- a local `#` field that is only ever used as a field mask inside its combinator: not a size, never passed
to a type (in field types, repeat elements or the result). -/
def maskOnly (c : Comb) (i : Nat) : Bool :=
  match c.fields[i]? with
  | none => false
  | some f => isNatField f && f.name != "" && !usedAsScale c i f.name &&
    c.fields.all (fun g => !passedAsArg f.name g.ty &&
      (match g.rep with | some (_, el) => !passedAsArg f.name el && el.name != f.name | none => true)) &&
    !passedAsArg f.name c.result

/-- all fields guarded by bits of field `name` (the bits the schema gives meaning to, for a mask-only field). -/
def maskBits (c : Comb) (name : String) : List Nat :=
  c.fields.filterMap (fun f => match f.mask with
    | some m => if m.name == name then some m.bit else none
    | none => none)

def bitsWithin (v : Nat) (allowed : List Nat) : Bool :=
  (List.range 32).all (fun b => !v.testBit b || allowed.contains b)

def findCons (s : Schema) (n : String) : Option Comb := findLast (fun c => c.name == n) (s.filter isTypeComb)

/-- the fields left when a value has no more entries must all be absent (an absent `#` field counts as 0). -/
def restAbsent : Env → List Field → Bool
  | _, [] => true
  | e, f :: fs => present e f == some false && restAbsent (e.after f none) fs

/-- primitives are fixed by name: `some r` = the name is a primitive and `r` is the encoding attempt. -/
def primEnc (n : String) (v : Val) : Option (Option Bytes) :=
  if n == "#" then some (match v with
    | .nat k => if k < 4294967296 then some (le32 k) else none
    | _ => none)
  else if n == "int" then some (match v with
    | .prim bs => if bs.length == 4 then some bs else none
    | _ => none)
  else if n == "long" then some (match v with
    | .prim bs => if bs.length == 8 then some bs else none
    | _ => none)
  else if n == "string" then some (match v with
    | .prim bs => Prim.stringWrite bs
    | _ => none)
  else none

/-- how a head name was resolved: as a constructor name (bare), or as a type name with that many constructors. -/
inductive Pick where
  | byCons
  | byType (count : Nat)

/-- the combinator a value `cn …` of head `n` is encoded with. -/
def pickComb (s : Schema) (n cn : String) : Option (Comb × Pick) :=
  match findCons s n with
  | some c => if c.name == cn then some (c, .byCons) else none
  | none => (findLast (fun c => c.name == cn) (typeCombs s n)).map (fun c => (c, .byType (typeCombs s n).length))

/-- boxed references prepend the constructor tag; a bare reference to a type needs a single constructor. -/
def wrapBody (p : Pick) (b : Bool) (c : Comb) (body : Bytes) : Option Bytes :=
  match p with
  | .byCons => some body
  | .byType k => if b then (if k == 1 then some body else none) else some (le32 c.tag ++ body)

/-- the strictness test for a `#` field (only "old values" are constrained). -/
def strictOk (strict : Bool) (c : Comb) (i : Nat) (f : Field) (k : Nat) : Bool :=
  !(strict && isNatField f && maskOnly c i && !bitsWithin k (maskBits c f.name))

def natOf : Val → Option Nat
  | .nat k => some k
  | _ => none

mutual
  /-- TL1 encoding of a value of a closed reference. `strict`: fail when a mask-only `#` field sets a bit the
  schema gives no meaning to (this is how "old values" are delimited). -/
  def encTy (s : Schema) (strict : Bool) : TypeRef → Val → Option Bytes
    | .mk n b args, v =>
      match primEnc n v with
      | some r => r
      | none =>
        match v with
        | .ctor cn fs =>
          (match pickComb s n cn with
           | none => none
           | some (c, p) =>
             match bindTargs c.targs args Env.empty with
             | none => none
             | some e => (encFields s strict c e 0 c.fields fs).bind (wrapBody p b c))
        | _ => none
  def encFields (s : Schema) (strict : Bool) (c : Comb) (e : Env) (i : Nat) : List Field → VList → Option Bytes
    | [], .nil => some []
    | [], .cons _ _ => none
    | f :: fs, .nil => if restAbsent e (f :: fs) then some [] else none
    | f :: fs, .cons v rest =>
      match present e f with
      | none => none
      | some false => encFields s strict c (e.after f none) (i + 1) fs rest
      | some true =>
        match f.rep with
        | some (sc, el) =>
          (match repCount e sc, v with
           | some cnt, .arr elems =>
             (match encElems s strict (substRef e el) cnt elems with
              | none => none
              | some bs => (encFields s strict c (e.after f none) (i + 1) fs rest).map (fun r => bs ++ r))
           | _, _ => none)
        | none =>
          match encTy s strict (substRef e f.ty) v with
          | none => none
          | some bs =>
            if strictOk strict c i f ((natOf v).getD 0) then
              (encFields s strict c (e.after f (natOf v)) (i + 1) fs rest).map (fun r => bs ++ r)
            else none
  def encElems (s : Schema) (strict : Bool) (t : TypeRef) : Nat → VList → Option Bytes
    | 0, .nil => some []
    | k + 1, .cons v rest =>
      (match encTy s strict t v with
       | none => none
       | some bs => (encElems s strict t k rest).map (fun r => bs ++ r))
    | _, _ => none
end

/-- a function call: tag, then the arguments. -/
def encFunc (s : Schema) (strict : Bool) (f : Comb) (args : VList) : Option Bytes :=
  (encFields s strict f Env.empty 0 f.fields args).map (fun b => le32 f.tag ++ b)

/-! ### wireCompat -/

/-- `new = old ++ extras` (field by field, including `%` flags, masks and repeats). -/
def fieldsPrefix : List Field → List Field → Option (List Field)
  | [], ns => some ns
  | _ :: _, [] => none
  | o :: os, n :: ns => if Field.beq o n then fieldsPrefix os ns else none

/-- an appended field that no old value can make present: guarded by a bit that no old field uses, of a
mask-only local `#` field of the old combinator. -/
def safeExtra (c : Comb) (f : Field) : Bool :=
  match f.mask with
  | none => false
  | some m =>
    (firstIdx (fun a : TArg => a.name == m.name) c.targs).isNone &&
    (match firstIdx (fun g : Field => g.name == m.name) c.fields with
     | none => false
     | some k => maskOnly c k && !(maskBits c m.name).contains m.bit && m.bit < 32 &&
       (lastIdx (fun g : Field => g.name == m.name) c.fields == some k))

def combCompat (c c' : Comb) : Bool :=
  c'.tag == c.tag && c'.targs == c.targs && c'.name == c.name &&
  (match fieldsPrefix c.fields c'.fields with
   | some ex => ex.all (safeExtra c)
   | none => false) &&
  TypeRef.beq c.result c'.result

def allDistinctB (s : Schema) : Bool := decide ((s.map (·.name)).Nodup)

/-- decidable, linter-independent sufficient condition for TL1 wire compatibility of `new` with `old`. -/
def wireCompat (old new : Schema) : Bool :=
  allDistinctB old && allDistinctB new &&
  (old.filter isTypeComb).all (fun c => match findLast (fun d => d.name == c.name) (typeCombs new c.tyName) with
    | some c' => combCompat c c'
    | none => false) &&
  (typeOrder old).all (fun T => (findCons new T).isNone && (findCons old T).isNone &&
    (match typeCombs old T with
     | [c] => (typeCombs new T).length ≤ 1 || !usedBareSomewhere old c
     | _ => true)) &&
  (funcCombs old).all (fun f => match findFunc new f.name with
    | some f' => combCompat f f'
    | none => false)

end TLVerif.Lint
