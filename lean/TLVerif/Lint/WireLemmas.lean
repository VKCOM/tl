import TLVerif.Lint.Wire
import TLVerif.Lint.CoreLemmas
/-! Lemmas for the semantic side of C28: `wireCompat old new` implies that every old value is encoded by the new
schema exactly as by the old one. The simulation (`encTy_sim`, `encFields_sim`, `encElems_sim`) carries two
invariants: the fields appended to a combinator are switched off by the environment once their mask field has been
read (`Inv`, `Off`), and no reference uses, bare, a type that became a union (`Clean`, `envClean`). -/
namespace TLVerif.Lint

mutual
  theorem TypeRef.eq_of_beq : ∀ (a b : TypeRef), TypeRef.beq a b = true → a = b
    | .mk n b a, .mk n' b' a', h => by
      rw [TypeRef.beq, Bool.and_eq_true, Bool.and_eq_true, beq_iff_eq, beq_iff_eq] at h
      rw [h.1.1, h.1.2, Args.eq_of_beq a a' h.2]
  theorem Args.eq_of_beq : ∀ (a b : Args), Args.beq a b = true → a = b
    | .nil, .nil, _ => rfl
    | .arith n r, .arith n' r', h => by
      rw [Args.beq, Bool.and_eq_true, beq_iff_eq] at h
      rw [h.1, Args.eq_of_beq r r' h.2]
    | .ty t r, .ty t' r', h => by
      rw [Args.beq, Bool.and_eq_true] at h
      rw [TypeRef.eq_of_beq t t' h.1, Args.eq_of_beq r r' h.2]
    | .nil, .arith _ _, h | .nil, .ty _ _, h | .arith _ _, .nil, h | .arith _ _, .ty _ _, h | .ty _ _, .nil, h
    | .ty _ _, .arith _ _, h => nomatch h
end

theorem Field.eq_of_beq {a b : Field} (h : Field.beq a b = true) : a = b := by
  obtain ⟨an, am, ar, at_⟩ := a
  obtain ⟨bn, bm, br, bt⟩ := b
  simp only [Field.beq, Bool.and_eq_true, beq_iff_eq] at h
  obtain ⟨⟨⟨rfl, rfl⟩, h3⟩, h4⟩ := h
  have h3' : ar = br := by
    match ar, br, h3 with
    | none, none, _ => rfl
    | some (s, t), some (s', t'), h3 =>
      simp only [Bool.and_eq_true, beq_iff_eq] at h3
      rw [h3.1, TypeRef.eq_of_beq _ _ h3.2]
  rw [h3', TypeRef.eq_of_beq _ _ h4]

theorem fieldsPrefix_spec {os ns ex : List Field} (h : fieldsPrefix os ns = some ex) : ns = os ++ ex := by
  fun_induction fieldsPrefix os ns with
  | case1 ns => cases h; rfl
  | case2 => cases h
  | case3 o os n ns hb ih => rw [Field.eq_of_beq hb, ih h]; rfl
  | case4 => cases h

/-- What `combCompat c c'` gives the proofs (the result type apart): `c'` is `c` with the fields `ex` appended. -/
def Corr (c c' : Comb) (ex : List Field) : Prop :=
  c'.name = c.name ∧ c'.tag = c.tag ∧ c'.targs = c.targs ∧ c'.fields = c.fields ++ ex ∧ ∀ f ∈ ex, safeExtra c f = true

theorem corr_of_combCompat {c : Comb} {o : Option Comb}
    (h : (match o with | some c' => combCompat c c' | none => false) = true) : ∃ c' ex, o = some c' ∧ Corr c c' ex := by
  match o, h with
  | some c', h =>
    simp only [combCompat, Bool.and_eq_true, beq_iff_eq] at h
    obtain ⟨⟨⟨⟨h1, h2⟩, h3⟩, h4⟩, _⟩ := h  -- dropped: the results agree, which the simulation does not need
    split at h4
    next ex hp => exact ⟨c', ex, rfl, h3, h1, h2, fieldsPrefix_spec hp, List.all_eq_true.mp h4⟩
    · cases h4

/-- The first conjunct only serves the induction; `lastIdx_later` reads the second. -/
theorem lastIdxAux_of_getElem? {α : Type} (p : α → Bool) : ∀ (l : List α) (i : Nat),
    (∀ k, lastIdxAux p l i = some k → i ≤ k) ∧
    ∀ j x, l[j]? = some x → p x = true → ∃ k, lastIdxAux p l i = some k ∧ i + j ≤ k
  | [], _ => ⟨fun _ h => (nomatch h), fun _ _ h _ => by cases h⟩
  | y :: ys, i => by
    obtain ⟨hge, hhit⟩ := lastIdxAux_of_getElem? p ys (i + 1)
    refine ⟨fun k h => ?_, fun j x h hp => ?_⟩
    · rw [lastIdxAux] at h
      split at h
      next hr => cases h; exact Nat.le_of_succ_le (hge k hr)
      · split at h <;> cases h
        exact Nat.le_refl i
    · cases j with
      | zero =>
        cases h
        rw [lastIdxAux]
        split
        next k hr => exact ⟨k, rfl, Nat.le_of_succ_le (hge k hr)⟩
        · exact ⟨i, if_pos hp, Nat.le_refl i⟩
      | succ j =>
        obtain ⟨k, hk, hle⟩ := hhit j x h hp
        exact ⟨k, by rw [lastIdxAux, hk], by omega⟩

theorem lastIdx_later {α : Type} {p : α → Bool} {l : List α} {k : Nat} (h : lastIdx p l = some k)
    {j : Nat} {x : α} (hkj : k < j) (hx : l[j]? = some x) : p x = false := by
  refine Bool.eq_false_iff.mpr fun hp => ?_
  obtain ⟨k', hk', hle⟩ := (lastIdxAux_of_getElem? p l 0).2 j x hx hp
  rw [lastIdx, hk'] at h
  cases h
  omega

theorem testBit_false_of_bitsWithin {v : Nat} {allowed : List Nat} {b : Nat} (h : bitsWithin v allowed = true)
    (hb : b < 32) (hn : b ∉ allowed) : v.testBit b = false := by
  simpa [hn] using List.all_eq_true.mp h b (List.mem_range.mpr hb)

theorem drop_cons_inv {α : Type} {l : List α} {i : Nat} {x : α} {xs : List α} (h : l.drop i = x :: xs) :
    l[i]? = some x ∧ l.drop (i + 1) = xs :=
  ⟨by rw [← List.head?_drop, h]; rfl, by rw [← List.tail_drop, h]; rfl⟩

def MaskOff (e : Env) (m : Mask) : Prop := ∃ n, e.nats.lookup m.name = some n ∧ n.testBit m.bit = false

def Off (ex : List Field) (e : Env) : Prop := ∀ f ∈ ex, ∃ m, f.mask = some m ∧ MaskOff e m

/-- `i` fields of `c` are encoded; an appended field whose mask field sits at `k < i` has had its mask read. -/
def Inv (c : Comb) (ex : List Field) (e : Env) (i : Nat) : Prop :=
  ∀ f ∈ ex, ∀ m, f.mask = some m → ∀ k, firstIdx (fun g : Field => g.name == m.name) c.fields = some k → k < i → MaskOff e m

theorem Inv_zero (c : Comb) (ex : List Field) (e : Env) : Inv c ex e 0 :=
  fun _ _ _ _ _ _ hlt => absurd hlt (Nat.not_lt_zero _)

theorem lookup_after (e : Env) (f : Field) (v : Option Nat) (name : String) :
    (e.after f v).nats.lookup name =
      if isNatField f = true ∧ f.name ≠ "" ∧ name = f.name then some (v.getD 0) else e.nats.lookup name := by
  unfold Env.after
  by_cases hn : isNatField f = true
  · by_cases he : f.name = ""
    · simp [hn, he]
    · by_cases hq : name = f.name <;> simp [hn, he, hq, List.lookup_cons, beq_eq_false_iff_ne.mpr]
  · simp [hn]

theorem safeExtra_spec {c : Comb} {f : Field} (h : safeExtra c f = true) :
    ∃ m k, f.mask = some m ∧ firstIdx (fun g : Field => g.name == m.name) c.fields = some k ∧ maskOnly c k = true ∧
      m.bit ∉ maskBits c m.name ∧ m.bit < 32 ∧ lastIdx (fun g : Field => g.name == m.name) c.fields = some k := by
  unfold safeExtra at h
  split at h
  · cases h
  next m hm =>
    rw [Bool.and_eq_true] at h
    split at h
    · cases h.2
    next k hk =>
      simp only [Bool.and_eq_true, Bool.not_eq_true', decide_eq_true_eq, beq_iff_eq] at h
      exact ⟨m, k, hm, hk, h.2.1.1.1, by simpa using h.2.1.1.2, h.2.1.2, h.2.2⟩

theorem maskOnly_spec {c : Comb} {k : Nat} {f : Field} (hk : c.fields[k]? = some f) (h : maskOnly c k = true) :
    isNatField f = true ∧ f.name ≠ "" := by
  unfold maskOnly at h
  simp only [hk, Bool.and_eq_true, bne_iff_ne, ne_eq] at h
  exact ⟨h.1.1.1.1, h.1.1.1.2⟩

theorem Inv_step {c : Comb} {ex : List Field} (hex : ∀ f ∈ ex, safeExtra c f = true) {e : Env} {i : Nat} {f : Field}
    (hf : c.fields[i]? = some f) (hinv : Inv c ex e i) (val : Option Nat)
    (hside : isNatField f = true → maskOnly c i = true → bitsWithin (val.getD 0) (maskBits c f.name) = true) :
    Inv c ex (e.after f val) (i + 1) := by
  intro g hg m hm k hk hlt
  obtain ⟨m', k', hm', hk', hmo, hbit, hb32, hlast⟩ := safeExtra_spec (hex g hg)
  rw [hm] at hm'; cases hm'
  rw [hk] at hk'; cases hk'
  rw [MaskOff, lookup_after]
  by_cases hki : k = i
  · subst hki
    obtain ⟨x, hx, hpx⟩ := firstIdx_spec hk
    rw [hf] at hx; cases hx
    have hname : f.name = m.name := by simpa using hpx
    obtain ⟨hnat, hne⟩ := maskOnly_spec hf hmo
    rw [if_pos ⟨hnat, hne, hname.symm⟩]
    -- `bitsWithin` looks at bits 0..31 only, hence `safeExtra`'s `m.bit < 32`
    exact ⟨_, rfl, testBit_false_of_bitsWithin (hside hnat hmo) hb32 (hname ▸ hbit)⟩
  · have hlt' : k < i := by omega
    -- a later field named like the mask field would shadow its value in `e.nats`; `safeExtra`'s `lastIdx` excludes it
    rw [if_neg fun h => by simpa [h.2.2] using lastIdx_later hlast hlt' hf]
    exact hinv g hg m hm k hk hlt'

theorem Inv_skip {c : Comb} {ex : List Field} (hex : ∀ f ∈ ex, safeExtra c f = true) {e : Env} {i : Nat} {f : Field}
    (hf : c.fields[i]? = some f) (hinv : Inv c ex e i) : Inv c ex (e.after f none) (i + 1) :=
  Inv_step hex hf hinv none fun _ _ => by simp [bitsWithin]

theorem Off_of_Inv {c : Comb} {ex : List Field} (hex : ∀ f ∈ ex, safeExtra c f = true) {e : Env} {i : Nat}
    (hi : c.fields.length ≤ i) (hinv : Inv c ex e i) : Off ex e := by
  intro g hg
  obtain ⟨m, k, hm, hk, _⟩ := safeExtra_spec (hex g hg)
  obtain ⟨x, hx, _⟩ := firstIdx_spec hk
  exact ⟨m, hm, hinv g hg m hm k hk (Nat.lt_of_lt_of_le (List.getElem?_eq_some_iff.mp hx).1 hi)⟩

theorem Off_after {ex : List Field} {e : Env} (g : Field) (h : Off ex e) : Off ex (e.after g none) := by
  intro f hf
  obtain ⟨m, hm, hoff⟩ := h f hf
  refine ⟨m, hm, ?_⟩
  rw [MaskOff, lookup_after]
  split
  · exact ⟨0, rfl, Nat.zero_testBit _⟩
  · exact hoff

theorem restAbsent_of_Off (ex : List Field) (e : Env) (hoff : Off ex e) : restAbsent e ex = true := by
  fun_induction restAbsent e ex with
  | case1 => rfl
  | case2 e g gs ih =>
    obtain ⟨m, hm, n, h1, h2⟩ := hoff g List.mem_cons_self
    simp only [Bool.and_eq_true, beq_iff_eq]
    exact ⟨by simp [present, hm, h1, h2], ih (Off_after g fun f hf => hoff f (List.mem_cons_of_mem _ hf))⟩

theorem restAbsent_append {c : Comb} {ex : List Field} (hex : ∀ f ∈ ex, safeExtra c f = true)
    (fs : List Field) (e : Env) (i : Nat) (hd : c.fields.drop i = fs) (hinv : Inv c ex e i) (h : restAbsent e fs = true) :
    restAbsent e (fs ++ ex) = true := by
  fun_induction restAbsent e fs generalizing i with
  | case1 e => exact restAbsent_of_Off ex e (Off_of_Inv hex (List.drop_eq_nil_iff.mp hd) hinv)
  | case2 e f fs ih =>
    simp only [restAbsent, Bool.and_eq_true, beq_iff_eq, List.cons_append] at h ⊢
    obtain ⟨hf, hrest⟩ := drop_cons_inv hd
    exact ⟨h.1, ih (i + 1) hrest (Inv_skip hex hf hinv) h.2⟩

def envClean (T cn : String) (e : Env) : Prop := ∀ p ∈ e.tys, bareUse T cn p.2 = false

mutual
  theorem bareUse_substRef (T cn : String) (e : Env) (he : envClean T cn e) : ∀ t : TypeRef,
      bareUse T cn t = false → bareUse T cn (substRef e t) = false
    | .mk n b args, h => by
      rw [substRef]
      split
      next t' hl =>
        obtain ⟨l₁, l₂, hl, _⟩ := List.lookup_eq_some_iff.mp hl
        exact he (n, t') (by simp [hl])
      · rw [bareUse, Bool.or_eq_false_iff] at h ⊢
        exact ⟨h.1, bareUseArgs_substArgs T cn e he args h.2⟩
  theorem bareUseArgs_substArgs (T cn : String) (e : Env) (he : envClean T cn e) : ∀ a : Args,
      bareUseArgs T cn a = false → bareUseArgs T cn (substArgs e a) = false
    | .nil, _ => rfl
    | .arith n r, h => bareUseArgs_substArgs T cn e he r h
    | .ty t r, h => by
      rw [bareUseArgs, Bool.or_eq_false_iff] at h
      rw [substArgs]
      split
      · exact bareUseArgs_substArgs T cn e he r h.2
      · rw [bareUseArgs, bareUse_substRef T cn e he t h.1, bareUseArgs_substArgs T cn e he r h.2]
        rfl
end

theorem envClean_bindTargs (T cn : String) (targs : List TArg) (args : Args) (e e' : Env)
    (h : bindTargs targs args e = some e') (hc : bareUseArgs T cn args = false) (he : envClean T cn e) :
    envClean T cn e' := by
  fun_induction bindTargs targs args e with
  | case1 e => cases h; exact he
  | case2 a as v r e hn ih => exact ih h hc he
  | case5 a as t r e hn ih =>
    rw [bareUseArgs, Bool.or_eq_false_iff] at hc
    exact ih h hc.2 fun p hp => (List.mem_cons.mp hp).elim (· ▸ hc.1) (he p)
  | case3 | case4 | case6 => cases h

theorem envClean_after (T cn : String) (e : Env) (f : Field) (v : Option Nat) (h : envClean T cn e) :
    envClean T cn (e.after f v) := by
  unfold Env.after
  split <;> exact h

theorem envClean_empty (T cn : String) : envClean T cn Env.empty := by
  intro p hp; simp [Env.empty] at hp

structure WC (old new : Schema) : Prop where
  dnew : allDistinct new
  cons : ∀ c ∈ old.filter isTypeComb, ∃ c' ex, findLast (fun d => d.name == c.name) (typeCombs new c.tyName) = some c' ∧ Corr c c' ex
  noShadow : ∀ T ∈ typeOrder old, findCons new T = none
  single : ∀ T c, typeCombs old T = [c] → (typeCombs new T).length ≤ 1 ∨ usedBareSomewhere old c = false
  funcs : ∀ f ∈ funcCombs old, ∃ f' ex, findFunc new f.name = some f' ∧ Corr f f' ex

theorem wc_of_wireCompat {old new : Schema} (h : wireCompat old new = true) : WC old new := by
  unfold wireCompat at h
  simp only [Bool.and_eq_true, List.all_eq_true] at h
  obtain ⟨⟨⟨⟨_, hdn⟩, hc⟩, ht⟩, hf⟩ := h  -- dropped: `allDistinctB old`, which the simulation does not need
  refine ⟨by simpa [allDistinctB, allDistinct] using hdn, fun c hcm => corr_of_combCompat (hc c hcm),
    fun T hT => by simpa using (ht T hT).1.1, fun T c heq => ?_, fun f hfm => corr_of_combCompat (hf f hfm)⟩
  simpa [heq] using (ht T (mem_typeOrder_of_mem_typeCombs (c := c) (by simp [heq]))).2

theorem pickComb_sim {old new : Schema} (hw : WC old new) {n cn : String} {c : Comb} {p : Pick}
    (h : pickComb old n cn = some (c, p)) :
    ∃ c' ex p', pickComb new n cn = some (c', p') ∧ Corr c c' ex ∧ c ∈ old ∧
      ∀ b body r, (b = true → ∀ x, typeCombs old n = [x] → (typeCombs new n).length ≤ 1) →
        wrapBody p b c body = some r → wrapBody p' b c' body = some r := by
  unfold pickComb at h
  split at h
  next c0 hfc =>
    split at h <;> cases h
    next hn =>
      obtain ⟨hmem, hnm⟩ := findLast_some hfc
      obtain ⟨c', ex, hl, hcorr⟩ := hw.cons c hmem
      obtain ⟨hc1, hc2, _⟩ := mem_typeCombs.mp (findLast_some hl).1
      have hfn := findLast_of_nodup (key := fun d : Comb => d.name) hw.dnew.cons (List.mem_filter.mpr ⟨hc1, hc2⟩)
      rw [hcorr.1, beq_iff_eq.mp hnm] at hfn
      exact ⟨c', ex, .byCons, by simp only [pickComb, findCons, hfn, hcorr.1, hn, if_true], hcorr,
        (List.mem_filter.mp hmem).1, fun b body r _ hr => hr⟩
  next hfc =>
    obtain ⟨_, hl, heq⟩ := Option.map_eq_some_iff.mp h
    cases heq
    obtain ⟨hmem, hcn⟩ := findLast_some hl
    obtain ⟨hm1, hm2, hm3⟩ := mem_typeCombs.mp hmem
    obtain ⟨c', ex, hl', hcorr⟩ := hw.cons c (List.mem_filter.mpr ⟨hm1, hm2⟩)
    rw [hm3, beq_iff_eq.mp hcn] at hl'
    refine ⟨c', ex, .byType (typeCombs new n).length, ?_, hcorr, hm1, fun b body r hsingle hr => ?_⟩
    · simp only [pickComb, hw.noShadow n (mem_typeOrder_of_mem_typeCombs hmem), hl', Option.map_some]
    · unfold wrapBody at hr ⊢
      cases b with
      | false => simpa [show c'.tag = c.tag from hcorr.2.1] using hr
      | true =>
        simp only [if_true] at hr ⊢
        split at hr
        next h1 =>
          obtain ⟨x, hx⟩ := List.length_eq_one_iff.mp (beq_iff_eq.mp h1)
          have hle := hsingle rfl x hx
          have hpos := List.length_pos_of_mem (findLast_some hl').1
          rw [if_pos (by simp; omega)]
          exact hr
        · cases hr

theorem strictOk_false (c : Comb) (i : Nat) (f : Field) (k : Nat) : strictOk false c i f k = true := by
  simp [strictOk]

theorem side_of_strictOk {c : Comb} {i : Nat} {f : Field} {k : Nat} (h : strictOk true c i f k = true) :
    isNatField f = true → maskOnly c i = true → bitsWithin k (maskBits c f.name) = true := by
  intro h1 h2
  simpa [strictOk, h1, h2] using h

/-- `T` had the one constructor `cn` and became a union, so a bare `T` no longer means `cn`. -/
def Bad (old new : Schema) (T cn : String) : Prop :=
  ∃ c, typeCombs old T = [c] ∧ c.name = cn ∧ (typeCombs new T).length > 1

def Clean (old new : Schema) (t : TypeRef) : Prop := ∀ T cn, Bad old new T cn → bareUse T cn t = false

def EnvCleanAll (old new : Schema) (e : Env) : Prop := ∀ T cn, Bad old new T cn → envClean T cn e

theorem fields_clean {old new : Schema} (hw : WC old new) {d : Comb} (hd : d ∈ old) {T cn : String} (hb : Bad old new T cn) :
    bareUse T cn d.result = false ∧ ∀ f ∈ d.fields, bareUse T cn f.ty = false ∧
      (∀ sc el, f.rep = some (sc, el) → bareUse T cn el = false) := by
  obtain ⟨c, hone, rfl, hlen⟩ := hb
  obtain rfl : c.tyName = T := (mem_typeCombs.mp (show c ∈ typeCombs old T by simp [hone])).2.2
  exact usedBareSomewhere_eq_false.mp ((hw.single _ c hone).resolve_left (Nat.not_le_of_gt hlen)) d hd

theorem encFields_nil (s : Schema) (strict : Bool) (c : Comb) (e : Env) (i : Nat) (fs : List Field) :
    encFields s strict c e i fs .nil = if restAbsent e fs then some [] else none := by
  cases fs <;> simp [encFields, restAbsent]

mutual
  theorem encTy_sim {old new : Schema} (hw : WC old new) : ∀ (v : Val) (t : TypeRef) (bs : Bytes), Clean old new t →
      encTy old true t v = some bs → encTy new false t v = some bs
    | v, .mk n b args, bs, hcl, h => by
      unfold encTy at h ⊢
      split at h
      · exact h
      · -- values are taken apart by `match`, not `split`: the recursion has to stay structural in `v`
        match v, h with
        | .ctor cn fs, h =>
          simp only at h ⊢
          split at h
          · cases h
          next c p hpk =>
            obtain ⟨c', ex, p', hpk', hcorr, hcold, hwrap⟩ := pickComb_sim hw hpk
            have ⟨_, _, htargs, hfields, _⟩ := hcorr
            simp only [hpk', htargs]
            split at h
            · cases h
            next e hbt =>
              obtain ⟨body, hfo, h⟩ := Option.bind_eq_some_iff.mp h
              have henv : EnvCleanAll old new e := fun T cn' hb =>
                envClean_bindTargs T cn' c.targs args Env.empty e hbt
                  (Bool.or_eq_false_iff.mp (hcl T cn' hb)).2 (envClean_empty T cn')
              rw [hfields, encFields_sim hw fs c c' ex hcorr hcold e 0 c.fields body (by simp) (Inv_zero c ex e) henv hfo,
                Option.bind_some]
              refine hwrap b body bs (fun hb x hx => Nat.le_of_not_lt fun hgt => ?_) h
              simpa [bareUse, hb] using hcl n x.name ⟨x, hx, rfl, hgt⟩
        | .nat _, h | .prim _, h | .arr _, h | .absent, h => simp at h
  theorem encFields_sim {old new : Schema} (hw : WC old new) : ∀ (vs : VList) (c c' : Comb) (ex : List Field), Corr c c' ex →
      c ∈ old → ∀ (e : Env) (i : Nat) (fs : List Field) (bs : Bytes), c.fields.drop i = fs → Inv c ex e i →
      EnvCleanAll old new e →
      encFields old true c e i fs vs = some bs → encFields new false c' e i (fs ++ ex) vs = some bs
    | .nil, c, c', ex, hcorr, hcold, e, i, fs, bs, hd, hinv, henv, h => by
      have ⟨_, _, _, _, hsafe⟩ := hcorr
      rw [encFields_nil] at h ⊢
      split at h
      next hr => rw [if_pos (restAbsent_append hsafe fs e i hd hinv hr)]; exact h
      · cases h
    | .cons v rest, c, c', ex, hcorr, hcold, e, i, [], bs, hd, hinv, henv, h => by
      simp [encFields] at h
    | .cons v rest, c, c', ex, hcorr, hcold, e, i, f :: fs, bs, hd, hinv, henv, h => by
      have ⟨_, _, _, _, hsafe⟩ := hcorr
      obtain ⟨hf, hrest⟩ := drop_cons_inv hd
      have hfmem : f ∈ c.fields := List.mem_of_getElem? hf
      have hinvNone := Inv_skip hsafe hf hinv
      have henv' : ∀ val, EnvCleanAll old new (e.after f val) :=
        fun val T cn hb => envClean_after T cn e f val (henv T cn hb)
      have hclean : ∀ t, Clean old new t → Clean old new (substRef e t) :=
        fun t ht T cn hb => bareUse_substRef T cn e (henv T cn hb) t (ht T cn hb)
      rw [encFields] at h
      rw [List.cons_append, encFields]
      split at h
      · cases h
      · exact encFields_sim hw rest c c' ex hcorr hcold _ (i + 1) fs bs hrest hinvNone (henv' none) h
      · split at h
        next sc el hrep =>
          cases hcnt : repCount e sc with
          | none => simp [hcnt] at h
          | some cnt =>
            match v, h with
            | .arr elems, h =>
              simp only [hcnt] at h ⊢
              split at h
              · cases h
              next b1 hel =>
                obtain ⟨r, hr, rfl⟩ := Option.map_eq_some_iff.mp h
                rw [encElems_sim hw elems (substRef e el) cnt b1
                    (hclean el fun T cn hb => ((fields_clean hw hcold hb).2 f hfmem).2 sc el hrep) hel,
                  encFields_sim hw rest c c' ex hcorr hcold _ (i + 1) fs r hrest hinvNone (henv' none) hr]
                rfl
            | .nat _, h | .prim _, h | .ctor _ _, h | .absent, h => simp [hcnt] at h
        next hrep =>
          split at h
          · cases h
          next b1 hty =>
            rw [encTy_sim hw v (substRef e f.ty) b1
              (hclean f.ty fun T cn hb => ((fields_clean hw hcold hb).2 f hfmem).1) hty]
            simp only [strictOk_false, if_true]
            split at h
            next hs =>
              obtain ⟨r, hr, rfl⟩ := Option.map_eq_some_iff.mp h
              rw [encFields_sim hw rest c c' ex hcorr hcold _ (i + 1) fs r hrest
                (Inv_step hsafe hf hinv (natOf v) (side_of_strictOk hs)) (henv' (natOf v)) hr]
              rfl
            · cases h
  theorem encElems_sim {old new : Schema} (hw : WC old new) : ∀ (vs : VList) (t : TypeRef) (cnt : Nat) (bs : Bytes),
      Clean old new t → encElems old true t cnt vs = some bs → encElems new false t cnt vs = some bs
    | .nil, t, 0, bs, _, h => by simpa [encElems] using h
    | .nil, t, _ + 1, bs, _, h | .cons _ _, t, 0, bs, _, h => by simp [encElems] at h
    | .cons v rest, t, k + 1, bs, hcl, h => by
      simp only [encElems] at h ⊢
      split at h
      · cases h
      next b1 hty =>
        obtain ⟨r, hr, rfl⟩ := Option.map_eq_some_iff.mp h
        rw [encTy_sim hw v t b1 hcl hty, encElems_sim hw rest t k r hcl hr]
        rfl
end

end TLVerif.Lint
