import TLVerif.Prim.TL2Size
import TLVerif.Codec.TL1
/-!
TL2 writers and readers of the generated Go code, driven by the descriptor
(`internal/puregen/gengo/qt_struct.qtpl generateTL2Code`, `qt_union.qtpl`, `qt_brackets.qtpl`, `qt_dict.qtpl`,
`qt_maybe.qtpl`, `type_rw_*_tl2.go`, `pkg/basictl/basictl2.go`).

* `writeTL2` is ONE direct recursive encoder of what the two Go passes (`CalculateLayout` + `InternalWriteTL2`) emit.
* `layoutTL2` models the size computation of `CalculateLayout` with the counters (`currentSize`, `lastUsedByte`) the Go
  code uses; `writeTL2Checked` is the writer with the Go panic "mismatch between calculate and write" as an explicit
  outcome.  `layout_agrees_enc` (`TL2Lemmas`; `Props.C03.layout_agrees_write`) shows the two agree, i.e. the panic is unreachable.
* `readTL2` models `InternalReadTL2` (body slicing by the declared size, missing trailing fields = reset,
  trailing unknown bytes skipped, skip of omitted fields).

TL2 code takes no nat parameters: sizes are on the wire.  Recursion through type references is bounded by `fuel`;
loops over fields/elements are structural and take the recursive function as a parameter.
A TL2 encoder call answers `none` when the value is "empty" and the caller asked for the empty optimisation
(`zeroIfEmpty` / `optimizeEmpty` in the Go code): the caller then leaves the presence bit clear.
-/
namespace TLVerif.Codec
open TLVerif.Prim

/-! ### zero values (Go `Reset`) -/

def zeroPrim : PrimK → Val
  | .str => .str []
  | .bool _ _ => .bool false
  | .bit => .bool false
  | _ => .nat 0

/-- a field that has a presence bit of its own (TL2 `?`/`bit`, or a TL1 field mask mirrored into `tl2mask`) -/
def fieldOptional (f : Field) : Bool := f.tl2bit.isSome || f.mask.isSome

def zeroFieldsWith (z : Nat → Val) : List Field → List (Option Val)
  | [] => []
  | f :: fs => (if fieldOptional f || f.omitted then none else some (z f.ty)) :: zeroFieldsWith z fs

def zeroVal (d : Desc) : Nat → Nat → Val
  | 0, _ => .struct []
  | fuel + 1, ty =>
    match d.get? ty with
    | none => .struct []
    | some (.prim k) => zeroPrim k
    | some (.struct s) => .struct (zeroFieldsWith (zeroVal d fuel) s.fields)
    | some (.union u) =>
      match u.variants with
      | (vi, _) :: _ => .union 0 (zeroVal d fuel vi)
      | [] => .union 0 (.struct [])
    | some (.array a) =>
      if a.isTuple && !a.dynamic then .arr (List.replicate a.count (zeroVal d fuel a.elem.ty)) else .arr []
    | some (.dict _) => .arr []

/-! ### writer -/

/-- The emptiness tests of `type_rw_primitive_tl2.go` (`TypeRWPrimitive.nonZeroCondition`), `type_rw_bool_tl2.go`:
`x != 0` for integers, `len(x) != 0` for strings, `x` for booleans, and for floats `(x != 0 || 1/x < 0)`, i.e. a float is
empty iff its **bit pattern** is zero: `-0.0` (`0x80000000` / `0x8000000000000000`) is not empty and is written out
(`x != 0` alone is false for `-0.0`; `1/x < 0` is true exactly for `-0.0` among the values with `x == 0`; NaN has `x != 0`). -/
def primEmpty : PrimK → Val → Bool
  | .str, .str s => s.isEmpty
  | .bool _ _, .bool b => !b
  | .bit, .bool b => !b
  | _, .nat n => n == 0
  | _, _ => true

def primTL2 : PrimK → Val → Except CErr Bytes
  | .u32, .nat n | .i32, .nat n | .f32, .nat n => .ok (u32le n)
  | .u64, .nat n | .i64, .nat n | .f64, .nat n => .ok (u64le n)
  | .byte, .nat n => .ok [byteOf n]
  | .str, .str s => .ok (stringWriteTL2 s)
  | .bool _ _, .bool b => .ok [if b then 1 else 0]
  | .bit, .bool _ => .ok []
  | _, _ => .error .shape

/-- type index, zeroIfEmpty, value ↦ `none` = nothing written and the presence bit stays clear -/
abbrev Enc := Nat → Bool → Val → Except CErr (Option Bytes)

def encPrim (k : PrimK) (zie : Bool) (v : Val) : Except CErr (Option Bytes) :=
  match primTL2 k v with
  | .error e => .error e
  | .ok b => .ok (if zie && primEmpty k v then none else some b)

/-- one field of a struct body: `some bytes` = presence bit set -/
def encField (enc : Enc) (f : Field) (v : Option Val) : Except CErr (Option Bytes) :=
  if f.omitted then .ok none
  else if f.tl2bit.isSome then
    match v with
    | none => .ok none
    | some x => if f.isBit then .ok (some []) else enc f.ty false x
  else
    match v with
    | some x => enc f.ty true x
    | none => .error .shape

/-- per-field results of a struct body -/
def encFieldsWith (enc : Enc) : List Field → List (Option Val) → Except CErr (List (Option Bytes))
  | [], [] => .ok []
  | f :: fs, v :: vs =>
    match encField enc f v with
    | .error e => .error e
    | .ok b =>
      match encFieldsWith enc fs vs with
      | .error e => .error e
      | .ok bs => .ok (b :: bs)
  | _, _ => .error .shape

/-- presence bit of field `i` inside its mask byte -/
def fieldBit (i : Nat) (present : Bool) : Nat := if present then 2 ^ ((i + 1) % 8) else 0

def optBytes : Option Bytes → Bytes
  | some b => b
  | none => []

/-- Bytes of the fields from index `i` on, given as (mask bits contributed to the block that is open when field `i`
starts, bytes that follow that block's mask byte).  A new mask byte precedes field `i` when `(i+1) % 8 = 0`; it is
emitted only if something is used at or after it ("body truncated to the last used byte"). -/
def bodyLoop : Nat → List (Option Bytes) → Nat × Bytes
  | _, [] => (0, [])
  | i, r :: rs =>
    let (m, tail) := bodyLoop (i + 1) rs
    let m' := fieldBit i r.isSome + m
    let t' := optBytes r ++ tail
    if (i + 1) % 8 == 0 then (0, if m' == 0 && t'.isEmpty then [] else byteOf m' :: t')
    else (m', t')

/-- body of an object: first mask byte (bit 0 = variant index follows), variant index, fields -/
def bodyTL2 (ui : Nat) (rs : List (Option Bytes)) : Bytes :=
  let (m, tail) := bodyLoop 0 rs
  if ui == 0 then
    (if m == 0 && tail.isEmpty then [] else byteOf m :: tail)
  else byteOf (1 + m) :: (tl2WriteSize ui ++ tail)

/-- object = varlen body size ++ body; empty body = nothing (optimizeEmpty) or the single byte `00` -/
def objTL2 (zie : Bool) (body : Bytes) : Option Bytes :=
  if body.isEmpty then (if zie then none else some [0])
  else some (tl2WriteSize body.length ++ body)

def encElemsWith (enc : Enc) (ty : Nat) : List Val → Except CErr Bytes
  | [] => .ok []
  | v :: vs =>
    match enc ty false v with
    | .error e => .error e
    | .ok b =>
      match encElemsWith enc ty vs with
      | .error e => .error e
      | .ok bs => .ok (optBytes b ++ bs)

def boolsOf : List Val → Option (List Bool)
  | [] => some []
  | .bool b :: vs => (boolsOf vs).map (b :: ·)
  | _ :: _ => none

def isBitTy (d : Desc) (ty : Nat) : Bool :=
  match d.get? ty with
  | some (.prim .bit) => true
  | _ => false

def structUI (s : StructD) : Nat := if s.isUnionElement then s.unionIndex else 0

def encTL2 (d : Desc) : Nat → Enc
  | 0 => fun _ _ _ => .error .fuel
  | fuel + 1 => fun ty zie v =>
    match d.get? ty with
    | none => .error .desc
    | some (.prim k) => encPrim k zie v
    | some (.struct s) =>
      if (s.isAlias || s.isUnwrap) && !s.isUnionElement then
        -- alias / unwrap: no object wrapping, the call is forwarded to field 0
        match s.fields, v with
        | [f], .struct [some x] => encTL2 d fuel f.ty zie x
        | _, _ => .error .shape
      else
        match v with
        | .struct fs =>
          match encFieldsWith (encTL2 d fuel) s.fields fs with
          | .error e => .error e
          | .ok rs => .ok (objTL2 zie (bodyTL2 (structUI s) rs))
        | _ => .error .shape
    | some (.union u) =>
      match v with
      | .union i x =>
        match u.variants[i]? with
        | some (vi, _) =>
          if u.isMaybe && i != 0 then
            -- qt_maybe.qtpl: the value is written by the element's own call with zeroIfEmpty (not by the variant struct)
            match d.get? vi, x with
            | some (.struct vs), .struct [some y] =>
              match vs.fields with
              | [f] =>
                match encTL2 d fuel f.ty true y with
                | .error e => .error e
                | .ok r => .ok (objTL2 zie (bodyTL2 i [r]))
              | _ => .error .desc
            | _, _ => .error .shape
          else encTL2 d fuel vi zie x
        | none => .error .shape
      | _ => .error .shape
    | some (.array a) =>
      match v with
      | .arr es =>
        if a.isTuple && !a.dynamic && es.length ≠ a.count then .error .shape
        else if es.isEmpty then .ok (if zie then none else some [0])
        else
          let content : Except CErr Bytes :=
            if isBitTy d a.elem.ty then
              match boolsOf es with
              | some bs => .ok (bitsWrite bs)
              | none => .error .shape
            else encElemsWith (encTL2 d fuel) a.elem.ty es
          match content with
          | .error e => .error e
          | .ok c =>
            let body := tl2WriteSize es.length ++ c
            .ok (some (tl2WriteSize body.length ++ body))
      | _ => .error .shape
    | some (.dict a) =>
      match v with
      | .arr es =>
        if es.isEmpty then .ok (if zie then none else some [0])
        else
          match encElemsWith (encTL2 d fuel) a.elem.ty es with
          | .error e => .error e
          | .ok c =>
            let body := tl2WriteSize es.length ++ c
            .ok (some (tl2WriteSize body.length ++ body))
      | _ => .error .shape

/-- generated `WriteTL2` (`optimizeEmpty = false` at top level) -/
def writeTL2 (d : Desc) (fuel ty : Nat) (optimizeEmpty : Bool) (v : Val) : Except CErr Bytes :=
  match encTL2 d fuel ty optimizeEmpty v with
  | .error e => .error e
  | .ok b => .ok (optBytes b)

/-! ### a float `-0.0` in a position where the writer tests emptiness
No theorem has it as a guard: the generator tests floats with `(x != 0 || 1/x < 0)`, so such a value is written (under the
old test `x != 0` it was lost).  `codec.g4` evaluates it so that a check run against a tree with the old test can say what it hit. -/

def negZero : PrimK → Val → Bool
  | .f32, .nat n => n % 2147483648 == 0 && n != 0
  | .f64, .nat n => n % 9223372036854775808 == 0 && n != 0
  | _, _ => false

def allFieldsWith (p : Nat → Bool → Val → Bool) : List Field → List (Option Val) → Bool
  | f :: fs, v :: vs =>
    (if f.omitted then true
     else if f.tl2bit.isSome then
       (match v with
        | none => true
        | some x => f.isBit || p f.ty false x)
     else
       (match v with
        | some x => p f.ty true x
        | none => true)) && allFieldsWith p fs vs
  | _, _ => true

/-- no float `-0.0` sits where the TL2 writer would treat it as empty (non-optional field, Maybe value, through aliases) -/
def noNegZero (d : Desc) : Nat → Nat → Bool → Val → Bool
  | 0, _, _, _ => true
  | fuel + 1, ty, zie, v =>
    match d.get? ty with
    | none => true
    | some (.prim k) => !(zie && negZero k v)
    | some (.struct s) =>
      if (s.isAlias || s.isUnwrap) && !s.isUnionElement then
        match s.fields, v with
        | [f], .struct [some x] => noNegZero d fuel f.ty zie x
        | _, _ => true
      else
        match v with
        | .struct fs => allFieldsWith (noNegZero d fuel) s.fields fs
        | _ => true
    | some (.union u) =>
      match v with
      | .union i x =>
        match u.variants[i]? with
        | some (vi, _) =>
          if u.isMaybe && i != 0 then
            match d.get? vi, x with
            | some (.struct vs), .struct [some y] =>
              (match vs.fields with
               | [f] => noNegZero d fuel f.ty true y
               | _ => true)
            | _, _ => true
          else noNegZero d fuel vi zie x
        | none => true
      | _ => true
    | some (.array a) =>
      match v with
      | .arr es => es.all (noNegZero d fuel a.elem.ty false)
      | _ => true
    | some (.dict a) =>
      match v with
      | .arr es => es.all (noNegZero d fuel a.elem.ty false)
      | _ => true

/-! ### layout pass (`CalculateLayout`), modelled with the Go counters -/

abbrev Lay := Nat → Bool → Val → Except CErr (Option Nat)

def primSize : PrimK → Val → Except CErr Nat
  | .u32, .nat _ | .i32, .nat _ | .f32, .nat _ => .ok 4
  | .u64, .nat _ | .i64, .nat _ | .f64, .nat _ => .ok 8
  | .byte, .nat _ => .ok 1
  | .str, .str s => .ok (tl2CalculateSize s.length + s.length)
  | .bool _ _, .bool _ => .ok 1
  | .bit, .bool _ => .ok 0
  | _, _ => .error .shape

def layPrim (k : PrimK) (zie : Bool) (v : Val) : Except CErr (Option Nat) :=
  match primSize k v with
  | .error e => .error e
  | .ok n => .ok (if zie && primEmpty k v then none else some n)

def layField (lay : Lay) (f : Field) (v : Option Val) : Except CErr (Option Nat) :=
  if f.omitted then .ok none
  else if f.tl2bit.isSome then
    match v with
    | none => .ok none
    | some x => if f.isBit then .ok (some 0) else lay f.ty false x
  else
    match v with
    | some x => lay f.ty true x
    | none => .error .shape

def layFieldsWith (lay : Lay) : List Field → List (Option Val) → Except CErr (List (Option Nat))
  | [], [] => .ok []
  | f :: fs, v :: vs =>
    match layField lay f v with
    | .error e => .error e
    | .ok b =>
      match layFieldsWith lay fs vs with
      | .error e => .error e
      | .ok bs => .ok (b :: bs)
  | _, _ => .error .shape

/-- the field loop of `CalculateLayout`: `currentSize`, `lastUsedByte` -/
def layLoop : Nat → Nat → Nat → List (Option Nat) → Nat × Nat
  | _, cur, last, [] => (cur, last)
  | i, cur, last, r :: rs =>
    let cur := if (i + 1) % 8 == 0 then cur + 1 else cur
    match r with
    | some n => layLoop (i + 1) (cur + n) (cur + n) rs
    | none => layLoop (i + 1) cur last rs

/-- body size as `CalculateLayout` computes it -/
def layBody (ui : Nat) (rs : List (Option Nat)) : Nat :=
  let cur0 := 1
  let (cur1, last1) := if ui == 0 then (cur0, 0) else (cur0 + tl2CalculateSize ui, cur0 + tl2CalculateSize ui)
  let (cur, last) := layLoop 0 cur1 last1 rs
  if last < cur then last else cur

/-- `if !optimizeEmpty || currentSize != 0 { currentSize += TL2CalculateSize(currentSize) }`; `sz != 0` test of the caller -/
def layObj (zie : Bool) (body : Nat) : Option Nat :=
  if body == 0 then (if zie then none else some 1)
  else some (body + tl2CalculateSize body)

def layElemsWith (lay : Lay) (ty : Nat) : List Val → Except CErr Nat
  | [] => .ok 0
  | v :: vs =>
    match lay ty false v with
    | .error e => .error e
    | .ok b =>
      match layElemsWith lay ty vs with
      | .error e => .error e
      | .ok bs => .ok (b.getD 0 + bs)

def layoutTL2 (d : Desc) : Nat → Lay
  | 0 => fun _ _ _ => .error .fuel
  | fuel + 1 => fun ty zie v =>
    match d.get? ty with
    | none => .error .desc
    | some (.prim k) => layPrim k zie v
    | some (.struct s) =>
      if (s.isAlias || s.isUnwrap) && !s.isUnionElement then
        match s.fields, v with
        | [f], .struct [some x] => layoutTL2 d fuel f.ty zie x
        | _, _ => .error .shape
      else
        match v with
        | .struct fs =>
          match layFieldsWith (layoutTL2 d fuel) s.fields fs with
          | .error e => .error e
          | .ok rs => .ok (layObj zie (layBody (structUI s) rs))
        | _ => .error .shape
    | some (.union u) =>
      match v with
      | .union i x =>
        match u.variants[i]? with
        | some (vi, _) =>
          if u.isMaybe && i != 0 then
            match d.get? vi, x with
            | some (.struct vs), .struct [some y] =>
              match vs.fields with
              | [f] =>
                match layoutTL2 d fuel f.ty true y with
                | .error e => .error e
                | .ok r => .ok (layObj zie (layBody i [r]))
              | _ => .error .desc
            | _, _ => .error .shape
          else layoutTL2 d fuel vi zie x
        | none => .error .shape
      | _ => .error .shape
    | some (.array a) =>
      match v with
      | .arr es =>
        if a.isTuple && !a.dynamic && es.length ≠ a.count then .error .shape
        else if es.isEmpty then .ok (if zie then none else some 1)
        else
          let content : Except CErr Nat :=
            if isBitTy d a.elem.ty then
              match boolsOf es with
              | some bs => .ok ((bs.length + 7) / 8)
              | none => .error .shape
            else layElemsWith (layoutTL2 d fuel) a.elem.ty es
          match content with
          | .error e => .error e
          | .ok c =>
            let body := tl2CalculateSize es.length + c
            .ok (some (body + tl2CalculateSize body))
      | _ => .error .shape
    | some (.dict a) =>
      match v with
      | .arr es =>
        if es.isEmpty then .ok (if zie then none else some 1)
        else
          match layElemsWith (layoutTL2 d fuel) a.elem.ty es with
          | .error e => .error e
          | .ok c =>
            let body := tl2CalculateSize es.length + c
            .ok (some (body + tl2CalculateSize body))
      | _ => .error .shape

/-- outcome of the two-pass writer with the Go panic made explicit -/
inductive W2Out where
  | ok (b : Bytes)
  | panic                 -- "tl2: mismatch between calculate and write"
  | err (e : CErr)
  deriving Repr

/-- the writer as the Go code runs it: the size announced by the layout pass must equal what the write pass emitted -/
def writeTL2Checked (d : Desc) (fuel ty : Nat) (v : Val) : W2Out :=
  match layoutTL2 d fuel ty false v, encTL2 d fuel ty false v with
  | .ok sz, .ok b => if sz.getD 0 = (optBytes b).length then .ok (optBytes b) else .panic
  | .error e, _ => .err e
  | _, .error e => .err e

/-! ### reader -/

abbrev Rd2 := Nat → Bool → Bytes → RRes      -- type index, canDependOnLocalBit, input

def parseSize (bs : Bytes) : Except CErr (Nat × Bytes) := liftP (tl2ParseSize bs)

def readByte : Bytes → Except CErr (UInt8 × Bytes)
  | b :: r => .ok (b, r)
  | [] => .error .eof

def readPrim2 (k : PrimK) (canDep : Bool) (bs : Bytes) : RRes :=
  match k with
  | .u32 | .i32 | .f32 => (readU32 bs).map (fun (n, r) => (.nat n, r))
  | .u64 | .i64 | .f64 => (readU64 bs).map (fun (n, r) => (.nat n, r))
  | .byte => (readByte bs).map (fun (b, r) => (.nat b.toNat, r))
  | .str => (liftP (stringReadTL2 bs)).map (fun (s, r) => (.str s, r))
  | .bool _ _ => (readByte bs).map (fun (b, r) => (.bool (b != 0), r))
  | .bit => if canDep then .ok (.bool true, bs) else (readByte bs).map (fun (b, r) => (.bool (b != 0), r))

/-- `basictl.SkipSizedValue` -/
def skipSized (bs : Bytes) : Except CErr Bytes :=
  match parseSize bs with
  | .error e => .error e
  | .ok (l, r) => if r.length < l then .error .rej else .ok (r.drop l)

/-- `basictl.SkipFixedSizedValue` -/
def skipFixed (n : Nat) (bs : Bytes) : Except CErr Bytes :=
  if bs.length < n then .error .rej else .ok (bs.drop n)

def skipTL2 (d : Desc) : Nat → Nat → Bool → Bytes → Except CErr Bytes
  | 0, _, _, _ => .error .fuel
  | fuel + 1, ty, canDep, bs =>
    match d.get? ty with
    | none => .error .desc
    | some (.prim k) =>
      match k with
      | .u32 | .i32 | .f32 => skipFixed 4 bs
      | .u64 | .i64 | .f64 => skipFixed 8 bs
      | .byte => skipFixed 1 bs
      | .str => skipSized bs
      | .bool _ _ => skipFixed 1 bs
      | .bit => if canDep then .ok bs else skipFixed 1 bs
    | some (.struct s) =>
      if s.isUnwrap && !s.isUnionElement then
        match s.fields with
        | [f] => skipTL2 d fuel f.ty canDep bs
        | _ => .error .desc
      else skipSized bs
    | _ => skipSized bs

def isTrueTy (d : Desc) (ty : Nat) : Bool :=
  match d.get? ty with
  | some (.struct s) => s.fields.isEmpty
  | _ => false

/-- start of field `i`: a new mask byte is taken from the body when `(i+1) % 8 = 0` (an exhausted body reads as mask 0) -/
def nextBlock (i : Nat) (block : UInt8) (cur : Bytes) : UInt8 × Bytes :=
  if (i + 1) % 8 == 0 then (match cur with | b :: r => (b, r) | [] => (0, [])) else (block, cur)

/-- one field of `InternalReadTL2` given its presence bit -/
def readField (rd : Rd2) (skip : Nat → Bool → Bytes → Except CErr Bytes) (z : Nat → Val) (isTrue : Nat → Bool)
    (f : Field) (bit : Bool) (cur : Bytes) : Except CErr (Option Val × Bytes) :=
  if f.isBit then .ok (if bit && f.tl2bit.isSome then some (z f.ty) else none, cur)
  else if f.omitted || isTrue f.ty then
    let v : Option Val := if f.omitted || fieldOptional f then none else some (z f.ty)
    if bit then
      match skip f.ty f.mask.isNone cur with
      | .error e => .error e
      | .ok cur' => .ok (v, cur')
    else .ok (v, cur)
  else if bit then
    match rd f.ty f.mask.isNone cur with
    | .error e => .error e
    | .ok (v, cur') => .ok (some v, cur')
  else .ok (if fieldOptional f then none else some (z f.ty), cur)

/-- the field loop of `InternalReadTL2`; what is left of the body after the last field is dropped by the caller -/
def readFields2With (rd : Rd2) (skip : Nat → Bool → Bytes → Except CErr Bytes) (z : Nat → Val) (isTrue : Nat → Bool) :
    Nat → UInt8 → List Field → Bytes → Except CErr (List (Option Val))
  | _, _, [], _ => .ok []
  | i, block, f :: fs, cur =>
    match readField rd skip z isTrue f (testBit (nextBlock i block cur).1.toNat ((i + 1) % 8)) (nextBlock i block cur).2 with
    | .error e => .error e
    | .ok (v, cur') =>
      match readFields2With rd skip z isTrue (i + 1) (nextBlock i block cur).1 fs cur' with
      | .error e => .error e
      | .ok vs => .ok (v :: vs)

def readElems2With (rd : Rd2) (ty : Nat) : Nat → Bytes → Except CErr (List Val × Bytes)
  | 0, bs => .ok ([], bs)
  | n + 1, bs =>
    match rd ty false bs with
    | .error e => .error e
    | .ok (v, bs') =>
      match readElems2With rd ty n bs' with
      | .error e => .error e
      | .ok (vs, bs'') => .ok (v :: vs, bs'')

/-- size prefix of an object / array: `(body, rest)`; declared size larger than what is left ⇒ error -/
def sliceBody (bs : Bytes) : Except CErr (Bytes × Bytes) :=
  match parseSize bs with
  | .error e => .error e
  | .ok (sz, r) => if r.length < sz then .error .rej else .ok (r.take sz, r.drop sz)

/-- first mask byte and optional variant index of a non-empty body -/
def readHead (cur : Bytes) : Except CErr (UInt8 × Nat × Bytes) :=
  match readByte cur with
  | .error e => .error e
  | .ok (block, cur1) =>
    if block.toNat % 2 == 1 then
      match parseSize cur1 with
      | .error e => .error e
      | .ok (idx, cur2) => .ok (block, idx, cur2)
    else .ok (block, 0, cur1)

/-- a struct-shaped object: size, body (empty = `Reset`), first mask byte with optional variant index (`ui` is the only
index accepted when one is on the wire), fields; what is left of the body is dropped -/
def readStructObj (rd : Rd2) (skip : Nat → Bool → Bytes → Except CErr Bytes) (z : Nat → Val) (isTrue : Nat → Bool)
    (fields : List Field) (ui : Nat) (bs : Bytes) : Except CErr (List (Option Val) × Bytes) :=
  match sliceBody bs with
  | .error e => .error e
  | .ok (cur, rest) =>
    if cur.isEmpty then .ok (zeroFieldsWith z fields, rest)
    else
      match readHead cur with
      | .error e => .error e
      | .ok (block, idx, cur1) =>
        if block.toNat % 2 == 1 && idx ≠ ui then .error .rej
        else
          match readFields2With rd skip z isTrue 0 block fields cur1 with
          | .error e => .error e
          | .ok fs => .ok (fs, rest)

def padTo (n : Nat) (z : Val) (vs : List Val) : List Val := vs ++ List.replicate (n - vs.length) z

def readTL2 (d : Desc) : Nat → Rd2
  | 0 => fun _ _ _ => .error .fuel
  | fuel + 1 => fun ty canDep bs =>
    match d.get? ty with
    | none => .error .desc
    | some (.prim k) => readPrim2 k canDep bs
    | some (.struct s) =>
      if (s.isAlias || s.isUnwrap) && !s.isUnionElement then
        match s.fields with
        | [f] =>
          match readTL2 d fuel f.ty (s.isUnwrap && canDep) bs with
          | .error e => .error e
          | .ok (v, r) => .ok (.struct [some v], r)
        | _ => .error .desc
      else
        -- a plain struct accepts only index 0; a union variant read on its own checks its own number,
        -- and only when the index is present on the wire
        match readStructObj (readTL2 d fuel) (skipTL2 d fuel) (zeroVal d fuel) (isTrueTy d) s.fields (structUI s) bs with
        | .error e => .error e
        | .ok (fs, rest) => .ok (.struct fs, rest)
    | some (.union u) =>
      match sliceBody bs with
      | .error e => .error e
      | .ok (cur, rest) =>
        if cur.isEmpty then .ok (zeroVal d (fuel + 1) ty, rest)
        else
          match readHead cur with
          | .error e => .error e
          | .ok (block, idx, cur1) =>
            match u.variants[idx]? with
            | none => .error .rej
            | some (vi, _) =>
              match d.get? vi with
              | some (.struct vs) =>
                if u.isMaybe then
                  -- qt_maybe.qtpl: index 0 returns at once; index 1 reads the value iff bit 1 is set
                  if idx == 0 then .ok (.union 0 (zeroVal d fuel vi), rest)
                  else
                    match vs.fields with
                    | [f] =>
                      if testBit block.toNat 1 then
                        match readTL2 d fuel f.ty false cur1 with
                        | .error e => .error e
                        | .ok (v, _) => .ok (.union idx (.struct [some v]), rest)
                      else .ok (.union idx (.struct [some (zeroVal d fuel f.ty)]), rest)
                    | _ => .error .desc
                else
                  -- the variant's fields are one reference deeper than the union (as in the writer, which goes through the
                  -- variant struct): same fuel index for the field readers and the zero values on both sides
                  match fuel with
                  | 0 => .error .fuel
                  | fuel' + 1 =>
                    match readFields2With (readTL2 d fuel') (skipTL2 d fuel') (zeroVal d fuel') (isTrueTy d) 0 block vs.fields cur1 with
                    | .error e => .error e
                    | .ok fs => .ok (.union idx (.struct fs), rest)
              | _ => .error .desc
    | some (.array a) =>
      match sliceBody bs with
      | .error e => .error e
      | .ok (cur, rest) =>
        let cnt : Except CErr (Nat × Bytes) := if cur.isEmpty then .ok (0, cur) else parseSize cur
        match cnt with
        | .error e => .error e
        | .ok (count, cur1) =>
          let bit := isBitTy d a.elem.ty
          if a.isTuple && !a.dynamic then
            let n := min count a.count
            let z := zeroVal d fuel a.elem.ty
            if bit then
              match liftP (bitsRead n cur1) with
              | .error e => .error e
              | .ok (bs', _) => .ok (.arr (padTo a.count z (bs'.map Val.bool)), rest)
            else
              match readElems2With (readTL2 d fuel) a.elem.ty n cur1 with
              | .error e => .error e
              | .ok (vs, _) => .ok (.arr (padTo a.count z vs), rest)
          else
            if (if bit then count / 8 else count) > cur1.length then .error .eof
            else if bit then
              match liftP (bitsRead count cur1) with
              | .error e => .error e
              | .ok (bs', _) => .ok (.arr (bs'.map Val.bool), rest)
            else
              match readElems2With (readTL2 d fuel) a.elem.ty count cur1 with
              | .error e => .error e
              | .ok (vs, _) => .ok (.arr vs, rest)
    | some (.dict a) =>
      match sliceBody bs with
      | .error e => .error e
      | .ok (cur, rest) =>
        let cnt : Except CErr (Nat × Bytes) := if cur.isEmpty then .ok (0, cur) else parseSize cur
        match cnt with
        | .error e => .error e
        | .ok (count, cur1) =>
          if count > cur1.length then .error .eof
          else
            match dictKeyPrim d a with
            | none => .error .desc
            | some k =>
              match readElems2With (readTL2 d fuel) a.elem.ty count cur1 with
              | .error e => .error e
              | .ok (vs, _) => .ok (.arr (dictNormalize k vs), rest)

/-! ### TL1 writer for values produced by the TL2 reader
After `ReadTL2` the TL1 field masks are ordinary fields: a field whose TL1 mask bit is set but whose TL2 presence bit was
clear holds its zero value (the reader reset it); Go's `WriteTL1` writes that zero value. -/

def writeFieldsZWith (wr : Wr) (z : Nat → Val) (params : List Nat) (all : List (Option Val)) :
    List Field → List (Option Val) → Except CErr Bytes
  | [], [] => .ok []
  | f :: fs, v :: vs =>
    match fieldPresent f all params, natArgVals all params f.natArgs with
    | some true, some na =>
      match wr f.ty f.bare na (v.getD (z f.ty)) with
      | .error e => .error e
      | .ok b =>
        match writeFieldsZWith wr z params all fs vs with
        | .error e => .error e
        | .ok bs => .ok (b ++ bs)
    | some false, some _ => writeFieldsZWith wr z params all fs vs
    | _, _ => .error .desc
  | _, _ => .error .shape

def writeTL1Z (d : Desc) : Nat → Wr
  | 0 => fun _ _ _ _ => .error .fuel
  | fuel + 1 => fun ty bare params v =>
    match d.get? ty with
    | none => .error .desc
    | some (.prim k) => writePrim k v
    | some (.struct s) =>
      match v with
      | .struct fs =>
        match writeFieldsZWith (writeTL1Z d fuel) (zeroVal d fuel) params fs s.fields fs with
        | .error e => .error e
        | .ok b => .ok ((if bare then [] else u32le s.tag) ++ b)
      | _ => .error .shape
    | some (.union u) =>
      match v with
      | .union i x =>
        match u.variants[i]?, natArgVals [] params u.elemNatArgs with
        | some (vi, _), some na => writeTL1Z d fuel vi false na x
        | none, _ => .error .shape
        | _, none => .error .desc
      | _ => .error .shape
    | some (.array a) =>
      match v, natArgVals [] params a.elem.natArgs with
      | .arr es, some na =>
        if a.isTuple then
          match (if a.dynamic then params[0]? else some a.count) with
          | none => .error .desc
          | some n => if es.length ≠ n then .error .shape else writeElemsWith (writeTL1Z d fuel) a.elem na es
        else
          if es.length ≥ 2 ^ 32 then .error .shape else
          (writeElemsWith (writeTL1Z d fuel) a.elem na es).map (fun b => u32le es.length ++ b)
      | _, none => .error .desc
      | _, _ => .error .shape
    | some (.dict a) =>
      match v, natArgVals [] params a.elem.natArgs with
      | .arr es, some na =>
        if es.length ≥ 2 ^ 32 then .error .shape else
        (writeElemsWith (writeTL1Z d fuel) a.elem na es).map (fun b => u32le es.length ++ b)
      | _, none => .error .desc
      | _, _ => .error .shape

end TLVerif.Codec
