import TLVerif.Codec.JsonLemmas
/-!
`alt_equiv`: trees related by `AltForm` are read identically by the model of `ReadJSONGeneral`.
-/
namespace TLVerif.Codec
open TLVerif.Prim

def PrimK.isNumeric : PrimK → Bool
  | .u32 | .i32 | .u64 | .i64 | .f32 | .f64 | .byte => true
  | _ => false

def asciiBytes (t : List Char) : Bytes := t.map (fun c => byteOf c.toNat)

/-- `ej` is the JSON the writer omits for type `ty`: reading it gives the zero value (what an absent member is reset to) -/
def EmptyOf (d : Desc) (ty : Nat) (ej : Json) : Prop :=
  ∀ (lg : Bool) (pk : Bytes → Option Json) (fuel : Nat), readJson d lg pk fuel ty [] (some ej) = jzeroVal d fuel ty

/-- The documented alternative spellings, as a type-directed relation on JSON trees (inductive closure: reflexive, symmetric,
transitive, and closed under these JSON contexts: typedef wrappers, array elements, struct members, union and Maybe values;
not under dictionary values: at a dictionary type it relates a tree to itself only). -/
inductive AltForm (d : Desc) : Nat → Json → Json → Prop
  | refl (ty : Nat) (j : Json) : AltForm d ty j j
  | symm {ty : Nat} {j j' : Json} : AltForm d ty j j' → AltForm d ty j' j
  | trans {ty : Nat} {j1 j2 j3 : Json} : AltForm d ty j1 j2 → AltForm d ty j2 j3 → AltForm d ty j1 j3
  /-- numbers as decimal strings -/
  | numberAsString (ty : Nat) (k : PrimK) (t : List Char) : d.get? ty = some (.prim k) → k.isNumeric = true →
      (∀ c ∈ t, c.toNat < 256) → AltForm d ty (.num t) (.str (asciiBytes t))
  /-- enums as objects / unions as type strings -/
  | unionAsString (ty : Nat) (u : UnionD) (t : Bytes) : d.get? ty = some (.union u) → u.isMaybe = false →
      AltForm d ty (.str t) (.obj [(kType, .str t)])
  | unionValueFirst (ty : Nat) (u : UnionD) (t : Bytes) (v : Json) : d.get? ty = some (.union u) → u.isMaybe = false →
      AltForm d ty (.obj [(kValue, v), (kType, .str t)]) (.obj [(kType, .str t), (kValue, v)])
  /-- Maybe with or without "ok" -/
  | maybeWithoutOk (ty : Nat) (u : UnionD) (v : Json) : d.get? ty = some (.union u) → u.isMaybe = true →
      AltForm d ty (.obj [(kValue, v)]) (.obj [(kOk, .bool true), (kValue, v)])
  | maybeValueFirst (ty : Nat) (u : UnionD) (v : Json) : d.get? ty = some (.union u) → u.isMaybe = true →
      AltForm d ty (.obj [(kValue, v), (kOk, .bool true)]) (.obj [(kOk, .bool true), (kValue, v)])
  | maybeOkFalse (ty : Nat) (u : UnionD) : d.get? ty = some (.union u) → u.isMaybe = true →
      AltForm d ty (.obj [(kOk, .bool false)]) (.obj [])
  /-- omitted fields as empty values: an absent plain field (unmasked, no nat arguments, not true-typed) may be given explicitly
  with the empty value of its type -/
  | omittedEmpty (ty : Nat) (s : StructD) (kvs : List (Bytes × Json)) (k : Bytes) (ej : Json) : d.get? ty = some (.struct s) →
      (s.isTypedef || s.isUnwrap) = false → countKey k kvs = 0 → (findField s k s.fields 0).isSome = true →
      (∀ f ∈ s.fields, strBytes f.name = k → fieldOmitted s f = false → f.plain ∧ EmptyOf d f.ty ej) →
      AltForm d ty (.obj kvs) (.obj (kvs ++ [(k, ej)]))
  /-- contexts -/
  | typedef (ty : Nat) (s : StructD) (f : Field) (j j' : Json) : d.get? ty = some (.struct s) →
      (s.isTypedef || s.isUnwrap) = true → s.fields = [f] → AltForm d f.ty j j' → AltForm d ty j j'
  | member (ty : Nat) (s : StructD) (a b : List (Bytes × Json)) (k : Bytes) (v v' : Json) : d.get? ty = some (.struct s) →
      (s.isTypedef || s.isUnwrap) = false →
      (∀ f ∈ s.fields, strBytes f.name = k → f.isBit = false) →
      (∀ f ∈ s.fields, strBytes f.name = k → AltForm d f.ty v v') →
      AltForm d ty (.obj (a ++ (k, v) :: b)) (.obj (a ++ (k, v') :: b))
  | element (ty : Nat) (a : ArrayD) (pre post : List Json) (v v' : Json) : d.get? ty = some (.array a) →
      AltForm d a.elem.ty v v' → AltForm d ty (.arr (pre ++ v :: post)) (.arr (pre ++ v' :: post))
  | unionValue (ty : Nat) (u : UnionD) (t : Bytes) (v v' : Json) : d.get? ty = some (.union u) → u.isMaybe = false →
      (∀ vi ∈ u.variants, AltForm d vi.1 v v') →
      AltForm d ty (.obj [(kType, .str t), (kValue, v)]) (.obj [(kType, .str t), (kValue, v')])
  | maybeValue (ty : Nat) (u : UnionD) (v v' : Json) : d.get? ty = some (.union u) → u.isMaybe = true →
      (∀ v1 vs f, u.variants[1]? = some v1 → d.get? v1.1 = some (.struct vs) → vs.fields = [f] → AltForm d f.ty v v') →
      AltForm d ty (.obj [(kOk, .bool true), (kValue, v)]) (.obj [(kOk, .bool true), (kValue, v')])

theorem findVariantJ_mem (d : Desc) (u : UnionD) (o lg : Bool) (t : Bytes) (vs : List (Nat × String)) (i n vi : Nat) :
    findVariantJ d u o lg t vs i = some (n, vi) → ∃ nm, (vi, nm) ∈ vs := by
  fun_induction findVariantJ d u o lg t vs i
  all_goals intro h
  · cases h
  · cases h
    exact ⟨_, List.mem_cons_self⟩
  · obtain ⟨nm, hm⟩ := ‹_ → ∃ nm, _› h
    exact ⟨nm, List.mem_cons_of_mem _ hm⟩

theorem readElemsJ_element (rj : Rj) (f : Field) (v v' : Json) (post : List Json)
    (h : ∀ na, rj f.ty na (some v) = rj f.ty na (some v')) (pre : List Json) (na : List Nat) :
    readElemsJ rj f na (pre ++ v :: post) = readElemsJ rj f na (pre ++ v' :: post) := by
  induction pre with
  | nil => simp only [List.nil_append, readElemsJ, h]
  | cons x xs ih => simp only [List.cons_append, readElemsJ, ih]

theorem readPrimJ_numberAsString (k : PrimK) (hk : k.isNumeric = true) (t : List Char) (ht : ∀ c ∈ t, c.toNat < 256) :
    readPrimJ k (some (.num t)) = readPrimJ k (some (.str (asciiBytes t))) := by
  cases k <;> cases hk <;> simp only [readPrimJ, readIntJ, readFloatJ, asciiBytes, charsOfBytes_ascii t ht]

/-- Every documented alternative spelling reads exactly like the spelling it stands for: the same result
(value or error) for every amount of fuel and every nat arguments. -/
theorem alt_equiv (d : Desc) (lg : Bool) (pk : Bytes → Option Json) {ty : Nat} {j j' : Json} (h : AltForm d ty j j') :
    ∀ fuel params, readJson d lg pk fuel ty params (some j) = readJson d lg pk fuel ty params (some j') := by
  induction h with
  | refl ty j => exact fun _ _ => rfl
  | symm _ ih => exact fun fuel params => (ih fuel params).symm
  | trans _ _ ih1 ih2 => exact fun fuel params => (ih1 fuel params).trans (ih2 fuel params)
  | numberAsString ty k t hd hk ht =>
    refine readJson_congr_of_succ fun fuel params => ?_
    simp only [readJson, hd]
    exact readPrimJ_numberAsString k hk t ht
  | unionAsString ty u t hd hm =>
    exact readJson_union_congr d lg pk ty u hd hm _ _ ((unionHead_string t).trans (unionHead_object t).symm)
  | unionValueFirst ty u t v hd hm =>
    exact readJson_union_congr d lg pk ty u hd hm _ _ ((unionHead_value_first t v).trans (unionHead_object_value t v).symm)
  | maybeWithoutOk ty u v hd hm =>
    exact readJson_maybe_congr d lg pk ty u hd hm _ _ ((maybeHead_value v).trans (maybeHead_okTrue_value v).symm)
  | maybeValueFirst ty u v hd hm =>
    exact readJson_maybe_congr d lg pk ty u hd hm _ _ ((maybeHead_value_okTrue v).trans (maybeHead_okTrue_value v).symm)
  | maybeOkFalse ty u hd hm =>
    exact readJson_maybe_congr d lg pk ty u hd hm _ _ (maybeHead_okFalse.trans maybeHead_empty.symm)
  | omittedEmpty ty s kvs k ej hd ht hc hfield H =>
    refine readJson_congr_of_succ fun fuel params => ?_
    simp only [readJson_struct_obj d lg pk fuel ty params s hd ht]
    exact readStructJ_omitted_empty d fuel _ s params kvs k ej hc hfield
      (fun f hf hk ho => ⟨(H f hf hk ho).1, (H f hf hk ho).2 lg pk fuel⟩)
  | typedef ty s f j j' hd ht hf _ ih =>
    refine readJson_congr_of_succ fun fuel params => ?_
    simp only [readJson, hd, ht, hf, ih, if_true]
  | member ty s a b k v v' hd ht hbit _ ih =>
    refine readJson_congr_of_succ fun fuel params => ?_
    simp only [readJson_struct_obj d lg pk fuel ty params s hd ht]
    exact readStructJ_member_congr d fuel _ s params a b k v v' (fun f hf hk => ⟨hbit f hf hk, fun na => ih f hf hk fuel na⟩)
  | element ty a pre post v v' hd _ ih =>
    refine readJson_congr_of_succ fun fuel params => ?_
    simp only [readJson, hd, readElemsJ_element (readJson d lg pk fuel) a.elem v v' post (ih fuel) pre, List.length_append,
      List.length_cons]
  | unionValue ty u t v v' hd hm _ ih =>
    refine readJson_congr_of_succ fun fuel params => ?_
    simp only [readJson, hd, hm, unionHead_object_value, Bool.false_eq_true, if_false]
    cases natArgVals [] params u.elemNatArgs with
    | none => rfl
    | some vparams =>
      cases hfv : findVariantJ d u (unionOriginTL2 d u) lg t u.variants 0 with
      | none => rfl
      | some p =>
        obtain ⟨nm, hmem⟩ := findVariantJ_mem d u (unionOriginTL2 d u) lg t u.variants 0 p.1 p.2 hfv
        simp only [ih (p.2, nm) hmem fuel vparams]
  | maybeValue ty u v v' hd hm _ ih =>
    refine readJson_congr_of_succ fun fuel params => ?_
    simp only [readJson, hd, hm, maybeHead_okTrue_value, if_true]
    -- both sides fail alike unless the second variant is a struct with one field `f`, whose reader then reads the value
    cases natArgVals [] params u.elemNatArgs with
    | none => rfl
    | some vparams =>
      match hv : u.variants with
      | [] | [_] | _ :: _ :: _ :: _ => rfl
      | [_, (v1, n1)] =>
        match hg : d.get? v1 with
        | none | some (.prim _) | some (.union _) | some (.array _) | some (.dict _) => simp only [hg]
        | some (.struct vs) =>
          match hfs : vs.fields with
          | [] | _ :: _ :: _ => simp only [hg, hfs]
          | [f] => simp only [hg, hfs, ih (v1, n1) vs f (by rw [hv]; rfl) hg hfs fuel]

end TLVerif.Codec
