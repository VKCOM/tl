import TLVerif.Codec.TL1Wf
import TLVerif.Prim.TL1StringLemmas
/-!
Lemmas about the TL1 codec model: little-endian words, `readExactTag`, the primitive reader against the primitive writer;
the inversions of `Except.map`/`bind` (`map_ok_inv`, `map_error_inv`, `bind_error_inv`), with which the TL1, JSON and reuse
lemma files take a step of a reader apart; and `testBit_eq_nat` (the model's `testBit` is `Nat.testBit`), which the JSON, TL2
and accessor lemmas use, no TL1 file.
-/
namespace TLVerif.Codec
open TLVerif.Prim

theorem testBit_eq_nat (n b : Nat) : testBit n b = n.testBit b := by
  unfold testBit
  rw [Nat.testBit_eq_decide_div_mod_eq]
  by_cases h : n / 2 ^ b % 2 = 1 <;> simp [h]

theorem u32le_length (n : Nat) : (u32le n).length = 4 := rfl
theorem u64le_length (n : Nat) : (u64le n).length = 8 := rfl

theorem readU32_u32le (n : Nat) (rest : Bytes) : readU32 (u32le n ++ rest) = .ok (n % 4294967296, rest) := by
  simp only [u32le, readU32, List.cons_append, List.nil_append, LE.toNat4_shift]
  rw [LE.ofNat4_shift, LE.toNat_ofNat]

theorem readU32_u32le_lt {n : Nat} (h : n < 4294967296) (rest : Bytes) : readU32 (u32le n ++ rest) = .ok (n, rest) := by
  rw [readU32_u32le, Nat.mod_eq_of_lt h]

theorem readU64_u64le (n : Nat) (rest : Bytes) : readU64 (u64le n ++ rest) = .ok (n % 18446744073709551616, rest) := by
  unfold readU64 u64le
  rw [List.append_assoc, readU32_u32le]
  simp only
  rw [readU32_u32le]
  simp only
  have : n % 4294967296 + (((n >>> 32) % 4294967296) <<< 32) = n % 18446744073709551616 := by
    rw [Nat.shiftLeft_eq, Nat.shiftRight_eq_div_pow, Nat.mul_comm]
    exact (Nat.mod_mul (x := n) (a := 4294967296) (b := 4294967296)).symm
  rw [this]

theorem readU32_inv {bs rest : Bytes} {n : Nat} (h : readU32 bs = .ok (n, rest)) :
    bs = u32le n ++ rest ∧ n < 4294967296 := by
  match bs, h with
  | a :: b :: c :: d :: r, h =>
    injection h with h; injection h with hn hr
    rw [LE.toNat4_shift] at hn
    subst hn hr
    exact ⟨by rw [u32le, LE.ofNat4_shift, LE.ofNat_toNat (k := 4) rfl]; rfl, LE.toNat_lt (k := 4) rfl⟩

theorem readU32_err {bs : Bytes} {e : CErr} (h : readU32 bs = .error e) : e = .eof ∧ bs.length < 4 := by
  match bs, h with
  | [], h | [_], h | [_, _], h | [_, _, _], h => cases h; exact ⟨rfl, by simp⟩

theorem u32le_mod (n : Nat) : u32le (n % 4294967296) = u32le n :=
  (List.append_cancel_right (readU32_inv (readU32_u32le n [])).1).symm

theorem u32le_congr {a b : Nat} (h : a % 4294967296 = b % 4294967296) : u32le a = u32le b := by
  rw [← u32le_mod a, ← u32le_mod b, h]

theorem readU64_inv {bs rest : Bytes} {n : Nat} (h : readU64 bs = .ok (n, rest)) :
    bs = u64le n ++ rest ∧ n < 18446744073709551616 := by
  fun_cases readU64 bs with
  | case1 e1 h1 => simp only [readU64, h1] at h; cases h
  | case2 lo r h1 e2 h2 => simp only [readU64, h1, h2] at h; cases h
  | case3 lo r h1 hi r' h2 =>
    simp only [readU64, h1, h2, Nat.shiftLeft_eq, Nat.reducePow] at h
    cases h
    obtain ⟨e1, b1⟩ := readU32_inv h1
    obtain ⟨e2, b2⟩ := readU32_inv h2
    refine ⟨?_, by omega⟩
    have hlo : (lo + hi * 4294967296) % 4294967296 = lo % 4294967296 := Nat.add_mul_mod_self_right lo hi 4294967296
    have hhi : (lo + hi * 4294967296) >>> 32 = hi := by
      rw [Nat.shiftRight_eq_div_pow, Nat.add_mul_div_right _ _ (by decide), Nat.div_eq_of_lt b1, Nat.zero_add]
    rw [e1, e2, u64le, u32le_congr hlo, hhi, List.append_assoc]

theorem u64le_mod (n : Nat) : u64le (n % 18446744073709551616) = u64le n :=
  (List.append_cancel_right (readU64_inv (readU64_u64le n [])).1).symm

theorem readU64_err {bs : Bytes} {e : CErr} (h : readU64 bs = .error e) : e = .eof := by
  fun_cases readU64 bs with
  | case1 e1 h1 => simp only [readU64, h1] at h; cases h; exact (readU32_err h1).1
  | case2 lo r h1 e2 h2 => simp only [readU64, h1, h2] at h; cases h; rfl
  | case3 lo r h1 hi r' h2 => simp only [readU64, h1, h2] at h; cases h

theorem map_ok_inv {α β} {x : Except CErr α} {g : α → β} {y : β} (h : x.map g = .ok y) : ∃ a, x = .ok a ∧ g a = y := by
  cases x with
  | error e => cases h
  | ok a => injection h with h; exact ⟨a, rfl, h⟩

theorem bind_error_inv {α β} {x : Except CErr α} {f : α → Except CErr β} {e : CErr} (h : x.bind f = .error e) :
    x = .error e ∨ ∃ a, x = .ok a ∧ f a = .error e := by
  cases x with
  | error e' => injection h with h; exact Or.inl (h ▸ rfl)
  | ok a => exact Or.inr ⟨a, rfl, h⟩

theorem map_error_inv {α β} {x : Except CErr α} {g : α → β} {e : CErr} (h : x.map g = .error e) : x = .error e := by
  cases x with
  | error e' => injection h with h; rw [h]
  | ok a => cases h

theorem readExactTag_inv {tag : Nat} {bs r : Bytes} (h : readExactTag tag bs = .ok r) :
    bs = u32le tag ++ r ∧ tag < 4294967296 := by
  fun_cases readExactTag tag bs with
  | case1 e h1 => simp only [readExactTag, h1] at h; cases h
  | case2 r' h1 => simp only [readExactTag, h1, if_true] at h; cases h; exact readU32_inv h1
  | case3 t r' h1 c => simp only [readExactTag, h1, if_neg c] at h; cases h

theorem readExactTag_err {tag : Nat} {bs : Bytes} {e : CErr} (h : readExactTag tag bs = .error e) : e = .eof ∨ e = .rej := by
  unfold readExactTag at h
  cases h1 : readU32 bs with
  | error e1 => rw [h1] at h; injection h with h; exact Or.inl (h ▸ (readU32_err h1).1)
  | ok p => rw [h1] at h; simp only at h; split at h <;> cases h; exact Or.inr rfl

theorem readExactTag_ok {tag : Nat} (h : tag < 4294967296) (rest : Bytes) :
    readExactTag tag (u32le tag ++ rest) = .ok rest := by
  unfold readExactTag; rw [readU32_u32le_lt h]; simp

theorem readExactTag_wrong {tag t : Nat} (ht : t % 4294967296 ≠ tag) (rest : Bytes) :
    readExactTag tag (u32le t ++ rest) = .error .rej := by
  unfold readExactTag; rw [readU32_u32le]; simp [ht]

theorem readPrim_canonical {k : PrimK} (hk : k ≠ .bit) {bs rest : Bytes} {v : Val}
    (h : readPrim k bs = .ok (v, rest)) :
    ∃ pre, bs = pre ++ rest ∧ writePrim k v = .ok pre ∧ normalPrim k v = true := by
  cases k with
  | u32 | i32 | f32 =>
    obtain ⟨⟨n, r⟩, h1, hv⟩ := map_ok_inv h
    cases hv
    exact ⟨_, (readU32_inv h1).1, rfl, decide_eq_true (readU32_inv h1).2⟩
  | u64 | i64 | f64 =>
    obtain ⟨⟨n, r⟩, h1, hv⟩ := map_ok_inv h
    cases hv
    exact ⟨_, (readU64_inv h1).1, rfl, decide_eq_true (readU64_inv h1).2⟩
  | bit => exact absurd rfl hk
  | byte =>
    match bs, h with
    | b :: r, h =>
      cases h
      exact ⟨[b], rfl, congrArg (fun x => Except.ok [x]) (byteOf_eq_of_mod (Nat.mod_eq_of_lt b.toNat_lt)),
        decide_eq_true b.toNat_lt⟩
  | str =>
    obtain ⟨⟨s, r⟩, h1, hv⟩ := map_ok_inv h
    cases hv
    cases h2 : stringRead bs with
    | error e => rw [h2] at h1; cases h1
    | ok p =>
      rw [h2] at h1; cases h1
      obtain ⟨pre, hw, e⟩ := string_read_canonical _ _ _ h2
      exact ⟨pre, e, by simp only [writePrim, hw], rfl⟩
  | bool f t =>
    simp only [readPrim] at h
    cases h1 : readU32 bs with
    | error e => rw [h1] at h; cases h
    | ok p =>
      simp only [h1] at h
      have e := (readU32_inv h1).1
      split at h
      · rename_i c; cases h
        exact ⟨_, e, by rw [c]; rfl, rfl⟩
      · rename_i c1
        split at h
        · rename_i c2; cases h
          exact ⟨_, e, by rw [c2]; rfl, bne_iff_ne.mpr fun e' => c1 (c2.trans e'.symm)⟩
        · cases h

theorem readPrim_err {k : PrimK} {bs : Bytes} {e : CErr} (h : readPrim k bs = .error e) : e = .eof ∨ e = .rej := by
  cases k with
  | u32 | i32 | f32 => exact Or.inl (readU32_err (map_error_inv h)).1
  | u64 | i64 | f64 => exact Or.inl (readU64_err (map_error_inv h))
  | str =>
    have := map_error_inv h
    cases h1 : stringRead bs with
    | error e1 => rw [h1] at this; cases this; cases e1 <;> simp [CErr.ofPrim]
    | ok p => rw [h1] at this; cases this
  | bool f t =>
    simp only [readPrim] at h
    cases h1 : readU32 bs with
    | error e1 => rw [h1] at h; cases h; exact Or.inl (readU32_err h1).1
    | ok p =>
      simp only [h1] at h
      split at h
      · cases h
      · split at h <;> cases h; exact Or.inr rfl
  | byte => cases bs <;> cases h; exact Or.inl rfl
  | bit => cases h

theorem stringWrite_min4 {s bs : Bytes} (h : stringWrite s = some bs) : 4 ≤ bs.length := by
  have ha := string_write_aligned s bs h
  -- aligned and, since it reads back, not empty
  have hr := string_roundtrip s [] bs h
  cases bs with
  | nil => cases hr
  | cons b bs' => rw [List.length_cons] at ha ⊢; omega

theorem writePrim_min {k : PrimK} {v : Val} {bs : Bytes} (h : writePrim k v = .ok bs) : minSizePrim k ≤ bs.length := by
  unfold writePrim at h
  -- fixed-size words by evaluation; what is left is the string
  split at h <;> try (cases h <;> exact Nat.le_refl _)
  rename_i s
  cases h1 : stringWrite s with
  | none => rw [h1] at h; cases h
  | some b => rw [h1] at h; cases h; exact stringWrite_min4 h1

end TLVerif.Codec
