import TLVerif.Codec.TL2
import TLVerif.Codec.JsonText
import TLVerif.Codec.Ops.Json
/-!
Function results (C07): the per-function `ReadResult*` / `WriteResult*` methods and the six transcoders
`ReadResult<SRC>WriteResult<DST>` of the generated Go code (`internal/puregen/gengo/qt_struct.qtpl functionCode`).

* The result type and its nat arguments come from the function's descriptor entry (`StructD.resultTy`,
  `resultNatArgs`); a nat argument is a constant or the value of a `#` field of the REQUEST object (`item.N`).
* TL1: the result is read / written **boxed** (`TypeReadingCode(…, bare = false, …)`), whatever `resultBare` says
  (the kernel refuses bare results of TL1 functions); TL2-origin functions have no TL1 result code
  (`return w, basictl.TL2Error("not implemented for tl2 type")`).
* TL2: unless the function is a TL2 function whose result is declared as an alias (`IsResultAlias`, then the result's
  own `ReadTL2`/`WriteTL2` is used), the result travels as the single field (index 0, presence bit 1, written with
  `zeroIfEmpty`) of an anonymous object: size, mask byte, optional variant index (must be 0), field.
* JSON: the result's own JSON code with the nat arguments.
* A transcoder declares a fresh `ret`, reads it with the source reader and writes it with the target writer.  When the
  function has no TL2 code (`!HasTL2`), the four TL2 transcoders fail before reading anything.

The JSON payload of the model is a JSON *tree*; the text layer (Go's printer, `JsonText.parseJson`) is outside.
`Val` has three reader-specific spellings of "field present for TL1, absent for TL2" (see `TL2.writeTL1Z`,
`Ops/Json.jfillTL1`, `Json.hidden`), so the encoder is indexed by the format the value was decoded from; this is the only
place where the model differs from "one typed Go value".
-/
namespace TLVerif.Codec
open TLVerif.Prim TLVerif.Util

inductive Fmt where
  | tl1 | tl2 | json
  deriving Repr, DecidableEq, Inhabited

inductive Payload where
  | bytes (b : Bytes)
  | json (j : Json)
  deriving Repr, Inhabited

/-- a function as the result code sees it: its descriptor entry plus `IsResultAlias()` (exported separately) -/
structure FnD where
  s : StructD
  resultAlias : Bool := false
  deriving Repr, Inhabited

/-- nat arguments of the result type: constants and `#` fields of the request (`formatNatArgs(struct_.Fields, ResultNatArgs)`) -/
def resultArgs (f : FnD) (req : Val) : Option (List Nat) :=
  match req with
  | .struct fs => natArgVals fs [] f.s.resultNatArgs
  | _ => none

/-! ### TL2 wrapper of the result -/

/-- `ReadResultTL2` -/
def readResultTL2 (d : Desc) (fuel : Nat) (f : FnD) (bs : Bytes) : RRes :=
  if f.resultAlias then readTL2 d fuel f.s.resultTy false bs
  else
    match sliceBody bs with
    | .error e => .error e
    | .ok (cur, rest) =>
      if cur.isEmpty then .ok (zeroVal d fuel f.s.resultTy, rest)
      else
        match readHead cur with
        | .error e => .error e
        | .ok (block, idx, cur1) =>
          if block.toNat % 2 == 1 && idx ≠ 0 then .error .rej      -- "function result must not use variant type field"
          else if testBit block.toNat 1 then
            match readTL2 d fuel f.s.resultTy true cur1 with
            | .error e => .error e
            | .ok (v, _) => .ok (v, rest)
          else .ok (zeroVal d fuel f.s.resultTy, rest)

/-- `WriteResultTL2` (`calculateLayoutResult` + `writeResultTL2` with `optimizeEmpty = false`; the two passes agree by
`Props.C03.layout_agrees_write`, so the Go panic is not modelled again) -/
def writeResultTL2 (d : Desc) (fuel : Nat) (f : FnD) (v : Val) : Except CErr Bytes :=
  if f.resultAlias then writeTL2 d fuel f.s.resultTy false v
  else
    match encTL2 d fuel f.s.resultTy true v with
    | .error e => .error e
    | .ok r => .ok (optBytes (objTL2 false (bodyTL2 0 [r])))

/-! ### values read from JSON, written in TL2: a field that is present for TL1 only is absent for TL2 -/

mutual
  def dropHidden : Val → Val
    | .struct fs => .struct (dropHiddenFields fs)
    | .union i v => .union i (dropHidden v)
    | .arr es => .arr (dropHiddenList es)
    | v => v
  def dropHiddenFields : List (Option Val) → List (Option Val)
    | [] => []
    | none :: r => none :: dropHiddenFields r
    | some v :: r => (if isHidden v then none else some (dropHidden v)) :: dropHiddenFields r
  def dropHiddenList : List Val → List Val
    | [] => []
    | v :: r => dropHidden v :: dropHiddenList r
end

/-! ### the three readers and writers of a result, and the transcoders -/

/-- `ReadResultTL1` / `ReadResultTL2` / `ReadResultJSON`: the value and the unread rest (JSON: none, by convention) -/
def decodeResult (cfg : Cfg) (d : Desc) (fuel : Nat) (f : FnD) (na : List Nat) : Fmt → Payload → Except CErr (Val × Bytes)
  | .tl1, .bytes bs => if f.s.originTL2 then .error .rej else readTL1 cfg d fuel f.s.resultTy false na bs
  | .tl2, .bytes bs => readResultTL2 d fuel f bs
  | .json, .json j => (readJson d false parseJson fuel f.s.resultTy na (some j)).map (fun v => (v, []))
  | _, _ => .error .shape

/-- `WriteResultTL1` for a value decoded from `src` -/
def writeResultTL1 (d : Desc) (fuel : Nat) (f : FnD) (na : List Nat) (src : Fmt) (v : Val) : Except CErr Bytes :=
  if f.s.originTL2 then .error .shape else
  match src with
  | .tl1 => writeTL1 d fuel f.s.resultTy false na v
  | .tl2 => writeTL1Z d fuel f.s.resultTy false na v
  | .json =>
    match jfillTL1 d fuel f.s.resultTy na v with
    | .error e => .error e
    | .ok v' => writeTL1 d fuel f.s.resultTy false na v'

/-- `WriteResultTL1` / `WriteResultTL2` / `WriteResultJSON` of a value decoded from `src` -/
def encodeResult (d : Desc) (fuel : Nat) (f : FnD) (na : List Nat) (src : Fmt) : Fmt → Val → Except CErr Payload
  | .tl1, v => (writeResultTL1 d fuel f na src v).map Payload.bytes
  | .tl2, v => (writeResultTL2 d fuel f (if src == .json then dropHidden v else v)).map Payload.bytes
  | .json, v => (writeJson d fuel f.s.resultTy na v).map Payload.json

/-- the generated transcoder `ReadResult<src>WriteResult<dst>` called on a function object holding `req` -/
def transcode (cfg : Cfg) (d : Desc) (fuel : Nat) (f : FnD) (req : Val) (src dst : Fmt) (p : Payload) :
    Except CErr (Payload × Bytes) :=
  if (src == .tl2 || dst == .tl2) && !f.s.hasTL2 then .error .rej       -- ErrorTL2SerializersNotGenerated, nothing is read
  else
    match resultArgs f req with
    | none => .error .desc
    | some na =>
      match decodeResult cfg d fuel f na src p with
      | .error e => .error e
      | .ok (v, rest) =>
        match encodeResult d fuel f na src dst v with
        | .error e => .error e
        | .ok q => .ok (q, rest)

/-! ### counterfactual repair of floats (classification of inherited findings L2/L3 by the check)
`mapPrims (fixFloat z n)` replaces every float `-0.0` by `+0.0` (`z`) and every NaN by the NaN Go's `"NaN"` parses to (`n`), nothing
else; dictionaries are re-normalised (a repaired key may meet its twin). -/

def isNaNBits (mbits ebits x : Nat) : Bool := (x / 2 ^ mbits) % 2 ^ ebits == 2 ^ ebits - 1 && x % 2 ^ mbits != 0

def fixFloat (z n : Bool) : PrimK → Val → Val
  | .f32, .nat x =>
    if z && x == 0x80000000 then .nat 0 else if n && isNaNBits 23 8 x then .nat 0x7FC00000 else .nat x
  | .f64, .nat x =>
    if z && x == 0x8000000000000000 then .nat 0 else if n && isNaNBits 52 11 x then .nat 0x7FF8000000000001 else .nat x
  | _, v => v

def mapFields (g : Nat → Val → Val) : List Field → List (Option Val) → List (Option Val)
  | f :: fs, some v :: vs => some (g f.ty v) :: mapFields g fs vs
  | _ :: fs, none :: vs => none :: mapFields g fs vs
  | _, vs => vs

/-- the key of a dictionary element `{key, value}` -/
def mapKey (kf : Val → Val) : Val → Val
  | .struct (some k :: r) => .struct (some (kf k) :: r)
  | v => v

/-- type-directed map over the primitives of a value (`g`) and, after that, over the keys of its dictionaries (`kf`) -/
def mapPrims (d : Desc) (g : PrimK → Val → Val) (kf : Val → Val) : Nat → Nat → Val → Val
  | 0, _, v => v
  | fuel + 1, ty, v =>
    match d.get? ty, v with
    | some (.prim k), v => g k v
    | some (.struct s), .struct fs => .struct (mapFields (mapPrims d g kf fuel) s.fields fs)
    | some (.union u), .union i x =>
      (match u.variants[i]? with
       | some (vi, _) => .union i (mapPrims d g kf fuel vi x)
       | none => v)
    | some (.array a), .arr es => .arr (es.map (mapPrims d g kf fuel a.elem.ty))
    | some (.dict a), .arr es =>
      (match dictKeyPrim d a with
       | some k => .arr (dictNormalize k (es.map (fun e => mapKey kf (mapPrims d g kf fuel a.elem.ty e))))
       | none => v)
    | _, _ => v

/-- C05's finding F1: a string dictionary key that is not valid UTF-8 has no JSON (Go emits `{"base64":…}` in key position, the
model's writer answers `.shape`).  `fixKey` replaces exactly those keys; the driver uses it to tell this case from a genuine
writer error (`writeJson` fails on the value but succeeds once the keys are repaired). -/
def fixKey : Val → Val
  | .str s => if utf8Valid s then .str s else .str []
  | v => v

def jsonInvalidByKey (d : Desc) (fuel : Nat) (f : FnD) (na : List Nat) (v : Val) : Bool :=
  match writeJson d fuel f.s.resultTy na v with
  | .error .shape =>
    (match writeJson d fuel f.s.resultTy na (mapPrims d (fun _ x => x) fixKey fuel f.s.resultTy v) with
     | .ok _ => true
     | .error _ => false)
  | _ => false

end TLVerif.Codec
