import TLVerif.Codec.TL1Canon
/-!
Round trip (C01): `writeTL1 v = ok bs → readTL1M (bs ++ rest) = ok (v, rest)` for `Normal` values, in every storage mode
of dictionaries (`writeTL1_readM`; `readTL1` is the `.map` instance), and soundness of the minimal-size function used to
discharge `CheckLengthSanity`.
-/
namespace TLVerif.Codec
open TLVerif.Prim

theorem writePrim_read {d : Desc} {k : PrimK} (hk : Inst.rtOk d (.prim k) = true) {v : Val} {bs : Bytes}
    (hn : normalPrim k v = true) (hw : writePrim k v = .ok bs) (rest : Bytes) :
    readPrim k (bs ++ rest) = .ok (v, rest) := by
  unfold writePrim at hw
  split at hw
  -- three 32-bit kinds, three 64-bit kinds, then string, Bool, byte
  iterate 3
    cases hw
    simp only [normalPrim, decide_eq_true_eq] at hn
    simp only [readPrim, readU32_u32le_lt hn]; rfl
  iterate 3
    cases hw
    simp only [normalPrim, decide_eq_true_eq] at hn
    simp only [readPrim, readU64_u64le, Nat.mod_eq_of_lt hn]; rfl
  · rename_i s
    cases h1 : stringWrite s with
    | none => rw [h1] at hw; cases hw
    | some b =>
      rw [h1] at hw; cases hw
      simp only [readPrim, string_roundtrip _ _ _ h1]; rfl
  · rename_i f t b
    cases hw
    simp only [Inst.rtOk, Bool.and_eq_true, decide_eq_true_eq] at hk
    cases b with
    | false => simp only [readPrim, Bool.false_eq_true, if_false, readU32_u32le_lt hk.1, if_true]
    | true =>
      simp only [normalPrim, Bool.not_true, Bool.false_or, bne_iff_ne, ne_eq] at hn
      simp only [readPrim, if_true, readU32_u32le_lt hk.2, if_neg (Ne.symm hn)]
  · cases hw
    simp only [normalPrim, decide_eq_true_eq] at hn
    simp only [readPrim, List.cons_append, List.nil_append, byteOf_toNat, Nat.mod_eq_of_lt hn]
  · cases hw

/-- one call round-trips on the types of `S`: the loop lemmas assume it, `writeTL1_readM` proves it by induction on fuel -/
def ReadsWritten (S : Nat → Bool) (rd : Rd) (wr : Wr) (nm : Nm) : Prop :=
  ∀ ⦃ty bare na v bs⦄ rest, S ty = true → nm ty bare na v = true → wr ty bare na v = .ok bs → rd ty bare na (bs ++ rest) = .ok (v, rest)

theorem writeFields_read {S : Nat → Bool} {rd : Rd} {wr : Wr} {nm : Nm} (hrt : ReadsWritten S rd wr nm) (params : List Nat) (rest : Bytes)
    (all : List (Option Val)) (fields : List Field) (acc vs : List (Option Val)) (bs : Bytes) (e : all = acc ++ vs)
    (hS : ∀ f ∈ fields, S f.ty = true) (hro : fieldsRefsOk acc.length fields = true)
    (hn : normalFieldsWith nm params all fields vs = true) (hw : writeFieldsWith wr params all fields vs = .ok bs) :
    readFieldsWith rd params fields acc (bs ++ rest) = .ok (all, rest) := by
  fun_induction writeFieldsWith wr params all fields vs generalizing acc bs with
  | case1 => cases hw; rw [e, List.append_nil]; rfl
  -- the writer fails: a present field has no value, its call or the rest fails, mask or arguments do not evaluate, lengths differ
  | case2 | case3 | case4 | case7 | case8 => cases hw
  | case5 f fs vs na hna hp x b1 hx b2 hr ih => -- present and written
    cases hw
    simp only [fieldsRefsOk, Bool.and_eq_true] at hro
    simp only [normalFieldsWith, hp, hna, Bool.and_eq_true] at hn
    -- the reader sees in `acc` what the writer saw in the whole value
    rw [e, natArgVals_ext (Or.inl ((Bool.and_eq_true _ _).mp hro.1).2)] at hna
    rw [e, fieldPresent_ext (Or.inl hro.1)] at hp
    rw [readFields_cons, hna, hp, List.append_assoc]
    dsimp only
    rw [hrt _ (hS f (by simp)) hn.1 hx]
    exact ih (acc ++ [some x]) _ (e.trans (List.append_cons ..)) (fun g hg => hS g (by simp [hg]))
      (List.length_append ▸ hro.2) hn.2 hr
  | case6 f fs v vs na hna hp ih => -- absent
    simp only [fieldsRefsOk, Bool.and_eq_true] at hro
    simp only [normalFieldsWith, hp, hna, Bool.and_eq_true, Option.isNone_iff_eq_none] at hn
    cases hn.1
    rw [e, natArgVals_ext (Or.inl ((Bool.and_eq_true _ _).mp hro.1).2)] at hna
    rw [e, fieldPresent_ext (Or.inl hro.1)] at hp
    rw [readFields_cons, hna, hp]
    exact ih (acc ++ [none]) _ (e.trans (List.append_cons ..)) (fun g hg => hS g (by simp [hg]))
      (List.length_append ▸ hro.2) hn.2 hw

theorem writeElems_read {S : Nat → Bool} {rd : Rd} {wr : Wr} {nm : Nm} (hrt : ReadsWritten S rd wr nm) (f : Field) (hS : S f.ty = true)
    (na : List Nat) (rest : Bytes) (es : List Val) (bs : Bytes) (hn : es.all (nm f.ty f.bare na) = true)
    (hw : writeElemsWith wr f na es = .ok bs) : readElemsWith rd f na es.length (bs ++ rest) = .ok (es, rest) := by
  fun_induction writeElemsWith wr f na es generalizing bs with
  | case1 => cases hw; rfl
  | case2 | case3 => cases hw
  | case4 v vs b1 hx b2 hr ih =>
    cases hw
    simp only [List.all_cons, Bool.and_eq_true] at hn
    rw [List.length_cons, readElems_succ, List.append_assoc, hrt _ hS hn.1 hx]
    simp only [Except.bind, ih _ hn.2 hr]; rfl

/-- `ms` bounds from below what `wr` emits: `minSize_sound`, assumed of the element writer by the loop lemmas -/
def MinOk (wr : Wr) (ms : Nat → Bool → Nat) : Prop :=
  ∀ ty bare na v bs, wr ty bare na v = .ok bs → ms ty bare ≤ bs.length

theorem writeFields_min {wr : Wr} {ms : Nat → Bool → Nat} (hm : MinOk wr ms) (params : List Nat) (all : List (Option Val))
    (fields : List Field) (vs : List (Option Val)) (bs : Bytes)
    (h : writeFieldsWith wr params all fields vs = .ok bs) : minFields ms fields ≤ bs.length := by
  fun_induction writeFieldsWith wr params all fields vs generalizing bs with
  | case1 => exact Nat.zero_le _
  | case2 | case3 | case4 | case7 | case8 => cases h -- the writer fails, as in `writeFields_read`
  | case5 f fs vs na hna hp x b1 hx b2 hr ih => -- present and written
    cases h
    have := hm _ _ _ _ _ hx
    have := ih _ hr
    simp only [minFields, List.length_append]
    split <;> omega
  | case6 f fs v vs na hna hp ih => -- absent
    have := ih _ h
    simp only [minFields, mask_of_absent hp, Bool.false_eq_true, if_false]; omega

theorem writeElems_min {wr : Wr} {ms : Nat → Bool → Nat} (hm : MinOk wr ms) (f : Field) (na : List Nat) :
    ∀ (es : List Val) (bs : Bytes), writeElemsWith wr f na es = .ok bs → es.length * ms f.ty f.bare ≤ bs.length
  | [], _, _ => by simp
  | v :: vs, _, h => by
    obtain ⟨b1, b2, hx, hr, rfl⟩ := writeElems_cons_ok h
    have := hm _ _ _ _ _ hx
    have := writeElems_min hm f na vs _ hr
    simp only [List.length_cons, List.length_append, Nat.add_mul]; omega

theorem minSize_sound (d : Desc) : ∀ (g f : Nat), MinOk (writeTL1 d f) (minSize d g) := by
  intro g
  induction g with
  | zero => intro f ty bare na v bs _; exact Nat.zero_le _
  | succ g ih =>
    intro f ty bare params v bs h
    cases f with
    | zero => cases h
    | succ f =>
      simp only [minSize]
      cases hg : d.get? ty with
      | none => exact Nat.zero_le _
      | some inst =>
        cases inst with
        | prim k => rw [writeTL1_prim hg] at h; exact writePrim_min h
        | struct s =>
          obtain ⟨fs, b, _, hw, rfl⟩ := writeTL1_struct_ok hg h
          have := writeFields_min (ih f) params fs _ _ _ hw
          cases bare <;> simp [u32le_length] <;> omega
        | union u =>
          simp only
          split
          · rename_i hall
            obtain ⟨i, x, vi, nm, na, _, hv, _, hw⟩ := writeTL1_union_ok hg h
            -- the variant is written boxed: its tag comes first
            have := (List.all_eq_true.mp hall) _ (List.mem_of_getElem? hv)
            cases hgv : d.get? vi with
            | none => simp [hgv] at this
            | some iv =>
              cases iv with
              | struct s =>
                obtain ⟨b, rfl, _⟩ := (writeTL1_boxed hgv).mp hw
                simp [u32le_length]
              | _ => simp [hgv] at this
          · exact Nat.zero_le _
        | array a =>
          obtain ⟨es, na, b, _, _, hw, hh⟩ := writeTL1_array_ok hg h
          simp only
          cases ht : a.isTuple with
          | true =>
            cases hd : a.dynamic with
            | true => exact Nat.zero_le _
            | false =>
              have := writeElems_min (ih f) a.elem na _ _ hw
              rw [ht, hd] at hh
              simp only [Bool.false_eq_true, if_true, if_false]
              rwa [hh.2, Option.some.inj hh.1]
          | false =>
            rw [ht] at hh
            rw [hh.2, List.length_append, u32le_length]
            exact Nat.le_add_right _ _
        | dict a =>
          obtain ⟨es, na, b, _, _, _, _, rfl⟩ := writeTL1_dict_ok hg h
          rw [List.length_append, u32le_length]
          exact Nat.le_add_right _ _

theorem Desc.rtOk_get {d : Desc} (h : d.rtOk = true) {ty : Nat} {i : Inst} (hg : d.get? ty = some i) : i.rtOk d = true :=
  (List.all_eq_true.mp h) _ (Desc.get?_mem hg)

theorem Desc.elemMin4_get {d : Desc} (h : d.elemMin4 = true) {ty : Nat} {i : Inst} (hg : d.get? ty = some i) : i.elemMin4 d = true :=
  (List.all_eq_true.mp h) _ (Desc.get?_mem hg)

theorem unionOk_get {d : Desc} {u : UnionD} (h : unionOk d u = true) {i vi : Nat} {nm : String}
    (hv : u.variants[i]? = some (vi, nm)) :
    ∃ s, d.get? vi = some (.struct s) ∧ s.tag < 4294967296 ∧ findVariant d s.tag u.variants 0 = some (i, vi) := by
  have hi : i < u.variants.length := (List.getElem?_eq_some_iff.mp hv).1
  have := (List.all_eq_true.mp h) i (List.mem_range.mpr hi)
  simp only [hv] at this
  cases hg : d.get? vi with
  | none => simp [hg] at this
  | some inst =>
    cases inst with
    | struct s =>
      simp only [hg, Bool.and_eq_true, decide_eq_true_eq, beq_iff_eq] at this
      exact ⟨s, rfl, this.1, this.2⟩
    | _ => simp [hg] at this

/-- `CheckLengthSanity` passes on what the writer emitted for the elements: it is off, or the guard `elemMin4` of the
instance bounds every element from below by 4 bytes -/
theorem sanity_of_min {d : Desc} {cfg : Cfg} {S : Nat → Bool} (hs : cfg.sanity = false ∨ d.allOn S (Inst.elemMin4 d) = true)
    {ty : Nat} {inst : Inst} (hg : d.get? ty = some inst) (hS : S ty = true) {f : Field}
    (hmin : inst.elemMin4 d = true → 4 ≤ minSize d d.insts.size f.ty f.bare)
    {fuel : Nat} {na : List Nat} {es : List Val} {b : Bytes} (hw : writeElemsWith (writeTL1 d fuel) f na es = .ok b)
    (rest : Bytes) : sanityOk cfg (b ++ rest) es.length = true := by
  unfold sanityOk
  rcases hs with hs | hs
  · simp [hs]
  · have h1 := writeElems_min (minSize_sound d d.insts.size fuel) f na es b hw
    have h2 := Nat.mul_le_mul_left es.length (hmin (Desc.allOn_get hs hg hS))
    simp only [Bool.or_eq_true, decide_eq_true_eq, List.length_append]
    right; omega

theorem dictStore_sorted (m : DictMode) (b : Bool) {k : PrimK} {es : List Val} (h : dictSorted k es = true) :
    dictStore m b k es = .ok es := by
  cases m <;> simp only [dictStore, dictNormalize_sorted h, dictAscending_eq_sorted, h, if_true, ite_self]

/-- a `Normal` value reads back from what the writer made of it, whatever the storage of dictionaries:
its dictionaries are sorted -/
theorem writeTL1_readM (m : DictMode) (sl : Nat → Bool) (cfg : Cfg) (d : Desc) (S : Nat → Bool) (hcl : d.closed S = true)
    (hrt : d.allOn S (Inst.rtOk d) = true) (hs : cfg.sanity = false ∨ d.allOn S (Inst.elemMin4 d) = true) :
    ∀ fuel, ReadsWritten S (readTL1M m sl cfg d fuel) (writeTL1 d fuel) (normalTL1 d fuel)
  | 0 => fun _ _ _ _ _ _ _ hn _ => nomatch hn
  | fuel + 1 => by
    have ih := writeTL1_readM m sl cfg d S hcl hrt hs fuel
    intro ty bare params v bs rest hSty hn hw
    -- per kind: invert the write (`writeTL1_*_ok`), then run the reader on `header ++ body ++ rest`; each `simp only [readTL1M, …]`
    -- decides the reader's scrutinees in turn by the facts listed after `hg` (header word, sanity check, loop, store)
    cases hg : d.get? ty with
    | none => simp only [normalTL1, hg] at hn; cases hn
    | some inst =>
      simp only [normalTL1, hg] at hn
      have hi := Desc.allOn_get hrt hg hSty
      have hrefs := Desc.closed_get hcl hg hSty
      cases inst with
      | prim k => rw [readTL1M_prim hg]; rw [writeTL1_prim hg] at hw; exact writePrim_read hi hn hw rest
      | struct s =>
        simp only [Inst.rtOk, Bool.and_eq_true, decide_eq_true_eq] at hi
        obtain ⟨fs, b, rfl, hwf, rfl⟩ := writeTL1_struct_ok hg hw
        have hrd := writeFields_read ih params rest fs s.fields [] fs b rfl
          (fun f hf => hrefs _ (List.mem_map_of_mem hf)) hi.2 hn hwf
        cases bare <;> simp only [readTL1M, hg, List.append_assoc, List.nil_append, if_true, Bool.false_eq_true, if_false,
          readExactTag_ok hi.1, hrd]
      | union u =>
        obtain ⟨i, x, vi, nm, na, rfl, hv, hna, hw⟩ := writeTL1_union_ok hg hw
        simp only [hv, hna] at hn
        obtain ⟨s, hgv, htag, hfind⟩ := unionOk_get hi hv
        obtain ⟨b, rfl, hwb⟩ := (writeTL1_boxed hgv).mp hw
        simp only [readTL1M, hg, List.append_assoc, readU32_u32le_lt htag, hfind, hna, ih rest
          (hrefs _ (List.mem_map_of_mem (f := (·.1)) (List.mem_of_getElem? hv))) hn hwb]
      | array a =>
        obtain ⟨es, na, b, rfl, hna, hwe, hh⟩ := writeTL1_array_ok hg hw
        simp only [hna] at hn
        have hrd := writeElems_read ih a.elem (hrefs _ (List.mem_singleton.mpr rfl)) na rest es b hn hwe
        have hsan : (a.isTuple && !a.dynamic) = false → sanityOk cfg (b ++ rest) es.length = true := fun hk =>
          sanity_of_min hs hg hSty (by simp only [Inst.elemMin4, hk, Bool.false_or, decide_eq_true_eq]; exact id) hwe rest
        cases ht : a.isTuple with
        | true =>
          rw [ht] at hh
          obtain ⟨hcnt, rfl⟩ := hh
          have hsok : (a.dynamic && !sanityOk cfg (bs ++ rest) es.length) = false := by
            cases hd : a.dynamic with
            | false => rfl
            | true => rw [hsan (by simp [ht, hd])]; rfl
          simp only [readTL1M, hg, hna, ht, if_true, hcnt, hsok, Bool.false_eq_true, if_false, hrd]; rfl
        | false =>
          rw [ht] at hh
          obtain ⟨hlt, rfl⟩ := hh
          simp only [readTL1M, hg, hna, ht, Bool.false_eq_true, if_false, List.append_assoc, readU32_u32le_lt hlt,
            hsan (by simp [ht]), Bool.not_true, Except.map, hrd]
      | dict a =>
        obtain ⟨es, na, b, rfl, hna, hwe, hlt, rfl⟩ := writeTL1_dict_ok hg hw
        cases hk : dictKeyPrim d a with
        | none => simp [hna, hk] at hn
        | some k =>
          simp only [hna, hk, Bool.and_eq_true] at hn
          have hsan := sanity_of_min hs hg hSty (f := a.elem) of_decide_eq_true hwe rest
          simp only [readTL1M, hg, hna, hk, List.append_assoc, readU32_u32le_lt hlt, hsan, Bool.not_true, Bool.false_eq_true,
            if_false,
            writeElems_read ih a.elem (hrefs _ (List.mem_singleton.mpr rfl)) na rest es b hn.1 hwe,
            dictStore_sorted m (sl ty) hn.2]

end TLVerif.Codec
