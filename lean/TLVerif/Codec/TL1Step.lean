import TLVerif.Codec.TL1Lemmas
import TLVerif.Codec.BytesVariant
/-!
One unfolding of the TL1 reader.  `ReadStep` lists what `readTL1M m sl cfg d (fuel + 1)` can do at a call, given the reader of
the level below: each outcome with what it says about the descriptor, the input and the loop or call behind the header
(`readTL1M_step`).  Canonicity, totality, the fuel bound and the allocation bound read a run backwards through it.  The
`writeTL1_*` equations compute the writer, the `writeTL1_*_ok` lemmas invert a successful write, and `readTL1M_below` is
monotonicity of the reader in fuel and dictionary storage.  `readTL1` is the `.map` instance (`readTL1M_map`).
-/
namespace TLVerif.Codec
open TLVerif.Prim

variable {m : DictMode} {sl : Nat → Bool} {cfg : Cfg} {d : Desc} {fuel ty : Nat} {bare : Bool} {params : List Nat} {bs : Bytes}

theorem readTL1M_none (hg : d.get? ty = none) : readTL1M m sl cfg d (fuel + 1) ty bare params bs = .error .desc := by
  simp only [readTL1M, hg]

theorem readTL1M_prim {k : PrimK} (hg : d.get? ty = some (.prim k)) :
    readTL1M m sl cfg d (fuel + 1) ty bare params bs = readPrim k bs := by
  simp only [readTL1M, hg]

theorem findVariant_spec (d : Desc) (tag : Nat) (vs : List (Nat × String)) (j : Nat) {i vi : Nat}
    (h : findVariant d tag vs j = some (i, vi)) :
    ∃ s nm n, i = j + n ∧ vs[n]? = some (vi, nm) ∧ d.get? vi = some (.struct s) ∧ s.tag = tag := by
  fun_induction findVariant d tag vs j with
  | case1 => cases h
  | case2 w nm vs j s hg ht => cases h; exact ⟨s, nm, 0, rfl, rfl, hg, ht⟩
  | case3 w nm vs j s hg ht ih =>
    obtain ⟨s', nm', n, e, r⟩ := ih h
    exact ⟨s', nm', n + 1, by omega, r⟩
  | case4 w nm vs j hg ih =>
    obtain ⟨s', nm', n, e, r⟩ := ih h
    exact ⟨s', nm', n + 1, by omega, r⟩

theorem findVariant_ok {d : Desc} {tag : Nat} {vs : List (Nat × String)} {i vi : Nat}
    (h : findVariant d tag vs 0 = some (i, vi)) :
    ∃ s nm, vs[i]? = some (vi, nm) ∧ d.get? vi = some (.struct s) ∧ s.tag = tag := by
  obtain ⟨s, nm, n, e, r⟩ := findVariant_spec d tag vs 0 h
  rw [Nat.zero_add] at e
  exact ⟨s, nm, e ▸ r⟩

section
variable (m : DictMode) (sl : Nat → Bool) (cfg : Cfg) (d : Desc) (rd : Rd) (ty : Nat) (bare : Bool) (params : List Nat) (bs : Bytes)

/-- The outcomes of one unfolding of the reader at `ty bare params bs`, given the reader `rd` of the level below
(`readTL1M m sl cfg d fuel` in `readTL1M_step`; the constructors meet it only inside the loops and the variant call).  An error
is `.eof` or `.rej` (of which nothing more is said: no property asks when), a fault of the descriptor (`noInst` … `noKey`), or
the error of the call or loop behind the header (`fieldsErr`, `variantErr`, `tupleErr`, `countedErr`: a vector's or a dictionary's
elements); an accepted run says which header was consumed, `bs = … ++ bs1`, and what the loop returned.  Only what some proof
reads is recorded: a loop's error forgets the count and sanity checks passed before it (`tupleErr`'s `n` is any number), and
`dictOk`'s `k` is whatever key primitive the run found (`dictKeyPrim d a`), left free because its users hold for every `k`. -/
inductive ReadStep : RRes → Prop
  | eof : ReadStep (.error .eof)
  | rej : ReadStep (.error .rej)
  | noInst (hg : d.get? ty = none) : ReadStep (.error .desc)
  | unionArgs {u : UnionD} (hg : d.get? ty = some (.union u)) (hna : natArgVals [] params u.elemNatArgs = none) :
      ReadStep (.error .desc)
  | elemArgs {a : ArrayD} (hg : d.get? ty = some (.array a) ∨ d.get? ty = some (.dict a))
      (hna : natArgVals [] params a.elem.natArgs = none) : ReadStep (.error .desc)
  | noCount {a : ArrayD} (hg : d.get? ty = some (.array a)) (ht : a.isTuple = true) (hd : a.dynamic = true)
      (hn : params[0]? = none) : ReadStep (.error .desc)
  | noKey {a : ArrayD} (hg : d.get? ty = some (.dict a)) (hk : dictKeyPrim d a = none) : ReadStep (.error .desc)
  | prim {k : PrimK} {v : Val} {r : Bytes} (hg : d.get? ty = some (.prim k)) (h : readPrim k bs = .ok (v, r)) :
      ReadStep (.ok (v, r))
  | fieldsErr {s : StructD} {bs1 : Bytes} {e : CErr} (hg : d.get? ty = some (.struct s))
      (hb : bs = (if bare then [] else u32le s.tag) ++ bs1)
      (h : readFieldsWith rd params s.fields [] bs1 = .error e) : ReadStep (.error e)
  | fieldsOk {s : StructD} {bs1 r : Bytes} {fs : List (Option Val)} (hg : d.get? ty = some (.struct s))
      (hb : bs = (if bare then [] else u32le s.tag) ++ bs1)
      (h : readFieldsWith rd params s.fields [] bs1 = .ok (fs, r)) : ReadStep (.ok (.struct fs, r))
  | variantErr {u : UnionD} {tag i vi : Nat} {na : List Nat} {bs1 : Bytes} {e : CErr} (hg : d.get? ty = some (.union u))
      (hb : bs = u32le tag ++ bs1) (hf : findVariant d tag u.variants 0 = some (i, vi))
      (hna : natArgVals [] params u.elemNatArgs = some na) (h : rd vi true na bs1 = .error e) : ReadStep (.error e)
  | variantOk {u : UnionD} {tag i vi : Nat} {na : List Nat} {bs1 r : Bytes} {x : Val} (hg : d.get? ty = some (.union u))
      (hb : bs = u32le tag ++ bs1) (hf : findVariant d tag u.variants 0 = some (i, vi))
      (hna : natArgVals [] params u.elemNatArgs = some na) (h : rd vi true na bs1 = .ok (x, r)) :
      ReadStep (.ok (.union i x, r))
  | tupleErr {a : ArrayD} {na : List Nat} {n : Nat} {e : CErr} (hg : d.get? ty = some (.array a)) (ht : a.isTuple = true)
      (hna : natArgVals [] params a.elem.natArgs = some na) (h : readElemsWith rd a.elem na n bs = .error e) :
      ReadStep (.error e)
  | tupleOk {a : ArrayD} {na : List Nat} {n : Nat} {vs : List Val} {r : Bytes} (hg : d.get? ty = some (.array a))
      (ht : a.isTuple = true) (hna : natArgVals [] params a.elem.natArgs = some na)
      (hn : (if a.dynamic then params[0]? else some a.count) = some n) (hs : a.dynamic = true → sanityOk cfg bs n = true)
      (h : readElemsWith rd a.elem na n bs = .ok (vs, r)) : ReadStep (.ok (.arr vs, r))
  | countedErr {a : ArrayD} {na : List Nat} {n : Nat} {bs1 : Bytes} {e : CErr}
      (hg : d.get? ty = some (.array a) ∧ a.isTuple = false ∨ d.get? ty = some (.dict a))
      (hna : natArgVals [] params a.elem.natArgs = some na) (hb : bs = u32le n ++ bs1)
      (h : readElemsWith rd a.elem na n bs1 = .error e) : ReadStep (.error e)
  | vectorOk {a : ArrayD} {na : List Nat} {n : Nat} {bs1 r : Bytes} {vs : List Val} (hg : d.get? ty = some (.array a))
      (ht : a.isTuple = false) (hna : natArgVals [] params a.elem.natArgs = some na) (hb : bs = u32le n ++ bs1)
      (hn : n < 4294967296) (hs : sanityOk cfg bs1 n = true)
      (h : readElemsWith rd a.elem na n bs1 = .ok (vs, r)) : ReadStep (.ok (.arr vs, r))
  | dictOk {a : ArrayD} {na : List Nat} {n : Nat} {k : PrimK} {bs1 r : Bytes} {vs vs' : List Val}
      (hg : d.get? ty = some (.dict a)) (hna : natArgVals [] params a.elem.natArgs = some na) (hb : bs = u32le n ++ bs1)
      (hn : n < 4294967296) (hs : sanityOk cfg bs1 n = true)
      (h : readElemsWith rd a.elem na n bs1 = .ok (vs, r)) (hst : dictStore m (sl ty) k vs = .ok vs') :
      ReadStep (.ok (.arr vs', r))
end

theorem dictStore_err {m : DictMode} {b : Bool} {k : PrimK} {vs : List Val} {e : CErr}
    (h : dictStore m b k vs = .error e) : e = .rej := by
  cases m <;> simp only [dictStore] at h <;> try cases h
  split at h <;> cases h; rfl

theorem readTL1M_step {r : RRes} (h : readTL1M m sl cfg d (fuel + 1) ty bare params bs = r) :
    ReadStep m sl cfg d (readTL1M m sl cfg d fuel) ty bare params bs r := by
  subst h
  simp only [readTL1M]
  cases hg : d.get? ty with
  | none => exact .noInst hg
  | some inst =>
    cases inst with
    | prim k =>
      dsimp only
      cases hr : readPrim k bs with
      | error e => rcases readPrim_err hr with rfl | rfl <;> constructor
      | ok p => exact .prim hg hr
    | struct s =>
      dsimp only
      cases hh : (if bare = true then Except.ok bs else readExactTag s.tag bs : Except CErr Bytes) with
      | error e =>
        cases bare with
        | true => cases hh
        | false => rcases readExactTag_err hh with rfl | rfl <;> constructor
      | ok bs1 =>
        have hb : bs = (if bare then [] else u32le s.tag) ++ bs1 := by
          cases bare with
          | true => cases hh; rfl
          | false => exact (readExactTag_inv hh).1
        dsimp only
        cases hr : readFieldsWith (readTL1M m sl cfg d fuel) params s.fields [] bs1 with
        | error e => exact .fieldsErr hg hb hr
        | ok p => exact .fieldsOk hg hb hr
    | union u =>
      dsimp only
      cases h1 : readU32 bs with
      | error e => cases (readU32_err h1).1; exact .eof
      | ok p =>
        obtain ⟨tag, bs1⟩ := p
        dsimp only
        cases hf : findVariant d tag u.variants 0 with
        | none => exact .rej
        | some q =>
          obtain ⟨i, vi⟩ := q
          cases hna : natArgVals [] params u.elemNatArgs with
          | none => exact .unionArgs hg hna
          | some na =>
            dsimp only
            cases hr : readTL1M m sl cfg d fuel vi true na bs1 with
            | error e => exact .variantErr hg (readU32_inv h1).1 hf hna hr
            | ok p => exact .variantOk hg (readU32_inv h1).1 hf hna hr
    | array a =>
      dsimp only
      cases hna : natArgVals [] params a.elem.natArgs with
      | none => exact .elemArgs (Or.inl hg) hna
      | some na =>
        dsimp only
        cases ht : a.isTuple with
        | true =>
          simp only [if_true]
          cases hn : (if a.dynamic = true then params[0]? else some a.count) with
          | none =>
            cases hd : a.dynamic with
            | false => rw [hd] at hn; cases hn
            | true => rw [hd] at hn; exact .noCount hg ht hd hn
          | some n =>
            dsimp only
            cases hs : (a.dynamic && !sanityOk cfg bs n) with
            | true => exact .eof
            | false =>
              simp only [Bool.false_eq_true, if_false]
              cases hr : readElemsWith (readTL1M m sl cfg d fuel) a.elem na n bs with
              | error e => exact .tupleErr hg ht hna hr
              | ok p => exact .tupleOk hg ht hna hn (fun hd => by simpa [hd] using hs) hr
        | false =>
          simp only [Bool.false_eq_true, if_false]
          cases h1 : readU32 bs with
          | error e => cases (readU32_err h1).1; exact .eof
          | ok p =>
            obtain ⟨n, bs1⟩ := p
            dsimp only
            cases hs : sanityOk cfg bs1 n with
            | false => exact .eof
            | true =>
              simp only [Bool.not_true, Bool.false_eq_true, if_false]
              cases hr : readElemsWith (readTL1M m sl cfg d fuel) a.elem na n bs1 with
              | error e => exact .countedErr (Or.inl ⟨hg, ht⟩) hna (readU32_inv h1).1 hr
              | ok p => exact .vectorOk hg ht hna (readU32_inv h1).1 (readU32_inv h1).2 hs hr
    | dict a =>
      dsimp only
      cases hna : natArgVals [] params a.elem.natArgs with
      | none => exact .elemArgs (Or.inr hg) hna
      | some na =>
        dsimp only
        cases h1 : readU32 bs with
        | error e => cases (readU32_err h1).1; exact .eof
        | ok p =>
          obtain ⟨n, bs1⟩ := p
          dsimp only
          cases hs : sanityOk cfg bs1 n with
          | false => exact .eof
          | true =>
            simp only [Bool.not_true, Bool.false_eq_true, if_false]
            cases hk : dictKeyPrim d a with
            | none => exact .noKey hg hk
            | some k =>
              dsimp only
              cases hr : readElemsWith (readTL1M m sl cfg d fuel) a.elem na n bs1 with
              | error e => exact .countedErr (Or.inr hg) hna (readU32_inv h1).1 hr
              | ok p =>
                dsimp only
                cases hst : dictStore m (sl ty) k p.1 with
                | error e => cases dictStore_err hst; exact .rej
                | ok vs' => exact .dictOk hg hna (readU32_inv h1).1 (readU32_inv h1).2 hs hr hst

theorem writeTL1_prim {k : PrimK} (hg : d.get? ty = some (.prim k)) (v : Val) :
    writeTL1 d (fuel + 1) ty bare params v = writePrim k v := by
  simp only [writeTL1, hg]

theorem writeTL1_struct {s : StructD} (hg : d.get? ty = some (.struct s)) (fs : List (Option Val)) :
    writeTL1 d (fuel + 1) ty bare params (.struct fs) =
      (writeFieldsWith (writeTL1 d fuel) params fs s.fields fs).map fun b => (if bare then [] else u32le s.tag) ++ b := by
  simp only [writeTL1, hg]
  cases writeFieldsWith (writeTL1 d fuel) params fs s.fields fs <;> rfl

theorem writeTL1_union {u : UnionD} (hg : d.get? ty = some (.union u)) {i vi : Nat} {nm : String} {na : List Nat}
    (hv : u.variants[i]? = some (vi, nm)) (hna : natArgVals [] params u.elemNatArgs = some na) (x : Val) :
    writeTL1 d (fuel + 1) ty bare params (.union i x) = writeTL1 d fuel vi false na x := by
  simp only [writeTL1, hg, hv, hna]

theorem writeTL1_tuple {a : ArrayD} (hg : d.get? ty = some (.array a)) (ht : a.isTuple = true) {na : List Nat}
    (hna : natArgVals [] params a.elem.natArgs = some na) {n : Nat}
    (hn : (if a.dynamic then params[0]? else some a.count) = some n) (es : List Val) :
    writeTL1 d (fuel + 1) ty bare params (.arr es) =
      if es.length ≠ n then .error .shape else writeElemsWith (writeTL1 d fuel) a.elem na es := by
  simp only [writeTL1, hg, hna, ht, if_true, hn]

theorem writeTL1_vector {a : ArrayD} (hg : d.get? ty = some (.array a)) (ht : a.isTuple = false) {na : List Nat}
    (hna : natArgVals [] params a.elem.natArgs = some na) (es : List Val) :
    writeTL1 d (fuel + 1) ty bare params (.arr es) =
      if es.length ≥ 2 ^ 32 then .error .shape
      else (writeElemsWith (writeTL1 d fuel) a.elem na es).map fun b => u32le es.length ++ b := by
  simp only [writeTL1, hg, hna, ht, Bool.false_eq_true, if_false]

theorem writeTL1_dict {a : ArrayD} (hg : d.get? ty = some (.dict a)) {na : List Nat}
    (hna : natArgVals [] params a.elem.natArgs = some na) (es : List Val) :
    writeTL1 d (fuel + 1) ty bare params (.arr es) =
      if es.length ≥ 2 ^ 32 then .error .shape
      else (writeElemsWith (writeTL1 d fuel) a.elem na es).map fun b => u32le es.length ++ b := by
  simp only [writeTL1, hg, hna]

theorem writeTL1_struct_ok {s : StructD} (hg : d.get? ty = some (.struct s)) {v : Val} {w : Bytes}
    (h : writeTL1 d (fuel + 1) ty bare params v = .ok w) :
    ∃ fs b, v = .struct fs ∧ writeFieldsWith (writeTL1 d fuel) params fs s.fields fs = .ok b ∧
      w = (if bare then [] else u32le s.tag) ++ b := by
  simp only [writeTL1, hg] at h
  split at h
  · rename_i fs
    split at h
    · cases h
    · rename_i b hw; cases h; exact ⟨fs, b, rfl, hw, rfl⟩
  · cases h

theorem writeTL1_union_ok {u : UnionD} (hg : d.get? ty = some (.union u)) {v : Val} {w : Bytes}
    (h : writeTL1 d (fuel + 1) ty bare params v = .ok w) :
    ∃ i x vi nm na, v = .union i x ∧ u.variants[i]? = some (vi, nm) ∧ natArgVals [] params u.elemNatArgs = some na ∧
      writeTL1 d fuel vi false na x = .ok w := by
  simp only [writeTL1, hg] at h
  split at h
  · rename_i i x
    split at h
    · rename_i vi nm na hv hna; exact ⟨i, x, vi, nm, na, rfl, hv, hna, h⟩
    · cases h
    · cases h
  · cases h

theorem writeTL1_array_ok {a : ArrayD} (hg : d.get? ty = some (.array a)) {v : Val} {w : Bytes}
    (h : writeTL1 d (fuel + 1) ty bare params v = .ok w) :
    ∃ es na b, v = .arr es ∧ natArgVals [] params a.elem.natArgs = some na ∧
      writeElemsWith (writeTL1 d fuel) a.elem na es = .ok b ∧
      if a.isTuple then (if a.dynamic then params[0]? else some a.count) = some es.length ∧ w = b
      else es.length < 4294967296 ∧ w = u32le es.length ++ b := by
  simp only [writeTL1, hg] at h
  split at h
  · rename_i es na hna
    cases ht : a.isTuple with
    | true =>
      simp only [ht, if_true] at h
      split at h
      · cases h
      · rename_i n hn
        split at h
        · cases h
        · rename_i hl; exact ⟨es, na, w, rfl, hna, h, Decidable.not_not.mp hl ▸ hn, rfl⟩
    | false =>
      simp only [ht, Bool.false_eq_true, if_false] at h
      split at h
      · cases h
      · rename_i hl
        obtain ⟨b, hw, rfl⟩ := map_ok_inv h
        exact ⟨es, na, b, rfl, hna, hw, Nat.not_le.mp hl, rfl⟩
  · cases h
  · cases h

theorem writeTL1_dict_ok {a : ArrayD} (hg : d.get? ty = some (.dict a)) {v : Val} {w : Bytes}
    (h : writeTL1 d (fuel + 1) ty bare params v = .ok w) :
    ∃ es na b, v = .arr es ∧ natArgVals [] params a.elem.natArgs = some na ∧
      writeElemsWith (writeTL1 d fuel) a.elem na es = .ok b ∧ es.length < 4294967296 ∧ w = u32le es.length ++ b := by
  simp only [writeTL1, hg] at h
  split at h
  · rename_i es na hna
    split at h
    · cases h
    · rename_i hl
      obtain ⟨b, hw, rfl⟩ := map_ok_inv h
      exact ⟨es, na, b, rfl, hna, hw, Nat.not_le.mp hl, rfl⟩
  · cases h
  · cases h

theorem mask_of_absent {f : Field} {acc : List (Option Val)} {params : List Nat}
    (hp : fieldPresent f acc params = some false) : f.mask.isNone = false := by
  unfold fieldPresent at hp
  cases hm : f.mask with
  | none => rw [hm] at hp; cases hp
  | some _ => rfl

theorem readFields_cons (rd : Rd) (params : List Nat) (f : Field) (fs : List Field) (acc : List (Option Val)) (bs : Bytes) :
    readFieldsWith rd params (f :: fs) acc bs =
      match fieldPresent f acc params, natArgVals acc params f.natArgs with
      | some true, some na =>
        (rd f.ty f.bare na bs).bind fun p => readFieldsWith rd params fs (acc ++ [some p.1]) p.2
      | some false, some _ => readFieldsWith rd params fs (acc ++ [none]) bs
      | _, _ => .error .desc := by
  simp only [readFieldsWith]
  cases fieldPresent f acc params with
  | none => rfl
  | some b =>
    cases natArgVals acc params f.natArgs with
    | none => cases b <;> rfl
    | some na =>
      cases b with
      | false => rfl
      | true => simp only; cases rd f.ty f.bare na bs <;> rfl

theorem readElems_succ (rd : Rd) (f : Field) (na : List Nat) (n : Nat) (bs : Bytes) :
    readElemsWith rd f na (n + 1) bs =
      (rd f.ty f.bare na bs).bind fun p => (readElemsWith rd f na n p.2).map fun q => (p.1 :: q.1, q.2) := by
  simp only [readElemsWith]
  cases rd f.ty f.bare na bs with
  | error e => rfl
  | ok p => simp only [Except.bind]; cases readElemsWith rd f na n p.2 <;> rfl

theorem readElems_length {rd : Rd} {f : Field} {na : List Nat} {n : Nat} {bs : Bytes} {vs : List Val} {rest : Bytes}
    (h : readElemsWith rd f na n bs = .ok (vs, rest)) : vs.length = n := by
  fun_induction readElemsWith rd f na n bs generalizing vs rest with
  | case1 => cases h; rfl
  | case2 | case3 => cases h
  | case4 n bs v bs' hr vs' r hr2 ih => cases h; rw [List.length_cons, ih hr2]

theorem writeFields_cons_ok {wr : Wr} {params : List Nat} {all : List (Option Val)} {f : Field} {fs : List Field}
    {v : Option Val} {vs : List (Option Val)} {w : Bytes}
    (h : writeFieldsWith wr params all (f :: fs) (v :: vs) = .ok w) :
    ∃ na, natArgVals all params f.natArgs = some na ∧
      ((fieldPresent f all params = some true ∧ ∃ x b bs, v = some x ∧ wr f.ty f.bare na x = .ok b ∧
          writeFieldsWith wr params all fs vs = .ok bs ∧ w = b ++ bs) ∨
       (fieldPresent f all params = some false ∧ writeFieldsWith wr params all fs vs = .ok w)) := by
  simp only [writeFieldsWith] at h
  split at h
  · rename_i na hp hna
    cases v with
    | none => cases h
    | some x =>
      simp only at h
      cases hx : wr f.ty f.bare na x with
      | error e => rw [hx] at h; cases h
      | ok b =>
        cases hr : writeFieldsWith wr params all fs vs with
        | error e => rw [hx, hr] at h; cases h
        | ok bs => rw [hx, hr] at h; cases h; exact ⟨na, hna, Or.inl ⟨hp, x, b, bs, rfl, hx, rfl, rfl⟩⟩
  · rename_i na hp hna
    exact ⟨na, hna, Or.inr ⟨hp, h⟩⟩
  · cases h

theorem writeElems_cons_ok {wr : Wr} {f : Field} {na : List Nat} {v : Val} {vs : List Val} {w : Bytes}
    (h : writeElemsWith wr f na (v :: vs) = .ok w) :
    ∃ b bs, wr f.ty f.bare na v = .ok b ∧ writeElemsWith wr f na vs = .ok bs ∧ w = b ++ bs := by
  simp only [writeElemsWith] at h
  cases hx : wr f.ty f.bare na v with
  | error e => rw [hx] at h; cases h
  | ok b =>
    cases hr : writeElemsWith wr f na vs with
    | error e => rw [hx, hr] at h; cases h
    | ok bs => rw [hx, hr] at h; cases h; exact ⟨b, bs, rfl, rfl, rfl⟩

/-- `r'` is `r`, unless `r` is one of the errors `E` (which stand for "no answer yet") -/
def Below {α} (E : CErr → Prop) (r r' : Except CErr α) : Prop := (∀ e, E e → r ≠ .error e) → r' = r

theorem Below.refl {α} {E : CErr → Prop} (r : Except CErr α) : Below E r r := fun _ => rfl

theorem Below.bind {α β} {E : CErr → Prop} {x x' : Except CErr α} {f f' : α → Except CErr β}
    (hx : Below E x x') (hf : ∀ a, Below E (f a) (f' a)) : Below E (x.bind f) (x'.bind f') := by
  intro hne
  cases x with
  | error e => rw [hx (fun e' he c => hne e' he (by rw [c]; rfl))]; rfl
  | ok a => rw [hx (fun _ _ c => nomatch c)]; exact hf a hne

theorem Below.map {α β} {E : CErr → Prop} {x x' : Except CErr α} (g : α → β) (hx : Below E x x') :
    Below E (x.map g) (x'.map g) := by
  intro hne
  cases x with
  | error e => rw [hx (fun e' he c => hne e' he (by rw [c]; rfl))]
  | ok a => rw [hx (fun _ _ c => nomatch c)]

def RdBelow (E : CErr → Prop) (rd rd' : Rd) : Prop := ∀ ty bare na bs, Below E (rd ty bare na bs) (rd' ty bare na bs)

theorem readFields_below {E : CErr → Prop} {rd rd' : Rd} (h : RdBelow E rd rd') (params : List Nat) :
    ∀ (fields : List Field) (acc : List (Option Val)) (bs : Bytes),
      Below E (readFieldsWith rd params fields acc bs) (readFieldsWith rd' params fields acc bs)
  | [], _, _ => Below.refl _
  | f :: fs, acc, bs => by
    rw [readFields_cons, readFields_cons]
    split
    · exact Below.bind (h _ _ _ _) (fun p => readFields_below h params fs _ _)
    · exact readFields_below h params fs _ _
    · exact Below.refl _

theorem readElems_below {E : CErr → Prop} {rd rd' : Rd} (h : RdBelow E rd rd') (f : Field) (na : List Nat) :
    ∀ (n : Nat) (bs : Bytes), Below E (readElemsWith rd f na n bs) (readElemsWith rd' f na n bs)
  | 0, _ => Below.refl _
  | n + 1, bs => by
    rw [readElems_succ, readElems_succ]
    exact Below.bind (h _ _ _ _) (fun p => Below.map _ (readElems_below h f na n _))

/-- the reader grows with the fuel and with the dictionary storage: the one induction behind `readTL1_fuel_mono`
(`E` = out of fuel, same storage) and the comparison of the strict reader with the others (`E` = every error, same fuel) -/
theorem readTL1M_below {E : CErr → Prop} (hE : E .fuel) {m m' : DictMode} {sl sl' : Nat → Bool}
    (hst : ∀ ty k vs, Below E (dictStore m (sl ty) k vs) (dictStore m' (sl' ty) k vs)) (cfg : Cfg) (d : Desc) :
    ∀ {n n' : Nat}, n ≤ n' → RdBelow E (readTL1M m sl cfg d n) (readTL1M m' sl' cfg d n')
  | 0, _, _ => fun _ _ _ _ hne => absurd rfl (hne _ hE)
  | n + 1, n' + 1, hn => by
    have ih : RdBelow E (readTL1M m sl cfg d n) (readTL1M m' sl' cfg d n') := readTL1M_below hE hst cfg d (Nat.le_of_succ_le_succ hn)
    intro ty bare params bs
    simp only [readTL1M]
    -- the two readers branch on the same scrutinees, word for word, until they call the reader below; what that call
    -- (or loop) returns goes through the same `match` on both sides: `rw [c]` evaluates it at an error
    cases d.get? ty with
    | none => exact Below.refl _
    | some inst =>
      cases inst with
      | prim k => exact Below.refl _
      | struct s =>
        dsimp only
        cases (if bare = true then Except.ok bs else readExactTag s.tag bs : Except CErr Bytes) with
        | error e => exact Below.refl _
        | ok bs1 =>
          intro hne
          dsimp only at hne ⊢
          rw [readFields_below ih params s.fields [] bs1 fun e he c => hne e he (by rw [c])]
      | union u =>
        dsimp only
        cases readU32 bs with
        | error e => exact Below.refl _
        | ok p =>
          obtain ⟨tag, bs1⟩ := p
          dsimp only
          cases findVariant d tag u.variants 0 with
          | none => exact Below.refl _
          | some q =>
            obtain ⟨i, vi⟩ := q
            cases natArgVals [] params u.elemNatArgs with
            | none => exact Below.refl _
            | some na =>
              intro hne
              dsimp only at hne ⊢
              rw [ih vi true na bs1 fun e he c => hne e he (by rw [c])]
      | array a =>
        dsimp only
        cases natArgVals [] params a.elem.natArgs with
        | none => exact Below.refl _
        | some na =>
          dsimp only
          cases a.isTuple with
          | true =>
            simp only [if_true]
            cases (if a.dynamic = true then params[0]? else some a.count) with
            | none => exact Below.refl _
            | some cnt =>
              dsimp only
              cases (a.dynamic && !sanityOk cfg bs cnt) with
              | true => exact Below.refl _
              | false => exact Below.map _ (readElems_below ih _ _ _ _)
          | false =>
            simp only [Bool.false_eq_true, if_false]
            cases readU32 bs with
            | error e => exact Below.refl _
            | ok p =>
              obtain ⟨cnt, bs1⟩ := p
              dsimp only
              cases (!sanityOk cfg bs1 cnt) with
              | true => exact Below.refl _
              | false => exact Below.map _ (readElems_below ih _ _ _ _)
      | dict a =>
        dsimp only
        cases natArgVals [] params a.elem.natArgs with
        | none => exact Below.refl _
        | some na =>
          dsimp only
          cases readU32 bs with
          | error e => exact Below.refl _
          | ok p =>
            obtain ⟨cnt, bs1⟩ := p
            dsimp only
            cases (!sanityOk cfg bs1 cnt) with
            | true => exact Below.refl _
            | false =>
              simp only [Bool.false_eq_true, if_false]
              cases dictKeyPrim d a with
              | none => exact Below.refl _
              | some k =>
                intro hne
                dsimp only at hne ⊢
                rw [readElems_below ih a.elem na cnt bs1 fun e he c => hne e he (by rw [c])]
                cases hr : readElemsWith (readTL1M m sl cfg d n) a.elem na cnt bs1 with
                | error e => rfl
                | ok q =>
                  rw [hr] at hne
                  dsimp only at hne ⊢
                  rw [hst ty k q.1 fun e he c => hne e he (by rw [c])]

theorem readTL1M_map (sl : Nat → Bool) (cfg : Cfg) (d : Desc) : ∀ fuel, readTL1M .map sl cfg d fuel = readTL1 cfg d fuel := by
  intro fuel
  induction fuel with
  | zero => rfl
  | succ fuel ih =>
    funext ty bare params bs
    rw [readTL1M, readTL1, ih]
    dsimp only
    -- the two definitions differ only in the last match of the `dict` branch: the case splits walk down to it
    cases d.get? ty with
    | none => rfl
    | some inst =>
      cases inst with
      | dict a =>
        simp only
        cases natArgVals [] params a.elem.natArgs with
        | none => rfl
        | some na =>
          simp only
          cases readU32 bs with
          | error e => rfl
          | ok p =>
            obtain ⟨n, bs1⟩ := p
            simp only
            split
            · rfl
            · cases dictKeyPrim d a with
              | none => rfl
              | some k =>
                simp only
                cases readElemsWith (readTL1 cfg d fuel) a.elem na n bs1 with
                | error e => rfl
                | ok q => obtain ⟨vs, r⟩ := q; rfl
      | _ => rfl

end TLVerif.Codec
