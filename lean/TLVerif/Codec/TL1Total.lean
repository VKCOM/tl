import TLVerif.Codec.TL1Canon
namespace TLVerif.Codec
open TLVerif.Prim

/-!
Totality side of the TL1 reader model (C08): monotonicity in fuel, input never grows, no `.desc` error on
well-formed descriptors, enough fuel never runs out, and a count that passed the sanity check bounds what is allocated
(`readTL1M_alloc_bound`).  The inductions are over `readTL1M` (any storage of dictionaries); `readTL1` is its `.map` instance.
-/

theorem readTL1_zero (cfg : Cfg) (d : Desc) : readTL1 cfg d 0 = fun _ _ _ _ => .error .fuel := rfl

/-- `readTL1M_below` with "out of fuel" as the only undefined result -/
theorem readTL1_fuel_mono (cfg : Cfg) (d : Desc) {n m : Nat} (hnm : n ≤ m) (ty : Nat) (bare : Bool) (params : List Nat)
    (bs : Bytes) (h : readTL1 cfg d n ty bare params bs ≠ .error .fuel) :
    readTL1 cfg d m ty bare params bs = readTL1 cfg d n ty bare params bs := by
  rw [← readTL1M_map (fun _ => true) cfg d n] at h ⊢
  rw [← readTL1M_map (fun _ => true) cfg d m]
  exact readTL1M_below (E := (· = .fuel)) rfl (fun _ _ _ => Below.refl _) cfg d hnm ty bare params bs
    (fun e he c => h (he ▸ c))

theorem length_word {bs bs1 : Bytes} {w : Nat} (e : bs = u32le w ++ bs1) : bs1.length + 4 = bs.length := by
  rw [e, List.length_append, u32le_length]; omega

def Consuming (d : Desc) (rd : Rd) : Prop :=
  ∀ ⦃ty bare na bs v rest⦄, rd ty bare na bs = .ok (v, rest) →
    rest.length + (if d.consumes ty bare then 1 else 0) ≤ bs.length

theorem Consuming.shrinks {d : Desc} {rd : Rd} (h : Consuming d rd) {ty : Nat} {bare : Bool} {na : List Nat} {bs rest : Bytes} {v : Val}
    (hr : rd ty bare na bs = .ok (v, rest)) : rest.length ≤ bs.length :=
  Nat.le_trans (Nat.le_add_right _ _) (h hr)

/-- the prefix that `readTL1M_canonNm` exhibits, measured; no hypothesis on the descriptor: the empty set of types is closed -/
theorem readTL1M_consuming (m : DictMode) (sl : Nat → Bool) (cfg : Cfg) (d : Desc) (fuel : Nat) :
    Consuming d (readTL1M m sl cfg d fuel) := by
  have hS : ∀ p, d.allOn (fun _ => false) p = true := fun _ => List.all_eq_true.mpr fun _ _ => rfl
  intro ty bare params bs v rest h
  obtain ⟨pre, e, hc, _⟩ := readTL1M_canonNm ByteRel.eq m sl cfg d _ (hS _) (hS _) (Or.inl (hS _)) fuel h
  rw [e, List.length_append]
  split
  · have := hc ‹_›; omega
  · omega

theorem fieldsProductive_guarded (d : Desc) (rk : List Nat) (r : Nat) : ∀ fs, fieldsProductive d rk r true fs = true
  | [] => rfl
  | f :: fs => by simp only [fieldsProductive, Bool.true_or, Bool.true_and, fieldsProductive_guarded d rk r fs]

/-- `g` says that input was surely consumed since the struct began: then (`HG`) the budget of the shorter input
applies, otherwise (`HU`) only calls to a smaller rank are covered -/
theorem readFields_nofuel {d : Desc} {rk : List Nat} {r : Nat} {rd : Rd} (hc : Consuming d rd)
    (params : List Nat) (L : Nat)
    (HU : ∀ ty bare na bs', rkOf d rk ty bare < r → bs'.length ≤ L → rd ty bare na bs' ≠ .error .fuel)
    (HG : ∀ ty bare na bs', bs'.length + 1 ≤ L → rd ty bare na bs' ≠ .error .fuel)
    (fields : List Field) (g : Bool) (acc : List (Option Val)) (bs : Bytes)
    (hprod : fieldsProductive d rk r g fields = true) (hl : bs.length ≤ L) (hg : g = true → bs.length + 1 ≤ L) :
    readFieldsWith rd params fields acc bs ≠ .error .fuel := by
  intro h
  fun_induction readFieldsWith rd params fields acc bs generalizing g with
  | case1 | case5 => cases h -- no field left; mask or arguments do not evaluate (`.desc`, not `.fuel`)
  | case2 f fs acc bs na hna hp e hr => -- present, the call fails
    cases h
    simp only [fieldsProductive, Bool.and_eq_true, Bool.or_eq_true, decide_eq_true_eq] at hprod
    rcases hprod.1 with hg' | hr'
    · exact HG _ _ _ _ (hg hg') hr
    · exact HU _ _ _ _ hr' hl hr
  | case3 f fs acc bs na hna hp v bs' hr ih => -- present and read
    simp only [fieldsProductive, Bool.and_eq_true, Bool.or_eq_true, decide_eq_true_eq] at hprod
    have hsh := hc hr
    refine ih _ hprod.2 (by omega) ?_ h
    intro hg'
    simp only [Bool.or_eq_true, Bool.and_eq_true] at hg'
    rcases hg' with hg' | ⟨_, hcons⟩
    · have := hg hg'; omega
    · rw [if_pos hcons] at hsh; omega
  | case4 f fs acc bs na hna hp ih => -- absent
    simp only [fieldsProductive, Bool.and_eq_true, Bool.or_eq_true, decide_eq_true_eq] at hprod
    refine ih _ hprod.2 hl ?_ h
    intro hg'
    simp only [mask_of_absent hp, Bool.false_and, Bool.or_false] at hg'
    exact hg hg'

theorem readElems_noerr {d : Desc} {rd : Rd} (hs : Consuming d rd) (f : Field) (na : List Nat) (L : Nat) {e : CErr}
    (hf : ∀ bs', bs'.length ≤ L → rd f.ty f.bare na bs' ≠ .error e) (n : Nat) (bs : Bytes) (hl : bs.length ≤ L) :
    readElemsWith rd f na n bs ≠ .error e := by
  intro h
  fun_induction readElemsWith rd f na n bs with
  | case1 => cases h
  | case2 n bs e' hr => cases h; exact hf bs hl hr
  | case3 n bs v bs' hr e' hr2 ih => cases h; exact ih (Nat.le_trans (hs.shrinks hr) hl) hr2
  | case4 => cases h

/-! the budget `L * K + r + 1` of the lexicographic measure `(L, r)` with `r < K`, one unit spent: it covers a call that does
not raise `L` and lowers `r`, and a call that lowers `L`, at any `r' < K` (here `L` = input length; in `RandomTerm`, depth left) -/

theorem budget_rank {K L L' r r' fuel : Nat} (hl : L' ≤ L) (hr : r' < r) (h : L * K + r + 1 ≤ fuel + 1) :
    L' * K + r' + 1 ≤ fuel := by
  have := Nat.mul_le_mul_right K hl
  omega

theorem budget_major {K L L' r r' fuel : Nat} (hl : L' + 1 ≤ L) (hr : r' < K) (h : L * K + r + 1 ≤ fuel + 1) :
    L' * K + r' + 1 ≤ fuel := by
  have := Nat.mul_le_mul_right K hl
  rw [Nat.add_mul, Nat.one_mul] at this
  omega

theorem rkOf_le {d : Desc} {rk : List Nat} (hp : d.productive rk = true) (ty : Nat) (bare : Bool) :
    rkOf d rk ty bare ≤ d.insts.size := by
  simp only [Desc.productive, Bool.and_eq_true] at hp
  unfold rkOf rkAt
  split
  · exact Nat.zero_le _
  · cases hi : rk[ty]? with
    | none => exact Nat.zero_le _
    | some r => simpa using (List.all_eq_true.mp hp.1) r (List.mem_of_getElem? hi)

theorem Desc.productive_get {d : Desc} {rk : List Nat} (h : d.productive rk = true) {ty : Nat} {inst : Inst}
    (hg : d.get? ty = some inst) : inst.productive d rk ty = true := by
  simp only [Desc.productive, Bool.and_eq_true] at h
  have := (List.all_eq_true.mp h.2) ty (List.mem_range.mpr (Desc.get?_lt hg))
  simpa [hg] using this

/-- the budget: one unit per rank step while no input is consumed, a full round of ranks per consumed byte -/
theorem readTL1M_fuel_suffices (m : DictMode) (sl : Nat → Bool) (cfg : Cfg) (d : Desc) (rk : List Nat)
    (hp : d.productive rk = true) :
    ∀ (fuel ty : Nat) (bare : Bool) (params : List Nat) (bs : Bytes),
      bs.length * (d.insts.size + 1) + rkOf d rk ty bare + 1 ≤ fuel →
      readTL1M m sl cfg d fuel ty bare params bs ≠ .error .fuel
  | 0, _, _, _, _, h => by omega
  | fuel + 1, ty, bare, params, bs, hfu => by
    have hK : ∀ ty bare, rkOf d rk ty bare < d.insts.size + 1 := fun ty bare => Nat.lt_succ_of_le (rkOf_le hp ty bare)
    have ih := readTL1M_fuel_suffices m sl cfg d rk hp fuel
    have hc := readTL1M_consuming m sl cfg d fuel
    -- once a byte is consumed, every call is within budget
    have guarded : ∀ ty' bare' na bs', bs'.length + 1 ≤ bs.length →
        readTL1M m sl cfg d fuel ty' bare' na bs' ≠ .error .fuel :=
      fun _ _ _ _ hl => ih _ _ _ _ (budget_major hl (hK _ _) hfu)
    intro h
    -- no header runs out of fuel: the answer is that of the loop or call behind it
    cases readTL1M_step h with
    | fieldsErr hg hb hr =>
      have hprod := Desc.productive_get hp hg
      cases bare with
      | true =>
        have hrk : rkOf d rk ty true = rkAt rk ty := by simp [rkOf]
        rw [hrk] at hfu
        cases hb
        exact readFields_nofuel hc params _
          (fun _ _ _ _ hrk hl => ih _ _ _ _ (budget_rank hl hrk hfu)) guarded
          _ false [] _ hprod (Nat.le_refl _) (fun c => nomatch c) hr
      | false =>
        have hlen := length_word hb
        exact readFields_nofuel (r := 0) hc params bs.length (fun _ _ _ _ hrk => absurd hrk (Nat.not_lt_zero _)) guarded
          _ true [] _ (fieldsProductive_guarded d rk 0 _) (by omega) (fun _ => by omega) hr
    | variantErr _ hb _ _ hr => exact guarded _ _ _ _ (by have := length_word hb; omega) hr
    | tupleErr hg ht _ hr =>
      -- a tuple reads its elements from the same input: they have smaller rank
      have hprod := Desc.productive_get hp hg
      have hrk : rkOf d rk ty bare = rkAt rk ty := by simp [rkOf, hg]
      simp only [Inst.productive, ht, Bool.not_true, Bool.false_or, decide_eq_true_eq] at hprod
      exact readElems_noerr hc _ _ bs.length (fun bs' hl => ih _ _ _ _ (budget_rank hl hprod (hrk ▸ hfu))) _ bs (Nat.le_refl _) hr
    | countedErr _ _ hb hr =>
      exact readElems_noerr hc _ _ _ (fun bs' hl => guarded _ _ _ bs' (by have := length_word hb; omega)) _ _ (Nat.le_refl _) hr

def CallOk (d : Desc) (ty : Nat) (na : List Nat) : Prop := ∃ inst, d.get? ty = some inst ∧ inst.nparams ≤ na.length

def TotalRd (d : Desc) (rd : Rd) : Prop := ∀ ty bare na bs, CallOk d ty na → rd ty bare na bs ≠ .error .desc

def NumRd (d : Desc) (rd : Rd) : Prop :=
  ∀ ty bare na bs v r, d.isNumTy ty = true → rd ty bare na bs = .ok (v, r) → ∃ n, v = .nat n

/-- the invariant of `readFields_total`: `nums` (which fields so far are numeric, as `Desc.fieldsOk` counts them) describes the
fields `acc` read so far, so every nat argument that `fieldsOk` admits evaluates in `acc` -/
def AccInv (np : Nat) (params : List Nat) (nums : List Bool) (acc : List (Option Val)) : Prop :=
  acc.length = nums.length ∧ ∀ a : NatArg, a.okIn np nums = true → ∃ x, natArgVal acc params a = some x

theorem natArgVals_total {np : Nat} {nums : List Bool} {acc : List (Option Val)} {params : List Nat} {as : List NatArg}
    (ha : as.all (NatArg.okIn np nums) = true) (hacc : AccInv np params nums acc) :
    ∃ xs, natArgVals acc params as = some xs ∧ xs.length = as.length := by
  induction as with
  | nil => exact ⟨[], rfl, rfl⟩
  | cons a as ih =>
    simp only [List.all_cons, Bool.and_eq_true] at ha
    obtain ⟨x, hx⟩ := hacc.2 a ha.1
    obtain ⟨xs, hxs, hl⟩ := ih ha.2
    exact ⟨x :: xs, by simp [natArgVals, hx, hxs], by simp [hl]⟩

theorem accInv_nil {np : Nat} {params : List Nat} (hnp : np ≤ params.length) : AccInv np params [] [] := by
  refine ⟨rfl, fun a ha => ?_⟩
  cases a with
  | num n => exact ⟨n, rfl⟩
  | param i =>
    have : i < params.length := Nat.lt_of_lt_of_le (of_decide_eq_true ha) hnp
    exact ⟨params[i], by simp [natArgVal, this]⟩
  | field i => cases ha

theorem accInv_snoc {np : Nat} {params : List Nat} {nums : List Bool} {acc : List (Option Val)} (h : AccInv np params nums acc)
    (b : Bool) (o : Option Val) (ho : b = true → o = none ∨ ∃ n, o = some (Val.nat n)) :
    AccInv np params (nums ++ [b]) (acc ++ [o]) := by
  refine ⟨by simp [h.1], fun a ha => ?_⟩
  cases a with
  | field i =>
    simp only [NatArg.okIn, List.getElem?_append] at ha
    split at ha
    · obtain ⟨x, hx⟩ := h.2 (.field i) ha
      exact ⟨x, (natArgVal_ext (Or.inr ⟨x, hx⟩) _).trans hx⟩
    · cases hj : i - nums.length with
      | zero =>
        obtain rfl : i = acc.length := by have := h.1; omega
        rw [hj] at ha
        rcases ho ha with rfl | ⟨n, rfl⟩
        · exact ⟨0, by simp only [natArgVal, List.getElem?_concat_length]⟩
        · exact ⟨n, by simp only [natArgVal, List.getElem?_concat_length]⟩
      | succ j => rw [hj] at ha; cases ha
  | num n => exact ⟨n, rfl⟩
  | param i => exact h.2 (.param i) ha

theorem refOk_call {d : Desc} {np : Nat} {nums : List Bool} {f : Field} (h : d.refOk np nums f = true)
    {acc : List (Option Val)} {params : List Nat} (hacc : AccInv np params nums acc) :
    ∃ na, natArgVals acc params f.natArgs = some na ∧ CallOk d f.ty na := by
  simp only [Desc.refOk, Bool.and_eq_true] at h
  obtain ⟨na, hna, hl⟩ := natArgVals_total h.2 hacc
  cases hg : d.get? f.ty with
  | none => rw [hg] at h; cases h.1
  | some inst =>
    rw [hg] at h
    exact ⟨na, hna, inst, hg, by have := of_decide_eq_true h.1; omega⟩

theorem readFields_total {d : Desc} {rd : Rd} (ht : TotalRd d rd) (hnum : NumRd d rd) {np : Nat} (params : List Nat) :
    ∀ (fields : List Field) (nums : List Bool) (acc : List (Option Val)) (bs : Bytes),
      d.fieldsOk np nums fields = true → AccInv np params nums acc →
      readFieldsWith rd params fields acc bs ≠ .error .desc
  | [], _, _, _, _, _ => fun h => nomatch h
  | f :: fs, nums, acc, bs, hok, hacc => by
    intro h
    simp only [Desc.fieldsOk, Desc.fieldOk, Bool.and_eq_true] at hok
    obtain ⟨⟨href, hmask⟩, hrest⟩ := hok
    obtain ⟨na, hna, hcall⟩ := refOk_call href hacc
    obtain ⟨b, hb⟩ : ∃ b, fieldPresent f acc params = some b := by
      unfold fieldPresent
      cases hm : f.mask with
      | none => exact ⟨true, rfl⟩
      | some p =>
        rw [hm] at hmask
        obtain ⟨x, hx⟩ := hacc.2 _ hmask
        exact ⟨testBit x p.2, by simp only [hx, Option.map_some]⟩
    simp only [readFields_cons, hb, hna] at h
    cases b with
    | true =>
      rcases bind_error_inv h with hr | ⟨⟨v, bs'⟩, hr, h⟩
      · exact ht _ _ _ _ hcall hr
      · exact readFields_total ht hnum params fs _ _ _ hrest (accInv_snoc hacc _ _ fun hn =>
          Or.inr ((hnum _ _ _ _ _ _ hn hr).imp fun n hv => by rw [hv])) h
    | false => exact readFields_total ht hnum params fs _ _ _ hrest (accInv_snoc hacc _ _ (fun _ => Or.inl rfl)) h

theorem readPrim_num {k : PrimK} (hk : isNumPrim k = true) {bs r : Bytes} {v : Val} (h : readPrim k bs = .ok (v, r)) :
    ∃ n, v = .nat n := by
  cases k with
  | u32 | i32 | f32 | u64 | i64 | f64 =>
    obtain ⟨⟨n, r'⟩, _, hv⟩ := map_ok_inv h
    cases hv; exact ⟨n, rfl⟩
  | byte => cases bs <;> cases h; exact ⟨_, rfl⟩
  | str | bit | bool => cases hk

theorem readTL1M_num (m : DictMode) (sl : Nat → Bool) (cfg : Cfg) (d : Desc) (fuel : Nat) :
    NumRd d (readTL1M m sl cfg d fuel) := by
  intro ty bare na bs v r hn h
  unfold Desc.isNumTy at hn
  split at hn
  · rename_i k hg
    cases fuel with
    | zero => cases h
    | succ fuel => rw [readTL1M_prim hg] at h; exact readPrim_num hn h
  · cases hn

theorem Desc.wf_get {d : Desc} (h : d.wf = true) {ty : Nat} {i : Inst} (hg : d.get? ty = some i) : i.wf d = true :=
  (List.all_eq_true.mp h) _ (Desc.get?_mem hg)

theorem readTL1M_total (m : DictMode) (sl : Nat → Bool) (cfg : Cfg) (d : Desc) (hwf : d.wf = true) :
    ∀ fuel, TotalRd d (readTL1M m sl cfg d fuel)
  | 0 => fun _ _ _ _ _ h => nomatch h
  | fuel + 1 => by
    have ht := readTL1M_total m sl cfg d hwf fuel
    have hc := readTL1M_consuming m sl cfg d fuel
    intro ty bare params bs ⟨inst, hg, hnp⟩ h
    have hi := Desc.wf_get hwf hg
    have helem : ∀ a, d.get? ty = some (.array a) ∨ d.get? ty = some (.dict a) →
        ∃ na, natArgVals [] params a.elem.natArgs = some na ∧ CallOk d a.elem.ty na := by
      rintro a (hg' | hg') <;> cases hg.symm.trans hg' <;> simp only [Inst.wf, Bool.and_eq_true] at hi <;>
        exact refOk_call hi.1 (accInv_nil hnp)
    -- a header that faults contradicts `Inst.wf`; otherwise the fault is that of the loop or call behind it
    cases readTL1M_step h with
    | noInst hg' => cases hg.symm.trans hg'
    | fieldsErr hg' _ hr =>
      cases hg.symm.trans hg'
      exact readFields_total ht (readTL1M_num m sl cfg d fuel) params _ [] [] _ hi (accInv_nil hnp) hr
    | unionArgs hg' e =>
      cases hg.symm.trans hg'
      simp only [Inst.wf, Bool.and_eq_true] at hi
      obtain ⟨na', hna', _⟩ := natArgVals_total hi.1 (accInv_nil hnp)
      cases hna'.symm.trans e
    | variantErr hg' _ hf hna hr =>
      cases hg.symm.trans hg'
      simp only [Inst.wf, Bool.and_eq_true] at hi
      obtain ⟨na', hna', hl⟩ := natArgVals_total hi.1 (accInv_nil hnp)
      obtain ⟨s, nm, hv, hgv, _⟩ := findVariant_ok hf
      have hvar := (List.all_eq_true.mp hi.2) _ (List.mem_of_getElem? hv)
      simp only [hgv, decide_eq_true_eq] at hvar
      cases hna'.symm.trans hna
      exact ht _ _ _ _ ⟨_, hgv, by simp only [Inst.nparams] at hvar ⊢; omega⟩ hr
    | elemArgs hg' e =>
      obtain ⟨na, hna, _⟩ := helem _ hg'
      cases hna.symm.trans e
    | noCount hg' ht' hd e =>
      -- a dynamic tuple has its count among the parameters
      cases hg.symm.trans hg'
      simp only [Inst.wf, ht', hd, Bool.and_self, Bool.not_true, Bool.false_or, Bool.and_eq_true, decide_eq_true_eq, Inst.nparams] at hi hnp
      rw [List.getElem?_eq_none_iff] at e
      omega
    | noKey hg' e =>
      cases hg.symm.trans hg'
      simp only [Inst.wf, Bool.and_eq_true] at hi
      rw [e] at hi; cases hi.2
    | tupleErr hg' _ hna hr =>
      obtain ⟨na', hna', hcall⟩ := helem _ (Or.inl hg')
      cases hna'.symm.trans hna
      exact readElems_noerr hc _ _ _ (fun _ _ => ht _ _ _ _ hcall) _ _ (Nat.le_refl _) hr
    | countedErr hg' hna _ hr =>
      obtain ⟨na', hna', hcall⟩ := helem _ (hg'.imp_left (·.1))
      cases hna'.symm.trans hna
      exact readElems_noerr hc _ _ _ (fun _ _ => ht _ _ _ _ hcall) _ _ (Nat.le_refl _) hr

/-- `CheckLengthSanity(w, n, 4)`: an accepted count is at most a quarter of the remaining input -/
theorem sanityOk_bound {cfg : Cfg} (hc : cfg.sanity = true) {bs : Bytes} {n : Nat} (h : sanityOk cfg bs n = true) :
    n ≤ bs.length / 4 :=
  (Nat.le_div_iff_mul_le (by decide)).mpr (by simpa [sanityOk, hc] using h)

theorem dictStore_length {m : DictMode} {b : Bool} {k : PrimK} {vs vs' : List Val}
    (h : dictStore m b k vs = .ok vs') : vs'.length ≤ vs.length := by
  cases m <;> simp only [dictStore] at h
  · cases h; exact dictNormalize_length_le k vs
  · cases h; split
    · exact Nat.le_refl _
    · exact dictNormalize_length_le k vs
  · split at h <;> cases h; exact Nat.le_refl _

/-- with the sanity check on, every vector / dynamic tuple / dictionary the reader returns has at most
`|input| / 4` elements (the `make` the Go reader performs before reading the elements is bounded by `sanityOk_bound` alone,
whether or not the run is then accepted; this is the bound on what an accepted run keeps) -/
theorem readTL1M_alloc_bound (m : DictMode) (sl : Nat → Bool) {cfg : Cfg} (hc : cfg.sanity = true) (d : Desc) (fuel ty : Nat)
    (bare : Bool) (params : List Nat) (bs : Bytes) (v : Val) (rest : Bytes) (a : ArrayD)
    (hg : d.get? ty = some (.dict a) ∨ (d.get? ty = some (.array a) ∧ (a.isTuple = false ∨ a.dynamic = true)))
    (h : readTL1M m sl cfg d fuel ty bare params bs = .ok (v, rest)) :
    ∃ vs, v = .arr vs ∧ vs.length ≤ bs.length / 4 := by
  cases fuel with
  | zero => cases h
  | succ fuel =>
    have hkind : ∀ i, d.get? ty = some i → i = .dict a ∨ i = .array a ∧ (a.isTuple = false ∨ a.dynamic = true) :=
      fun i hi => hg.imp (fun hg => Option.some.inj (hi.symm.trans hg)) (fun hg => ⟨Option.some.inj (hi.symm.trans hg.1), hg.2⟩)
    -- a count word accepted by the sanity check
    have hword : ∀ {n w : Nat} {bs1 : Bytes}, bs = u32le w ++ bs1 → sanityOk cfg bs1 n = true → n ≤ bs.length / 4 :=
      fun e hs => Nat.le_trans (sanityOk_bound hc hs) (Nat.div_le_div_right (Nat.le.intro (length_word e)))
    cases readTL1M_step h with
    | prim hg' _ => rcases hkind _ hg' with e | ⟨e, _⟩ <;> cases e
    | fieldsOk hg' => rcases hkind _ hg' with e | ⟨e, _⟩ <;> cases e
    | variantOk hg' => rcases hkind _ hg' with e | ⟨e, _⟩ <;> cases e
    | tupleOk hg' ht _ _ hs hr =>
      rcases hkind _ hg' with e | ⟨e, hk⟩ <;> cases e
      exact ⟨_, rfl, readElems_length hr ▸ sanityOk_bound hc (hs (hk.resolve_left (by rw [ht]; nofun)))⟩
    | vectorOk _ _ _ hb _ hs hr => exact ⟨_, rfl, readElems_length hr ▸ hword hb hs⟩
    | dictOk _ _ hb _ hs hr hst =>
      exact ⟨_, rfl, Nat.le_trans (dictStore_length hst) (readElems_length hr ▸ hword hb hs)⟩

end TLVerif.Codec
