import TLVerif.Codec.Reuse
import TLVerif.Codec.TL1Step
/-!
`Reset` of any storage is observed as creation, for every descriptor, and keeps the shape (`reset_spec`; its one clause
about the zero value, guarded by `Z.zeroVal … = some z`, is `fresh_abs`).  The two facts about a read into old storage go
together (`readInto_spec`, and `readFieldsInto_spec`, `readElemsInto_spec` for its loops): it is observed as the fresh
read `readTL1`, whatever the storage held, and it keeps the shape invariant `shaped`.
-/
namespace TLVerif.Codec.Reuse
open TLVerif.Prim TLVerif.Codec

theorem absList_eq_map (ms : List Mem) : absList ms = ms.map abs := by
  induction ms with
  | nil => rfl
  | cons m r ih => simp [absList, ih]

theorem absFields_eq_map (fs : List (Bool × Mem)) :
    absFields fs = fs.map fun pm => if pm.1 then some (abs pm.2) else none := by
  induction fs with
  | nil => rfl
  | cons x r ih => simp [absFields, ih]

theorem absFields_append (a b : List (Bool × Mem)) : absFields (a ++ b) = absFields a ++ absFields b := by
  simp only [absFields_eq_map, List.map_append]

theorem absNth_setPad (l : List Mem) (i : Nat) (m : Mem) : absNth (setPad l i m) i = abs m := by
  induction i generalizing l with
  | zero => cases l <;> simp [setPad, absNth]
  | succ i ih => cases l <;> simp [setPad, absNth, ih]

theorem abs_eq_nat {m : Mem} {n : Nat} : abs m = .nat n ↔ m = .nat n := by
  cases m <;> simp [abs]

/-- what the `else { Reset }` branch of `readFields` establishes; needed because `natArgValM` reads the storage of a `#`
field whatever its mask said, where `natArgVal` reads an absent field as 0 -/
def hiddenZero (fs : List (Bool × Mem)) : Prop := ∀ n, (false, Mem.nat n) ∈ fs → n = 0

theorem hiddenZero_nil : hiddenZero [] := by intro n h; cases h

theorem hiddenZero_snoc {fs : List (Bool × Mem)} (h : hiddenZero fs) (p : Bool) (m : Mem)
    (hm : p = false → ∀ n, m = .nat n → n = 0) : hiddenZero (fs ++ [(p, m)]) := by
  intro n hn
  rcases List.mem_append.mp hn with h1 | h1
  · exact h n h1
  · simp at h1; exact hm h1.1 n h1.2.symm

theorem natArgValM_eq {fs : List (Bool × Mem)} (h : hiddenZero fs) (params : List Nat) (a : NatArg) :
    natArgValM fs params a = natArgVal (absFields fs) params a := by
  cases a with
  | num n => rfl
  | param i => rfl
  | field i =>
    simp only [natArgValM, natArgVal, absFields_eq_map, List.getElem?_map]
    cases hi : fs[i]? with
    | none => rfl
    | some pm =>
      obtain ⟨p, m⟩ := pm
      cases p with
      | true => cases m <;> rfl
      | false =>
        cases m with
        | nat n => cases h n (List.mem_of_getElem? hi); rfl
        | _ => rfl

theorem natArgValsM_eq {fs : List (Bool × Mem)} (h : hiddenZero fs) (params : List Nat) (as : List NatArg) :
    natArgValsM fs params as = natArgVals (absFields fs) params as := by
  induction as with
  | nil => rfl
  | cons a r ih => simp only [natArgValsM, natArgVals, natArgValM_eq h, ih]

theorem fieldPresentM_eq {fs : List (Bool × Mem)} (h : hiddenZero fs) (params : List Nat) (f : Field) :
    fieldPresentM f fs params = fieldPresent f (absFields fs) params := by
  unfold fieldPresentM fieldPresent
  cases f.mask with
  | none => rfl
  | some ab => obtain ⟨a, b⟩ := ab; simp only [natArgValM_eq h]

def natKind : PrimK → Bool
  | .str | .bool _ _ | .bit => false
  | _ => true

def boolKind : PrimK → Bool
  | .bool _ _ | .bit => true
  | _ => false

theorem readPrim_kind {k : PrimK} {bs : Bytes} {v : Val} {r : Bytes} (h : readPrim k bs = .ok (v, r)) :
    (∃ n, v = .nat n ∧ natKind k = true) ∨ (∃ b, v = .str b ∧ k = .str) ∨ (∃ b, v = .bool b ∧ boolKind k = true) := by
  cases k with
  | u32 | i32 | f32 | u64 | i64 | f64 =>
    obtain ⟨⟨n, r'⟩, _, hv⟩ := map_ok_inv h
    cases hv
    exact Or.inl ⟨n, rfl, rfl⟩
  | str =>
    obtain ⟨⟨b, r'⟩, _, hv⟩ := map_ok_inv h
    cases hv
    exact Or.inr (Or.inl ⟨b, rfl, rfl⟩)
  | byte =>
    match bs, h with
    | b :: r', h => cases h; exact Or.inl ⟨_, rfl, rfl⟩
  | bit => cases h; exact Or.inr (Or.inr ⟨_, rfl, rfl⟩)
  | bool f t =>
    simp only [readPrim] at h
    split at h
    · cases h
    · split at h
      · cases h; exact Or.inr (Or.inr ⟨_, rfl, rfl⟩)
      · split at h <;> cases h
        exact Or.inr (Or.inr ⟨_, rfl, rfl⟩)

theorem zeroPrimM_nat {k : PrimK} {n : Nat} (h : zeroPrimM k = .nat n) : n = 0 := by
  cases k <;> cases h <;> rfl

theorem freshMem_nat_zero (d : Desc) (fuel ty : Nat) (n : Nat) (h : freshMem d fuel ty = .nat n) : n = 0 := by
  cases fuel with
  | zero => cases h
  | succ fuel =>
    simp only [freshMem] at h
    -- only a primitive type gives a `.nat` cell
    split at h
    · cases h
    · exact zeroPrimM_nat h
    · cases h
    · split at h <;> cases h
    · split at h <;> cases h
    · cases h

theorem resetElems_eq_map (rs : Mem → Mem) (l : List Mem) : resetElems rs l = l.map rs := by
  induction l with
  | nil => rfl
  | cons m r ih => simp [resetElems, ih]

theorem padTake_eq (n : Nat) (l : List Mem) : padTake n l = l.take n ++ List.replicate (n - l.length) Mem.nil := by
  induction n generalizing l with
  | zero => simp [padTake]
  | succ n ih => cases l <;> simp [padTake, ih, List.replicate_succ]

theorem padTake_length (n : Nat) (l : List Mem) : (padTake n l).length = n := by
  induction n generalizing l with
  | zero => rfl
  | succ n ih => cases l <;> simp only [padTake, List.length_cons, ih]

theorem mem_padTake {n : Nat} {l : List Mem} {m : Mem} (h : m ∈ padTake n l) : m = .nil ∨ m ∈ l := by
  rw [padTake_eq] at h
  rcases List.mem_append.mp h with h | h
  · exact Or.inr (List.mem_of_mem_take h)
  · exact Or.inl (List.eq_of_mem_replicate h)

theorem cells_spec (old : Mem) (dyn : Bool) (n : Nat) :
    let cells := if dyn then reslice old n else (padTake n old.elems, old.stale)
    cells.1.length = n ∧ ∀ m ∈ cells.1 ++ cells.2, m = .nil ∨ m ∈ old.elems ++ old.stale := by
  cases dyn
  · refine ⟨padTake_length n _, fun m hm => ?_⟩
    rcases List.mem_append.mp hm with h | h
    · exact (mem_padTake h).imp_right (List.mem_append_left _)
    · exact Or.inr (List.mem_append_right _ h)
  · simp only [reslice, if_true]
    split
    · exact ⟨List.length_replicate, fun m hm => Or.inl (List.eq_of_mem_replicate (by simpa using hm))⟩
    · rename_i h
      exact ⟨by simp only [List.length_take]; omega, fun m hm => Or.inr (by rwa [List.take_append_drop] at hm)⟩

theorem abs_zeroPrimM (k : PrimK) : abs (zeroPrimM k) = Z.zeroPrim k := by
  cases k <;> rfl

theorem zeroFieldsWith_cons (z : Nat → Option Val) (f : Field) (fs : List Field) :
    Z.zeroFieldsWith z (f :: fs) =
      match Z.zeroFieldsWith z fs with
      | none => none
      | some rest =>
        if visibleAtZero f = false then some (none :: rest)
        else match z f.ty with
          | none => none
          | some v => some (some v :: rest) := by
  rw [Z.zeroFieldsWith]
  cases Z.zeroFieldsWith z fs with
  | none => rfl
  | some rest =>
    simp only [visibleAtZero, Bool.not_eq_false']
    rfl

/-! which memory states are well-shaped for a type: Go's static typing of the object, with `nil` (never-written storage)
allowed everywhere and missing trailing variant storage read as `nil` -/
mutual
  def shaped (d : Desc) : Mem → Nat → Bool
    | .nil, _ => true
    | .nat _, ty => match d.get? ty with | some (.prim k) => natKind k | _ => false
    | .str _, ty => match d.get? ty with | some (.prim k) => k == .str | _ => false
    | .bool _, ty => match d.get? ty with | some (.prim k) => boolKind k | _ => false
    | .struct fs, ty => match d.get? ty with | some (.struct s) => shapedFields d fs s.fields | _ => false
    | .union i vs, ty =>
      match d.get? ty with
      | some (.union u) => decide (i < u.variants.length) && shapedVariants d vs u.variants
      | _ => false
    | .vec es st, ty =>
      match d.get? ty with
      | some (.array a) =>
        shapedList d es a.elem.ty && shapedList d st a.elem.ty && (!(a.isTuple && !a.dynamic) || es.length == a.count)
      | _ => false
    | .map _, ty => match d.get? ty with | some (.dict _) => true | _ => false
  def shapedFields (d : Desc) : List (Bool × Mem) → List Field → Bool
    | [], _ => true                       -- missing trailing storage is `nil`
    | (_, m) :: r, f :: fs => shaped d m f.ty && shapedFields d r fs
    | _ :: _, [] => false
  def shapedVariants (d : Desc) : List Mem → List (Nat × String) → Bool
    | [], _ => true
    | m :: r, (vi, _) :: vs => shaped d m vi && shapedVariants d r vs
    | _ :: _, [] => false
  def shapedList (d : Desc) : List Mem → Nat → Bool
    | [], _ => true
    | m :: r, ty => shaped d m ty && shapedList d r ty
end

theorem shapedList_iff (d : Desc) (l : List Mem) (ty : Nat) : shapedList d l ty = true ↔ ∀ m ∈ l, shaped d m ty = true := by
  induction l with
  | nil => simp [shapedList]
  | cons m r ih => simp [shapedList, ih]

theorem shaped_zeroPrimM (d : Desc) (ty : Nat) (k : PrimK) (h : d.get? ty = some (.prim k)) : shaped d (zeroPrimM k) ty = true := by
  cases k <;> simp only [zeroPrimM, shaped, h] <;> rfl

theorem shapedVariants_nils (d : Desc) (rest : List (Nat × String)) :
    shapedVariants d (rest.map (fun _ => Mem.nil)) rest = true := by
  induction rest with
  | nil => rfl
  | cons x r ih => obtain ⟨vi, nm⟩ := x; simp [shapedVariants, shaped, ih]

theorem shapedVariants_at (d : Desc) : ∀ (i : Nat) (vs : List Mem) (variants : List (Nat × String)) (vi : Nat) (nm : String),
    shapedVariants d vs variants = true → variants[i]? = some (vi, nm) →
    shaped d (vs[i]?.getD .nil) vi = true ∧
      ∀ m, shaped d m vi = true → shapedVariants d (setPad vs i m) variants = true := by
  intro i
  induction i with
  | zero =>
    intro vs variants vi nm hv hi
    rcases variants with _ | ⟨x, rest⟩
    · simp at hi
    simp at hi; subst hi
    rcases vs with _ | ⟨y, r⟩
    · exact ⟨rfl, fun m hm => by simp [setPad, shapedVariants, hm]⟩
    · simp [shapedVariants] at hv
      exact ⟨by simpa using hv.1, fun m hm => by simp [setPad, shapedVariants, hm, hv.2]⟩
  | succ i ih =>
    intro vs variants vi nm hv hi
    rcases variants with _ | ⟨⟨xi, xn⟩, rest⟩
    · simp at hi
    simp at hi
    rcases vs with _ | ⟨y, r⟩
    · exact ⟨rfl, fun m hm => by simp [setPad, shapedVariants, shaped, (ih [] rest vi nm rfl hi).2 m hm]⟩
    · simp [shapedVariants] at hv
      obtain ⟨h1, h2⟩ := ih r rest vi nm hv.2 hi
      exact ⟨by simpa using h1, fun m hm => by simp [setPad, shapedVariants, hv.1, h2 m hm]⟩

theorem shaped_fields (d : Desc) (old : Mem) (ty : Nat) (s : StructD) (hg : d.get? ty = some (.struct s))
    (h : shaped d old ty = true) : shapedFields d old.fields s.fields = true := by
  cases old with
  | struct fs => simp only [shaped, hg] at h; exact h
  | _ => rfl

theorem shaped_variants (d : Desc) (old : Mem) (ty : Nat) (u : UnionD) (hg : d.get? ty = some (.union u))
    (h : shaped d old ty = true) : shapedVariants d old.variants u.variants = true := by
  cases old with
  | union i vs => simp only [shaped, hg, Bool.and_eq_true] at h; exact h.2
  | _ => rfl

theorem shaped_cells (d : Desc) (old : Mem) (ty : Nat) (a : ArrayD) (hg : d.get? ty = some (.array a))
    (h : shaped d old ty = true) : ∀ m, m = .nil ∨ m ∈ old.elems ++ old.stale → shaped d m a.elem.ty = true := by
  rintro m (rfl | hm)
  · rfl
  · cases old with
    | vec es st =>
      simp only [shaped, hg, Bool.and_eq_true, shapedList_iff] at h
      exact (List.mem_append.mp hm).elim (h.1.1 m) (h.1.2 m)
    | _ => cases hm

theorem shapedFields_todo (d : Desc) (todo : List (Bool × Mem)) (f : Field) (fs : List Field)
    (h : shapedFields d todo (f :: fs) = true) :
    shaped d ((todo.head?.map (·.2)).getD .nil) f.ty = true ∧ shapedFields d todo.tail fs = true := by
  cases todo with
  | nil => exact ⟨rfl, rfl⟩
  | cons x r => obtain ⟨p, m⟩ := x; simp [shapedFields] at h; simpa using h

/-- `reset_spec` for a field list, given it for the field types -/
theorem resetFields_spec (d : Desc) (z : Nat → Option Val) (fr : Nat → Mem) (rs : Nat → Mem → Mem)
    (h : ∀ ty, (shaped d (fr ty) ty = true ∧ ∀ v, z ty = some v → abs (fr ty) = v) ∧
      ∀ o, abs (rs ty o) = abs (fr ty) ∧ (shaped d o ty = true → shaped d (rs ty o) ty = true)) :
    ∀ fs : List Field,
      (shapedFields d (freshFieldsWith fr fs) fs = true ∧
        ∀ l, Z.zeroFieldsWith z fs = some l → absFields (freshFieldsWith fr fs) = l) ∧
      ∀ old, absFields (resetFieldsWith rs fs old) = absFields (freshFieldsWith fr fs) ∧
        (shapedFields d old fs = true → shapedFields d (resetFieldsWith rs fs old) fs = true) := by
  intro fs
  induction fs with
  | nil => exact ⟨⟨rfl, fun l hl => by cases hl; rfl⟩, fun _ => ⟨rfl, fun _ => rfl⟩⟩
  | cons f fs ih =>
    obtain ⟨⟨hf, hz⟩, hr⟩ := h f.ty
    refine ⟨⟨?_, fun l hl => ?_⟩, fun old => ⟨?_, fun ho => ?_⟩⟩
    · simp only [freshFieldsWith]
      split <;> simp [shapedFields, ih.1.1, hf, shaped]
    · rw [zeroFieldsWith_cons] at hl
      split at hl
      · cases hl
      rename_i rest hrest
      split at hl
      · rename_i hv
        cases hl
        simp [freshFieldsWith, absFields, hv, ih.1.2 rest hrest]
      rename_i hv
      split at hl
      · cases hl
      rename_i v hv'
      cases hl
      simp [freshFieldsWith, absFields, hv, ih.1.2 rest hrest, hz v hv']
    · simp only [resetFieldsWith, freshFieldsWith, absFields, (ih.2 _).1, (hr _).1]
      cases visibleAtZero f <;> rfl
    · obtain ⟨h1, h2⟩ := shapedFields_todo d old f fs ho
      simp only [resetFieldsWith, shapedFields, (hr _).2 h1, (ih.2 _).2 h2, Bool.and_self]

theorem reset_spec (d : Desc) : ∀ fuel ty : Nat,
    (shaped d (freshMem d fuel ty) ty = true ∧ ∀ z, Z.zeroVal d fuel ty = some z → abs (freshMem d fuel ty) = z) ∧
    ∀ old, abs (resetMem d fuel ty old) = abs (freshMem d fuel ty) ∧
      (shaped d old ty = true → shaped d (resetMem d fuel ty old) ty = true) := by
  intro fuel
  induction fuel with
  | zero => intro ty; exact ⟨⟨rfl, nofun⟩, fun _ => ⟨rfl, fun _ => rfl⟩⟩
  | succ fuel ih =>
    intro ty
    -- `Reset` of never-written storage is creation
    suffices hs : (shaped d (freshMem d (fuel + 1) ty) ty = true ∧
          ∀ z, Z.zeroVal d (fuel + 1) ty = some z → abs (freshMem d (fuel + 1) ty) = z) ∧
        ∀ old, old.isNil = false → abs (resetMem d (fuel + 1) ty old) = abs (freshMem d (fuel + 1) ty) ∧
          (shaped d old ty = true → shaped d (resetMem d (fuel + 1) ty old) ty = true) by
      refine ⟨hs.1, fun old => ?_⟩
      cases hn : old.isNil with
      | true =>
        rw [show resetMem d (fuel + 1) ty old = freshMem d (fuel + 1) ty by simp only [resetMem, hn, if_true]]
        exact ⟨rfl, fun _ => hs.1.1⟩
      | false => exact hs.2 old hn
    unfold freshMem resetMem Z.zeroVal
    cases hg : d.get? ty with
    | none => exact ⟨⟨rfl, nofun⟩, fun old hn => by simp only [hn]; exact ⟨rfl, fun _ => rfl⟩⟩
    | some inst =>
      cases inst with
      | prim k =>
        exact ⟨⟨shaped_zeroPrimM d ty k hg, fun z h => by cases h; exact abs_zeroPrimM k⟩,
          fun old hn => by simp only [hn]; exact ⟨rfl, fun _ => shaped_zeroPrimM d ty k hg⟩⟩
      | struct s =>
        obtain ⟨⟨hf, hz⟩, hr⟩ := resetFields_spec d _ _ _ ih s.fields
        refine ⟨⟨by simp only [shaped, hg, hf], fun z h => ?_⟩, fun old hn => ?_⟩
        · obtain ⟨l, hl, rfl⟩ := Option.map_eq_some_iff.mp h
          simp only [abs, hz l hl]
        · simp only [hn, Bool.false_eq_true, if_false, shaped, hg, abs]
          exact ⟨congrArg _ (hr _).1, fun ho => (hr _).2 (shaped_fields d old ty s hg ho)⟩
      | union u =>
        simp only []
        cases hv : u.variants with
        | nil => exact ⟨⟨rfl, nofun⟩, fun old hn => by simp only [hn]; exact ⟨rfl, fun _ => rfl⟩⟩
        | cons x rest =>
          obtain ⟨vi, nm⟩ := x
          obtain ⟨⟨hfresh, hzero⟩, hreset⟩ := ih vi
          refine ⟨⟨by simp [shaped, hg, hv, shapedVariants, hfresh, shapedVariants_nils], fun z h => ?_⟩, fun old hn => ?_⟩
          · obtain ⟨zv, hz, rfl⟩ := Option.map_eq_some_iff.mp h
            simp only [abs, absNth, hzero _ hz]
          simp only [hn, Bool.false_eq_true, if_false]
          refine ⟨by simp only [abs, absNth_setPad, absNth, (hreset _).1], fun ho => ?_⟩
          have hvs := shaped_variants d old ty u hg ho
          rw [hv] at hvs
          obtain ⟨h1, h2⟩ := shapedVariants_at d 0 old.variants ((vi, nm) :: rest) vi nm hvs rfl
          simp only [shaped, hg, hv, List.length_cons, Nat.zero_lt_succ, decide_true, Bool.true_and]
          exact h2 _ ((hreset _).2 (by simpa [List.head?_eq_getElem?] using h1))
      | array a =>
        simp only []
        obtain ⟨⟨hfresh, hzero⟩, hreset⟩ := ih a.elem.ty
        -- below, the cells of the new vector are old cells or `nil`, which `hcells` knows to be shaped, as they were or reset
        by_cases hc : (a.isTuple && !a.dynamic) = true
        · refine ⟨⟨by simp [shaped, hg, hc, shapedList, shapedList_iff, hfresh], fun z h => ?_⟩, fun old hn => ?_⟩
          · rw [if_pos hc] at h
            obtain ⟨zv, hz, rfl⟩ := Option.map_eq_some_iff.mp h
            simp only [hc, if_true, abs, absList_eq_map, List.map_replicate, hzero _ hz]
          simp only [hn, hc, Bool.false_eq_true, if_false, if_true]
          refine ⟨?_, fun ho => ?_⟩
          · simp [abs, absList_eq_map, resetElems_eq_map, Function.comp_def, (hreset _).1, List.map_const', padTake_length]
          · have hcells := shaped_cells d old ty a hg ho
            simp [shaped, hg, hc, shapedList_iff, resetElems_eq_map, padTake_length]
            exact ⟨fun m hm => (hreset m).2 (hcells m ((mem_padTake hm).imp_right (List.mem_append_left _))),
              fun m hm => hcells m (Or.inr (List.mem_append_right _ hm))⟩
        · refine ⟨⟨by simp [shaped, hg, hc, shapedList], fun z h => by rw [if_neg hc] at h; cases h; simp only [hc]; rfl⟩,
            fun old hn => ?_⟩
          simp only [hn, hc, Bool.false_eq_true, if_false]
          refine ⟨rfl, fun ho => ?_⟩
          have hcells := shaped_cells d old ty a hg ho
          simp [shaped, hg, hc, shapedList, shapedList_iff]
          exact fun m hm => hcells m (Or.inr (List.mem_append.mpr hm))
      | dict a =>
        exact ⟨⟨by simp [shaped, hg], fun z h => by cases h; rfl⟩, fun old hn => by simp [hn, shaped, hg, abs]⟩

theorem fresh_abs (d : Desc) (fuel ty : Nat) (z : Val) (h : Z.zeroVal d fuel ty = some z) : abs (freshMem d fuel ty) = z := by
  obtain ⟨⟨-, hzero⟩, -⟩ := reset_spec d fuel ty
  exact hzero z h

theorem resetMem_nat_zero (d : Desc) (fuel ty : Nat) (o : Mem) (n : Nat) (h : resetMem d fuel ty o = .nat n) : n = 0 := by
  obtain ⟨-, hreset⟩ := reset_spec d fuel ty
  obtain ⟨hobs, -⟩ := hreset o
  exact freshMem_nat_zero d fuel ty n (abs_eq_nat.mp (by rw [← hobs, h]; rfl))

theorem ofPrim_readPrim (d : Desc) (ty : Nat) {k : PrimK} {bs : Bytes} {v : Val} {r : Bytes}
    (hg : d.get? ty = some (.prim k)) (h : readPrim k bs = .ok (v, r)) :
    abs (Mem.ofPrim v) = v ∧ shaped d (Mem.ofPrim v) ty = true := by
  rcases readPrim_kind h with ⟨n, rfl, hk⟩ | ⟨b, rfl, hk⟩ | ⟨b, rfl, hk⟩ <;> exact ⟨rfl, by simp [Mem.ofPrim, shaped, hg, hk]⟩

/-- what `vec_spec` and `readInto_spec` below conclude, and the loop lemmas assume of `rd`, of a read into `old` that leaves `r`,
against the fresh read's result `v` -/
abbrev Sim (d : Desc) (ty : Nat) (old : Mem) (r : MRes) (v : RRes) : Prop :=
  obs r = v ∧ (shaped d old ty = true → shaped d r.1 ty = true)

theorem Sim.error {d : Desc} {ty : Nat} {old : Mem} {e : CErr} : Sim d ty old (old, .error e) (.error e) := ⟨rfl, id⟩

def obsF : List (Bool × Mem) × Except CErr Bytes → Except CErr (List (Option Val) × Bytes)
  | (fs, .ok bs) => .ok (absFields fs, bs)
  | (_, .error e) => .error e

def obsE : List Mem × Except CErr Bytes → Except CErr (List Val × Bytes)
  | (ms, .ok bs) => .ok (absList ms, bs)
  | (_, .error e) => .error e

theorem readFieldsInto_spec (d : Desc) (rd : RdM) (rs : RsM) (rdv : Rd) (params : List Nat)
    (hrd : ∀ ty bare na o bs, Sim d ty o (rd ty bare na o bs) (rdv ty bare na bs))
    (hrs : ∀ ty o, (∀ n, rs ty o = .nat n → n = 0) ∧ (shaped d o ty = true → shaped d (rs ty o) ty = true)) :
    ∀ (fs : List Field) (done todo : List (Bool × Mem)) (bs : Bytes), hiddenZero done →
      obsF (readFieldsInto rd rs params fs done todo bs) = readFieldsWith rdv params fs (absFields done) bs ∧
      (shapedFields d todo fs = true →
        ∃ cells, (readFieldsInto rd rs params fs done todo bs).1 = done ++ cells ∧ shapedFields d cells fs = true) := by
  intro fs
  induction fs with
  | nil => intro done todo bs _; exact ⟨rfl, fun _ => ⟨[], (List.append_nil _).symm, rfl⟩⟩
  | cons f fs ih =>
    intro done todo bs hz
    -- the rest of the loop, once the cell `(p, m)` of `f` is settled
    have hnext : ∀ (p : Bool) (m : Mem) (bs' : Bytes), (p = false → ∀ n, m = .nat n → n = 0) →
        (shaped d ((todo.head?.map (·.2)).getD .nil) f.ty = true → shaped d m f.ty = true) →
        obsF (readFieldsInto rd rs params fs (done ++ [(p, m)]) todo.tail bs') =
          readFieldsWith rdv params fs (absFields done ++ [if p then some (abs m) else none]) bs' ∧
        (shapedFields d todo (f :: fs) = true →
          ∃ cells, (readFieldsInto rd rs params fs (done ++ [(p, m)]) todo.tail bs').1 = done ++ cells ∧
            shapedFields d cells (f :: fs) = true) := by
      intro p m bs' hm hsm
      obtain ⟨io, is⟩ := ih (done ++ [(p, m)]) todo.tail bs' (hiddenZero_snoc hz p m hm)
      refine ⟨by rw [io, absFields_append]; rfl, fun ht => ?_⟩
      obtain ⟨ho, htl⟩ := shapedFields_todo d todo f fs ht
      obtain ⟨cells, e, hc⟩ := is htl
      exact ⟨(p, m) :: cells, by rw [e, List.append_assoc]; rfl, by simp [shapedFields, hsm ho, hc]⟩
    rw [readFieldsInto, readFieldsWith, fieldPresentM_eq hz, natArgValsM_eq hz]
    generalize fieldPresent f (absFields done) params = p
    generalize natArgVals (absFields done) params f.natArgs = na
    rcases p with _ | p
    · exact ⟨rfl, fun ht => ⟨todo, rfl, ht⟩⟩
    rcases na with _ | na
    · cases p <;> exact ⟨rfl, fun ht => ⟨todo, rfl, ht⟩⟩
    cases p with
    | false => exact hnext false _ bs (fun _ => (hrs _ _).1) (hrs _ _).2
    | true =>
      simp only []
      obtain ⟨ho, hs⟩ := hrd f.ty f.bare na ((todo.head?.map (·.2)).getD .nil) bs
      rw [← ho]
      generalize rd f.ty f.bare na ((todo.head?.map (·.2)).getD .nil) bs = q at hs ⊢
      rcases q with ⟨m, e | bs'⟩
      · refine ⟨rfl, fun ht => ?_⟩
        obtain ⟨ho', htl⟩ := shapedFields_todo d todo f fs ht
        exact ⟨(true, m) :: todo.tail, rfl, by simp [shapedFields, hs ho', htl]⟩
      · exact hnext true m bs' (fun h => by cases h) hs

theorem readElemsInto_spec (d : Desc) (rd : RdM) (rdv : Rd) (f : Field) (na : List Nat)
    (hrd : ∀ ty bare na o bs, Sim d ty o (rd ty bare na o bs) (rdv ty bare na bs)) :
    ∀ (cells : List Mem) (bs : Bytes),
      obsE (readElemsInto rd f na cells bs) = readElemsWith rdv f na cells.length bs ∧
      (shapedList d cells f.ty = true → shapedList d (readElemsInto rd f na cells bs).1 f.ty = true ∧
        (readElemsInto rd f na cells bs).1.length = cells.length) := by
  intro cells
  induction cells with
  | nil => intro bs; exact ⟨rfl, fun _ => ⟨rfl, rfl⟩⟩
  | cons o os ih =>
    intro bs
    rw [readElemsInto, List.length_cons, readElemsWith]
    obtain ⟨ho, hs⟩ := hrd f.ty f.bare na o bs
    rw [← ho]
    generalize rd f.ty f.bare na o bs = p at hs ⊢
    rcases p with ⟨m, e | bs'⟩
    · refine ⟨rfl, fun hc => ?_⟩
      simp only [shapedList, Bool.and_eq_true] at hc ⊢
      exact ⟨⟨hs hc.1, hc.2⟩, rfl⟩
    · obtain ⟨io, is⟩ := ih bs'
      simp only [obs]
      rw [← io]
      generalize readElemsInto rd f na os bs' = q at is ⊢
      refine ⟨by rcases q with ⟨ms, e | bs''⟩ <;> rfl, fun hc => ?_⟩
      simp only [shapedList, Bool.and_eq_true] at hc ⊢
      obtain ⟨h1, h2⟩ := is hc.2
      exact ⟨⟨hs hc.1, h1⟩, by simp only [List.length_cons, h2]⟩

theorem readDictInto_obs (rd : RdM) (rdv : Rd) (f : Field) (na : List Nat) (k : PrimK)
    (hrd : ∀ ty bare na o bs, obs (rd ty bare na o bs) = rdv ty bare na bs) :
    ∀ (n : Nat) (acc : List Val) (bs : Bytes),
      obs (match readDictInto rd f na k n acc bs with | (es, r) => (Mem.map es, r)) =
        (readElemsWith rdv f na n bs).map (fun p => (Val.arr (p.1.foldl (fun a e => dictInsert k e a) acc), p.2)) := by
  intro n
  induction n with
  | zero => intro acc bs; rfl
  | succ n ih =>
    intro acc bs
    rw [readDictInto, readElemsWith, ← hrd f.ty f.bare na .nil bs]
    generalize rd f.ty f.bare na .nil bs = p
    rcases p with ⟨m, e | bs'⟩
    · rfl
    · refine (ih _ bs').trans ?_
      simp only [obs]
      generalize readElemsWith rdv f na n bs' = q
      rcases q with e | q <;> rfl

/-- the common tail of the tuple and vector branches of `readInto`, given the cells to read into -/
theorem vec_spec (d : Desc) (rd : RdM) (rdv : Rd)
    (hrd : ∀ ty bare na o bs, Sim d ty o (rd ty bare na o bs) (rdv ty bare na bs))
    {ty : Nat} {a : ArrayD} (hg : d.get? ty = some (.array a)) (na : List Nat) (old : Mem) (dyn : Bool) (n : Nat) (bs : Bytes)
    (hn : (a.isTuple && !a.dynamic) = true → n = a.count) :
    let cells := if dyn then reslice old n else (padTake n old.elems, old.stale)
    Sim d ty old (match readElemsInto rd a.elem na cells.1 bs with | (ms, r) => (Mem.vec ms cells.2, r))
      ((readElemsWith rdv a.elem na n bs).map (fun p => (Val.arr p.1, p.2))) := by
  obtain ⟨hl, hc⟩ := cells_spec old dyn n
  dsimp only at hl hc ⊢
  generalize (if dyn = true then reslice old n else (padTake n old.elems, old.stale)) = cells at hl hc ⊢
  obtain ⟨ho, hs⟩ := readElemsInto_spec d rd rdv a.elem na hrd cells.1 bs
  rw [hl] at ho hs
  rw [← ho]
  generalize readElemsInto rd a.elem na cells.1 bs = q at hs ⊢
  refine ⟨by rcases q with ⟨ms, e | r⟩ <;> rfl, fun hold => ?_⟩
  have hcells := fun m hm => shaped_cells d old ty a hg hold m (hc m hm)
  obtain ⟨h3, h4⟩ := hs ((shapedList_iff ..).2 fun m hm => hcells m (List.mem_append_left _ hm))
  simp only [shaped, hg, h3, (shapedList_iff ..).2 fun m hm => hcells m (List.mem_append_right _ hm), Bool.true_and]
  by_cases hf : (a.isTuple && !a.dynamic) = true
  · simp [hf, h4, hn hf]
  · simp [hf]

theorem readInto_spec (cfg : Cfg) (d : Desc) :
    ∀ (fuel ty : Nat) (bare : Bool) (params : List Nat) (old : Mem) (bs : Bytes),
      Sim d ty old (readInto cfg d fuel ty bare params old bs) (readTL1 cfg d fuel ty bare params bs) := by
  intro fuel
  induction fuel with
  | zero => intros; exact .error
  | succ fuel ih =>
    intro ty bare params old bs
    unfold readInto readTL1
    dsimp only
    -- the two readers branch on the same scrutinees, word for word: one `generalize` or `cases` steps both
    cases hg : d.get? ty with
    | none => exact .error
    | some inst =>
      cases inst with
      | prim k =>
        simp only []
        cases hp : readPrim k bs with
        | error e => exact .error
        | ok p =>
          obtain ⟨ha, hs⟩ := ofPrim_readPrim d ty hg hp
          exact ⟨by simp only [obs, ha], fun _ => hs⟩
      | struct s =>
        simp only []
        generalize (if bare then Except.ok bs else readExactTag s.tag bs : Except CErr Bytes) = t
        rcases t with e | bs1
        · exact .error
        simp only []
        obtain ⟨hf, hs⟩ := readFieldsInto_spec d _ _ _ params ih
          (fun ty o => by
            obtain ⟨-, hreset⟩ := reset_spec d fuel ty
            obtain ⟨-, hkeeps⟩ := hreset o
            exact ⟨resetMem_nat_zero d fuel ty o, hkeeps⟩)
          s.fields [] old.fields bs1 hiddenZero_nil
        rw [← show _ = readFieldsWith (readTL1 cfg d fuel) params s.fields [] bs1 from hf]
        generalize readFieldsInto (readInto cfg d fuel) (resetMem d fuel) params s.fields [] old.fields bs1 = q at hs ⊢
        refine ⟨by rcases q with ⟨fs, e | r⟩ <;> rfl, fun ho => ?_⟩
        obtain ⟨cells, e, hc⟩ := hs (shaped_fields d old ty s hg ho)
        simp only [shaped, hg, e, List.nil_append, hc]
      | union u =>
        simp only []
        generalize readU32 bs = t
        rcases t with e | ⟨tag, bs1⟩
        · exact .error
        simp only []
        cases hv : findVariant d tag u.variants 0 with
        | none => exact .error
        | some iv =>
          obtain ⟨i, vi⟩ := iv
          generalize natArgVals [] params u.elemNatArgs = na
          rcases na with _ | na
          · exact .error
          simp only []
          obtain ⟨hm, hms⟩ := ih vi true na (old.variants[i]?.getD .nil) bs1
          rw [← hm]
          generalize readInto cfg d fuel vi true na (old.variants[i]?.getD .nil) bs1 = q at hms ⊢
          refine ⟨by rcases q with ⟨m, e | r⟩ <;> simp only [obs, abs, absNth_setPad], fun ho => ?_⟩
          obtain ⟨_, nm, hi, _⟩ := findVariant_ok hv
          obtain ⟨hlt, _⟩ := List.getElem?_eq_some_iff.mp hi
          obtain ⟨h1, h2⟩ := shapedVariants_at d i old.variants u.variants vi nm (shaped_variants d old ty u hg ho) hi
          simp only [shaped, hg, hlt, decide_true, Bool.true_and]
          exact h2 _ (hms h1)
      | array a =>
        simp only []
        generalize natArgVals [] params a.elem.natArgs = na
        rcases na with _ | na
        · exact .error
        simp only []
        by_cases ht : a.isTuple = true
        · simp only [if_pos ht]
          cases hc : (if a.dynamic = true then params[0]? else some a.count) with
          | none => exact .error
          | some n =>
            simp only []
            by_cases hsan : (a.dynamic && !sanityOk cfg bs n) = true
            · simp only [if_pos hsan]; exact .error
            · simp only [if_neg hsan]
              refine vec_spec d _ _ ih hg na old a.dynamic n bs fun hfix => ?_
              simp only [Bool.and_eq_true, Bool.not_eq_true'] at hfix
              simpa [hfix.2] using hc.symm
        · simp only [if_neg ht]
          generalize readU32 bs = t
          rcases t with e | ⟨n, bs1⟩
          · exact .error
          simp only []
          by_cases hsan : (!sanityOk cfg bs1 n) = true
          · simp only [if_pos hsan]; exact .error
          · simp only [if_neg hsan]
            exact vec_spec d _ _ ih hg na old true n bs1 (by simp [ht])
      | dict a =>
        simp only []
        generalize natArgVals [] params a.elem.natArgs = na
        rcases na with _ | na
        · exact .error
        simp only []
        generalize readU32 bs = t
        rcases t with e | ⟨n, bs1⟩
        · exact .error
        simp only []
        by_cases hsan : (!sanityOk cfg bs1 n) = true
        · simp only [if_pos hsan]; exact .error
        · simp only [if_neg hsan]
          generalize dictKeyPrim d a = k
          rcases k with _ | k
          · exact .error
          · exact ⟨readDictInto_obs _ _ a.elem na k (fun ty bare na o bs => (ih ty bare na o bs).1) n [] bs1,
            fun _ => by simp [shaped, hg]⟩

end TLVerif.Codec.Reuse
