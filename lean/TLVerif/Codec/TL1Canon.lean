import TLVerif.Codec.TL1Step
/-!
Canonicity (C02, C10) and normal forms (C01): whatever the reader accepts is the writer's output for the decoded value
followed by the unread rest, and — where no dictionary is involved — the decoded value is `Normal`.  Loop lemmas are stated
for an arbitrary reader/writer pair related by `CanonNm`, the main theorem `readTL1M_canonNm` is an induction on `fuel` for
every storage discipline of dictionaries: `readTL1` (maps) and the slice-backed `[]byte` variant are instances.
-/
namespace TLVerif.Codec
open TLVerif.Prim

/-- a relation between "what the writer emits for the decoded value" and "what the reader consumed":
equality for the exact theorem, `length ≤` for the dictionary-normalising one -/
structure ByteRel (R : Bytes → Bytes → Prop) : Prop where
  refl : ∀ a, R a a
  app : ∀ {a b c d}, R a b → R c d → R (a ++ c) (b ++ d)

theorem ByteRel.eq : ByteRel (fun a b => a = b) := ⟨fun _ => rfl, fun h1 h2 => by rw [h1, h2]⟩
theorem ByteRel.le : ByteRel (fun a b => a.length ≤ b.length) :=
  ⟨fun _ => Nat.le_refl _, fun h1 h2 => by simp only [List.length_append]; omega⟩

/-- what reader `rd` accepts is a prefix `pre` of its input, not empty for the calls `c` marks; on the types of `S` it is what
writer `wr` emits (up to `R`) for the decoded value, which `nm` accepts if `N`: the normal form holds only where no dictionary
is met, so `N` will say that `S` has none, and the dictionary case of the induction discharges it by contradiction -/
def CanonNm (R : Bytes → Bytes → Prop) (N : Prop) (S : Nat → Bool) (c : Nat → Bool → Bool) (rd : Rd) (wr : Wr) (nm : Nm) : Prop :=
  ∀ ⦃ty bare na bs v rest⦄, rd ty bare na bs = .ok (v, rest) →
    ∃ pre, bs = pre ++ rest ∧ (c ty bare = true → 1 ≤ pre.length) ∧
      (S ty = true → (∃ w, wr ty bare na v = .ok w ∧ R w pre) ∧ (N → nm ty bare na v = true))

/-- a nat argument has the same value in an extension of `acc` as soon as it looks only at `acc`: it refers below
`acc.length`, or it evaluates in `acc` at all -/
theorem natArgVal_ext {acc : List (Option Val)} {params : List Nat} {a : NatArg}
    (h : a.refsLt acc.length = true ∨ ∃ x, natArgVal acc params a = some x) (ext : List (Option Val)) :
    natArgVal (acc ++ ext) params a = natArgVal acc params a := by
  cases a with
  | field i =>
    have hi : i < acc.length := by
      rcases h with h | ⟨x, h⟩
      · exact of_decide_eq_true h
      · cases hi : acc[i]? with
        | none => simp [natArgVal, hi] at h
        | some o => exact (List.getElem?_eq_some_iff.mp hi).1
    simp only [natArgVal, List.getElem?_append_left hi]
  | _ => rfl

theorem natArgVals_ext {acc : List (Option Val)} {params : List Nat} {as : List NatArg}
    (h : as.all (NatArg.refsLt acc.length) = true ∨ ∃ xs, natArgVals acc params as = some xs) (ext : List (Option Val)) :
    natArgVals (acc ++ ext) params as = natArgVals acc params as := by
  induction as with
  | nil => rfl
  | cons a as ih =>
    have h' : (a.refsLt acc.length = true ∨ ∃ x, natArgVal acc params a = some x) ∧
        (as.all (NatArg.refsLt acc.length) = true ∨ ∃ xs, natArgVals acc params as = some xs) := by
      rcases h with h | ⟨ys, h⟩
      · simp only [List.all_cons, Bool.and_eq_true] at h; exact ⟨Or.inl h.1, Or.inl h.2⟩
      · simp only [natArgVals, bind, Option.bind_eq_some_iff] at h
        obtain ⟨x, h1, xs, h2, _⟩ := h
        exact ⟨Or.inr ⟨x, h1⟩, Or.inr ⟨xs, h2⟩⟩
    simp only [natArgVals, natArgVal_ext h'.1, ih h'.2]

theorem fieldPresent_ext {f : Field} {acc : List (Option Val)} {params : List Nat}
    (h : f.refsLt acc.length = true ∨ ∃ b, fieldPresent f acc params = some b) (ext : List (Option Val)) :
    fieldPresent f (acc ++ ext) params = fieldPresent f acc params := by
  unfold fieldPresent at h ⊢
  cases hm : f.mask with
  | none => rfl
  | some p =>
    obtain ⟨a, bit⟩ := p
    simp only [Field.refsLt, hm, Bool.and_eq_true, Option.map_eq_some_iff] at h ⊢
    rw [natArgVal_ext (h.imp (·.1) fun ⟨_, m, hm, _⟩ => ⟨m, hm⟩)]

/-- what the reader evaluated for a field in the prefix `acc` is what the writer evaluates in the whole value -/
theorem fieldEval_of_prefix {f : Field} {acc : List (Option Val)} {params : List Nat} {b : Bool} {na : List Nat}
    (hp : fieldPresent f acc params = some b) (hna : natArgVals acc params f.natArgs = some na)
    {out tail : List (Option Val)} (e : out = acc ++ tail) :
    fieldPresent f out params = some b ∧ natArgVals out params f.natArgs = some na :=
  e ▸ ⟨(fieldPresent_ext (Or.inr ⟨b, hp⟩) _).trans hp, (natArgVals_ext (Or.inr ⟨na, hna⟩) _).trans hna⟩

theorem readFields_canonNm {R : Bytes → Bytes → Prop} (hR : ByteRel R) {N : Prop} {S : Nat → Bool} {c : Nat → Bool → Bool}
    {rd : Rd} {wr : Wr} {nm : Nm} (hrw : CanonNm R N S c rd wr nm) (params : List Nat)
    (fields : List Field) (acc : List (Option Val)) (bs : Bytes) (out : List (Option Val)) (rest : Bytes)
    (h : readFieldsWith rd params fields acc bs = .ok (out, rest)) :
    ∃ tail pre, out = acc ++ tail ∧ bs = pre ++ rest ∧ ((∀ f ∈ fields, S f.ty = true) →
      ∃ w, R w pre ∧ writeFieldsWith wr params out fields tail = .ok w ∧
        (N → normalFieldsWith nm params out fields tail = true)) := by
  fun_induction readFieldsWith rd params fields acc bs generalizing out rest with
  | case1 acc bs =>
    cases h
    exact ⟨[], [], by simp, rfl, fun _ => ⟨[], hR.refl _, rfl, fun _ => rfl⟩⟩
  | case2 | case5 => cases h
  | case3 f fs acc bs na hna hp v bs' hr ih =>
    obtain ⟨pre1, e1, _, hc1⟩ := hrw hr
    obtain ⟨tail, pre2, e2, e3, hc2⟩ := ih _ _ h
    rw [List.append_assoc] at e2
    refine ⟨some v :: tail, pre1 ++ pre2, e2, by rw [e1, e3, List.append_assoc], fun hS => ?_⟩
    obtain ⟨⟨w1, hw1, r1⟩, hn1⟩ := hc1 (hS f (by simp))
    obtain ⟨w2, r2, hw2, hn2⟩ := hc2 fun g hg => hS g (by simp [hg])
    refine ⟨w1 ++ w2, hR.app r1 r2, ?_, fun hN => ?_⟩
    · simp only [writeFieldsWith, fieldEval_of_prefix hp hna e2, hw1, hw2]
    · simp only [normalFieldsWith, fieldEval_of_prefix hp hna e2, hn1 hN, hn2 hN, Bool.and_self]
  | case4 f fs acc bs na hna hp ih =>
    obtain ⟨tail, pre2, e2, e3, hc2⟩ := ih _ _ h
    rw [List.append_assoc] at e2
    refine ⟨none :: tail, pre2, e2, e3, fun hS => ?_⟩
    obtain ⟨w2, r2, hw2, hn2⟩ := hc2 fun g hg => hS g (by simp [hg])
    refine ⟨w2, r2, ?_, fun hN => ?_⟩
    · simp only [writeFieldsWith, fieldEval_of_prefix hp hna e2, hw2]
    · simp only [normalFieldsWith, fieldEval_of_prefix hp hna e2, hn2 hN, Option.isNone_none, Bool.and_self]

theorem readElems_canonNm {R : Bytes → Bytes → Prop} (hR : ByteRel R) {N : Prop} {S : Nat → Bool} {c : Nat → Bool → Bool}
    {rd : Rd} {wr : Wr} {nm : Nm} (hrw : CanonNm R N S c rd wr nm) {f : Field} {na : List Nat} {n : Nat} {bs : Bytes}
    {vs : List Val} {rest : Bytes} (h : readElemsWith rd f na n bs = .ok (vs, rest)) :
    ∃ pre, bs = pre ++ rest ∧ (S f.ty = true →
      (∃ w, writeElemsWith wr f na vs = .ok w ∧ R w pre) ∧ (N → vs.all (nm f.ty f.bare na) = true)) := by
  fun_induction readElemsWith rd f na n bs generalizing vs rest with
  | case1 bs =>
    cases h
    exact ⟨[], rfl, fun _ => ⟨⟨[], rfl, hR.refl _⟩, fun _ => rfl⟩⟩
  | case2 | case3 => cases h
  | case4 n bs v bs' hr vs' r hr2 ih =>
    cases h
    obtain ⟨pre1, e1, _, hc1⟩ := hrw hr
    obtain ⟨pre2, e2, hc2⟩ := ih hr2
    refine ⟨pre1 ++ pre2, by rw [e1, e2, List.append_assoc], fun hS => ?_⟩
    obtain ⟨⟨w1, hw1, r1⟩, hn1⟩ := hc1 hS
    obtain ⟨⟨w2, hw2, r2⟩, hn2⟩ := hc2 hS
    refine ⟨⟨w1 ++ w2, ?_, hR.app r1 r2⟩, fun hN => ?_⟩
    · simp only [writeElemsWith, hw1, hw2]
    · simp only [List.all_cons, hn1 hN, hn2 hN, Bool.and_self]

theorem Desc.get?_mem {d : Desc} {ty : Nat} {i : Inst} (h : d.get? ty = some i) : i ∈ d.insts.toList := by
  unfold Desc.get? at h
  rw [← Array.getElem?_toList] at h
  exact List.mem_of_getElem? h

theorem Desc.get?_lt {d : Desc} {ty : Nat} {i : Inst} (h : d.get? ty = some i) : ty < d.insts.size := by
  unfold Desc.get? at h
  exact (Array.getElem?_eq_some_iff.mp h).1

theorem Desc.allOn_get {d : Desc} {S : Nat → Bool} {p : Inst → Bool} (h : d.allOn S p = true) {ty : Nat} {i : Inst}
    (hg : d.get? ty = some i) (hS : S ty = true) : p i = true := by
  have := (List.all_eq_true.mp h) ty (List.mem_range.mpr (Desc.get?_lt hg))
  simpa only [hS, Bool.not_true, Bool.false_or, hg] using this

theorem Desc.closed_get {d : Desc} {S : Nat → Bool} (h : d.closed S = true) {ty : Nat} {i : Inst}
    (hg : d.get? ty = some i) (hS : S ty = true) : ∀ r ∈ i.refs, S r = true :=
  List.all_eq_true.mp (Desc.allOn_get (p := fun i => i.refs.all S) h hg hS)

theorem Desc.noBit_on {d : Desc} {S : Nat → Bool} (h : d.allOn S (fun i => !i.isBitPrim) = true) {ty : Nat} {k : PrimK}
    (hg : d.get? ty = some (.prim k)) (hS : S ty = true) : k ≠ .bit := fun e => by
  have := Desc.allOn_get h hg hS
  simp [e, Inst.isBitPrim] at this

theorem Desc.noDict_on {d : Desc} {S : Nat → Bool} (h : d.allOn S (fun i => !i.isDict) = true) {ty : Nat} {a : ArrayD}
    (hg : d.get? ty = some (.dict a)) (hS : S ty = true) : False := by
  have := Desc.allOn_get h hg hS
  simp [Inst.isDict] at this

theorem Desc.allOn_all {d : Desc} {p : Inst → Bool} (h : d.insts.toList.all p = true) (S : Nat → Bool) : d.allOn S p = true := by
  apply List.all_eq_true.mpr
  intro i _
  cases hS : S i with
  | false => rfl
  | true =>
    cases hg : d.get? i with
    | none => rfl
    | some inst => exact (List.all_eq_true.mp h) _ (Desc.get?_mem hg)

theorem Desc.closed_all (d : Desc) : d.closed allInsts = true := by
  apply List.all_eq_true.mpr
  intro i _
  cases hg : d.get? i with
  | none => rfl
  | some inst => simp [allInsts]

theorem Desc.noDict_get {d : Desc} (h : d.noDict = true) {ty : Nat} {a : ArrayD} : d.get? ty ≠ some (.dict a) :=
  fun hg => Desc.noDict_on (Desc.allOn_all h allInsts) hg rfl

theorem Desc.noBit_get {d : Desc} (h : d.noBit = true) {ty : Nat} : d.get? ty ≠ some (.prim .bit) :=
  fun hg => Desc.noBit_on (Desc.allOn_all h allInsts) hg rfl rfl

theorem writeTL1_boxed {d : Desc} {fuel vi : Nat} {s : StructD} (hg : d.get? vi = some (.struct s))
    {na : List Nat} {x : Val} {bs : Bytes} :
    writeTL1 d fuel vi false na x = .ok bs ↔ ∃ b, bs = u32le s.tag ++ b ∧ writeTL1 d fuel vi true na x = .ok b := by
  cases fuel with
  | zero => exact ⟨fun h => (nomatch h), fun ⟨_, _, h⟩ => (nomatch h)⟩
  | succ f =>
    constructor
    · intro h
      obtain ⟨fs, b, rfl, hw, rfl⟩ := writeTL1_struct_ok hg h
      exact ⟨b, rfl, by rw [writeTL1_struct hg, hw]; rfl⟩
    · rintro ⟨b, rfl, h⟩
      obtain ⟨fs, b', rfl, hw, rfl⟩ := writeTL1_struct_ok hg h
      rw [writeTL1_struct hg, hw]; rfl

theorem writeTL1_boxed_of_bare {d : Desc} {fuel vi : Nat} {s : StructD} (hg : d.get? vi = some (.struct s))
    {na : List Nat} {x : Val} {w : Bytes} (h : writeTL1 d fuel vi true na x = .ok w) :
    writeTL1 d fuel vi false na x = .ok (u32le s.tag ++ w) :=
  (writeTL1_boxed hg).mpr ⟨w, rfl, h⟩

/-- the length of what `wr` emits for an element, 0 where it fails: so `writeElems_length` needs the loop to succeed -/
def wcost (wr : Wr) (f : Field) (na : List Nat) (v : Val) : Nat :=
  match wr f.ty f.bare na v with
  | .ok b => b.length
  | .error _ => 0

theorem writeElems_ok_iff (wr : Wr) (f : Field) (na : List Nat) (vs : List Val) :
    (∃ w, writeElemsWith wr f na vs = .ok w) ↔ (∀ v ∈ vs, ∃ b, wr f.ty f.bare na v = .ok b) := by
  -- the loop succeeds iff the call on the head (`h1`) and the loop on the tail (`h2`, by `ih` each call there) do
  fun_induction writeElemsWith wr f na vs with
  | case1 => simp
  | case2 v vs e h1 => simp only [reduceCtorEq, exists_const, List.mem_cons, forall_eq_or_imp, h1, false_and] -- the head fails
  | case3 v vs b h1 e h2 ih => -- the tail fails
    simp only [reduceCtorEq, exists_const, List.mem_cons, forall_eq_or_imp, h1, ← ih, h2, and_false]
  | case4 v vs b h1 bs h2 ih => -- both succeed
    simp only [Except.ok.injEq, exists_eq', List.mem_cons, forall_eq_or_imp, h1, ← ih, h2, and_self]

theorem writeElems_length (wr : Wr) (f : Field) (na : List Nat) (vs : List Val) (w : Bytes)
    (h : writeElemsWith wr f na vs = .ok w) : w.length = (vs.map (wcost wr f na)).sum := by
  fun_induction writeElemsWith wr f na vs generalizing w with
  | case1 => cases h; rfl
  | case2 | case3 => cases h
  | case4 v vs b hx bs hr ih =>
    cases h
    simp only [List.length_append, List.map_cons, List.sum_cons, wcost, hx, ih _ hr]

theorem dictInsert_subset (k : PrimK) (e : Val) (xs : List Val) : dictInsert k e xs ⊆ e :: xs := by
  fun_induction dictInsert k e xs with
  | case1 | case2 => exact List.Subset.refl _
  | case3 y ys _ _ ih =>
    exact List.cons_subset.mpr ⟨List.mem_cons_of_mem _ List.mem_cons_self,
      ih.trans (List.cons_subset_cons _ (List.subset_cons_self _ _))⟩
  | case4 => exact List.cons_subset_cons _ (List.subset_cons_self _ _)

theorem mem_dictNormalize {k : PrimK} {vs : List Val} {v : Val} (h : v ∈ dictNormalize k vs) : v ∈ vs :=
  List.foldlRecOn (motive := (· ⊆ vs)) vs _ (List.nil_subset _)
    (fun acc ha e he => (dictInsert_subset k e acc).trans (List.cons_subset.mpr ⟨he, ha⟩)) h

theorem dictInsert_cost (c : Val → Nat) (k : PrimK) (e : Val) (xs : List Val) :
    ((dictInsert k e xs).map c).sum ≤ c e + (xs.map c).sum := by
  fun_induction dictInsert k e xs with
  | case1 | case2 => exact Nat.le_refl _
  | case3 y ys _ _ ih => simp only [List.map_cons, List.sum_cons]; omega
  | case4 => simp only [List.map_cons, List.sum_cons]; omega

theorem dictFold_cost (c : Val → Nat) (k : PrimK) :
    ∀ vs acc : List Val, ((vs.foldl (fun acc e => dictInsert k e acc) acc).map c).sum ≤ (acc.map c).sum + (vs.map c).sum
  | [], acc => Nat.le_refl _
  | v :: vs, acc => by
    have := dictFold_cost c k vs (dictInsert k v acc)
    have := dictInsert_cost c k v acc
    simp only [List.foldl_cons, List.map_cons, List.sum_cons]
    omega

theorem dictNormalize_cost (c : Val → Nat) (k : PrimK) (vs : List Val) :
    ((dictNormalize k vs).map c).sum ≤ (vs.map c).sum :=
  Nat.le_trans (dictFold_cost c k vs []) (Nat.le_of_eq (Nat.zero_add _))

theorem dictNormalize_length_le (k : PrimK) (vs : List Val) : (dictNormalize k vs).length ≤ vs.length := by
  simpa only [List.map_const', List.sum_replicate_nat, Nat.mul_one] using dictNormalize_cost (fun _ => 1) k vs

theorem dictNormalize_write (wr : Wr) (f : Field) (na : List Nat) (k : PrimK) (vs : List Val) (w : Bytes)
    (h : writeElemsWith wr f na vs = .ok w) :
    ∃ w', writeElemsWith wr f na (dictNormalize k vs) = .ok w' ∧ w'.length ≤ w.length := by
  have hall := (writeElems_ok_iff wr f na vs).mp ⟨w, h⟩
  obtain ⟨w', hw'⟩ := (writeElems_ok_iff wr f na _).mpr fun v hv => hall v (mem_dictNormalize hv)
  refine ⟨w', hw', ?_⟩
  rw [writeElems_length _ _ _ _ _ hw', writeElems_length _ _ _ _ _ h]
  exact dictNormalize_cost _ k vs

theorem dictInsert_append (k : PrimK) (e : Val) :
    ∀ (acc : List Val), (∀ a ∈ acc, keyLt k (elemKey a) (elemKey e) = true ∧ keyLt k (elemKey e) (elemKey a) = false) →
      dictInsert k e acc = acc ++ [e] := by
  intro acc
  induction acc with
  | nil => intro _; rfl
  | cons x xs ih =>
    intro h
    have hx := h x (by simp)
    simp only [dictInsert, hx.1, hx.2, Bool.false_eq_true, if_false, if_true, List.cons_append]
    rw [ih (fun a ha => h a (by simp [ha]))]

theorem dictFold_sorted (k : PrimK) :
    ∀ (vs acc : List Val), dictSorted k vs = true →
      (∀ a ∈ acc, ∀ v ∈ vs, keyLt k (elemKey a) (elemKey v) = true ∧ keyLt k (elemKey v) (elemKey a) = false) →
      vs.foldl (fun acc e => dictInsert k e acc) acc = acc ++ vs := by
  intro vs
  induction vs with
  | nil => intro acc _ _; simp
  | cons v vs ih =>
    intro acc hs hacc
    simp only [dictSorted, Bool.and_eq_true, List.all_eq_true, Bool.not_eq_true'] at hs
    simp only [List.foldl_cons]
    rw [dictInsert_append k v acc (fun a ha => hacc a ha v (by simp))]
    rw [ih _ hs.2]
    · simp
    · intro a ha w hw
      simp only [List.mem_append, List.mem_singleton] at ha
      rcases ha with ha | ha
      · exact hacc a ha w (by simp [hw])
      · subst ha; exact hs.1 w hw

theorem dictNormalize_sorted {k : PrimK} {es : List Val} (h : dictSorted k es = true) : dictNormalize k es = es := by
  unfold dictNormalize
  rw [dictFold_sorted k es [] h (fun a ha => by cases ha)]
  rfl

theorem dictAscending_eq_sorted (k : PrimK) : ∀ vs, dictAscending k vs = dictSorted k vs
  | [] => rfl
  | x :: xs => by
    have hb : ∀ ys, keyBelowAll k x ys = ys.all fun y => keyLt k (elemKey x) (elemKey y) && !keyLt k (elemKey y) (elemKey x) := by
      intro ys
      induction ys with
      | nil => rfl
      | cons y ys ih => simp only [keyBelowAll, List.all_cons, ih]
    simp only [dictAscending, dictSorted, hb, dictAscending_eq_sorted k xs]

/-- what canonicity asks of the storage of a dictionary: the stored list still re-encodes, and count word plus
elements are `R`-related to what was consumed -/
def StoreCanon (R : Bytes → Bytes → Prop) (m : DictMode) (sl : Nat → Bool) : Prop :=
  ∀ (ty : Nat) (wr : Wr) (f : Field) (na : List Nat) (k : PrimK) (vs vs' : List Val) (w pre : Bytes),
    dictStore m (sl ty) k vs = .ok vs' → writeElemsWith wr f na vs = .ok w → R w pre →
    ∃ w', writeElemsWith wr f na vs' = .ok w' ∧ vs'.length ≤ vs.length ∧
      R (u32le vs'.length ++ w') (u32le vs.length ++ pre)

theorem StoreCanon.slice {R : Bytes → Bytes → Prop} (hR : ByteRel R) : StoreCanon R .slice (fun _ => true) := by
  intro ty wr f na k vs vs' w pre hs hw r
  cases hs
  exact ⟨w, hw, Nat.le_refl _, hR.app (hR.refl _) r⟩

theorem StoreCanon.map (sl : Nat → Bool) : StoreCanon (fun a b => a.length ≤ b.length) .map sl := by
  intro ty wr f na k vs vs' w pre hs hw r
  cases hs
  obtain ⟨w', hw', hl⟩ := dictNormalize_write wr f na k vs w hw
  exact ⟨w', hw', dictNormalize_length_le k vs, by simp only [List.length_append, u32le_length]; omega⟩

theorem length_word_pos (w : Nat) (pre : Bytes) : 1 ≤ (u32le w ++ pre).length := by
  rw [List.length_append, u32le_length]; omega

theorem readTL1M_canonNm {R : Bytes → Bytes → Prop} (hR : ByteRel R) (m : DictMode) (sl : Nat → Bool) (cfg : Cfg) (d : Desc)
    (S : Nat → Bool) (hcl : d.closed S = true) (hnb : d.allOn S (fun i => !i.isBitPrim) = true)
    (hD : d.allOn S (fun i => !i.isDict) = true ∨ StoreCanon R m sl) :
    ∀ fuel, CanonNm R (d.allOn S (fun i => !i.isDict) = true) S d.consumes (readTL1M m sl cfg d fuel) (writeTL1 d fuel)
      (normalTL1 d fuel)
  | 0 => fun _ _ _ _ _ _ h => nomatch h
  | fuel + 1 => by
    have ih := readTL1M_canonNm hR m sl cfg d S hcl hnb hD fuel
    intro ty bare params bs v rest h
    cases readTL1M_step h with
    | @prim k _ _ hg hr =>
      by_cases hk : k = .bit
      · subst hk; cases hr
        exact ⟨[], rfl, fun hc => by simp [Desc.consumes, hg] at hc, fun hSty => absurd rfl (Desc.noBit_on hnb hg hSty)⟩
      · obtain ⟨pre, e, hw, hv⟩ := readPrim_canonical hk hr
        refine ⟨pre, e, fun _ => Nat.le_trans ?_ (writePrim_min hw),
          fun _ => ⟨⟨pre, by rw [writeTL1_prim hg, hw], hR.refl _⟩, fun _ => by simpa only [normalTL1, hg] using hv⟩⟩
        cases k with
        | bit => exact absurd rfl hk
        | _ => exact Nat.le_of_ble_eq_true rfl
    | fieldsOk hg hb hr =>
      obtain ⟨tail, pre, e1, e2, hc⟩ := readFields_canonNm hR ih params _ _ _ _ _ hr
      rw [List.nil_append] at e1; subst e1
      refine ⟨_ ++ pre, by rw [hb, e2, List.append_assoc], fun hcs => ?_, fun hSty => ?_⟩
      · cases bare with
        | true => simp [Desc.consumes, hg] at hcs
        | false => exact length_word_pos _ _
      · obtain ⟨w, r1, hw, hn⟩ := hc fun f hf => Desc.closed_get hcl hg hSty _ (List.mem_map_of_mem hf)
        exact ⟨⟨_ ++ w, by rw [writeTL1_struct hg, hw]; rfl, hR.app (hR.refl _) r1⟩,
          fun hN => by simpa only [normalTL1, hg] using hn hN⟩
    | variantOk hg hb hf hna hr =>
      obtain ⟨s, nm, hv, hgv, hst⟩ := findVariant_ok hf
      obtain ⟨pre, e1, _, hc⟩ := ih hr
      refine ⟨u32le _ ++ pre, by rw [hb, e1, List.append_assoc], fun _ => length_word_pos _ _, fun hSty => ?_⟩
      obtain ⟨⟨w, hw, r1⟩, hn⟩ :=
        hc (Desc.closed_get hcl hg hSty _ (List.mem_map_of_mem (f := (·.1)) (List.mem_of_getElem? hv)))
      refine ⟨⟨u32le _ ++ w, ?_, hR.app (hR.refl _) r1⟩, fun hN => by simpa only [normalTL1, hg, hv, hna] using hn hN⟩
      rw [writeTL1_union hg hv hna, ← hst]; exact writeTL1_boxed_of_bare hgv hw
    | tupleOk hg ht hna hcnt _ hr =>
      obtain ⟨pre, e1, hc⟩ := readElems_canonNm hR ih hr
      have hl := readElems_length hr
      refine ⟨pre, e1, fun hcs => by simp [Desc.consumes, hg, ht] at hcs, fun hSty => ?_⟩
      obtain ⟨⟨w, hw, r1⟩, hn⟩ := hc (Desc.closed_get hcl hg hSty _ (by simp [Inst.refs]))
      exact ⟨⟨w, by rw [writeTL1_tuple hg ht hna hcnt, if_neg (by simp [hl]), hw], r1⟩,
        fun hN => by simpa only [normalTL1, hg, hna] using hn hN⟩
    | vectorOk hg ht hna hb hlt _ hr =>
      obtain ⟨pre, e1, hc⟩ := readElems_canonNm hR ih hr
      have hl := readElems_length hr
      refine ⟨u32le _ ++ pre, by rw [hb, e1, List.append_assoc], fun _ => length_word_pos _ _, fun hSty => ?_⟩
      obtain ⟨⟨w, hw, r1⟩, hn⟩ := hc (Desc.closed_get hcl hg hSty _ (by simp [Inst.refs]))
      refine ⟨⟨u32le _ ++ w, ?_, hR.app (hR.refl _) r1⟩, fun hN => by simpa only [normalTL1, hg, hna] using hn hN⟩
      rw [writeTL1_vector hg ht hna, if_neg (Nat.not_le.mpr (hl ▸ hlt)), hw, hl]; rfl
    | dictOk hg hna hb hlt _ hr hst =>
      obtain ⟨pre, e1, hc⟩ := readElems_canonNm hR ih hr
      refine ⟨u32le _ ++ pre, by rw [hb, e1, List.append_assoc], fun _ => length_word_pos _ _, fun hSty => ?_⟩
      rcases hD with hD | hD
      · exact (Desc.noDict_on hD hg hSty).elim
      · obtain ⟨⟨w, hw, r1⟩, _⟩ := hc (Desc.closed_get hcl hg hSty _ (by simp [Inst.refs]))
        have hl := readElems_length hr
        obtain ⟨w', hw', hl', r2⟩ := hD ty _ _ _ _ _ _ _ _ hst hw r1
        refine ⟨⟨_, ?_, hl ▸ r2⟩, fun hN => (Desc.noDict_on hN hg hSty).elim⟩
        rw [writeTL1_dict hg hna, if_neg (Nat.not_le.mpr (Nat.lt_of_le_of_lt (hl ▸ hl') hlt)), hw']; rfl

end TLVerif.Codec
