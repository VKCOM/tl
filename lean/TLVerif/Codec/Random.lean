import TLVerif.Codec.TL1
import TLVerif.Codec.TL1Wf
import TLVerif.Generated.RandFacts
/-!
Random filling of generated objects (C18): a model of `basictl.RandGenerator` (pkg/basictl/basictl.go) over an
explicit stream of `basictl.Rand` outputs, and of the generated `FillRandom` methods
(`internal/puregen/gengo/qt_struct.qtpl` randomFields, `qt_brackets.qtpl`, `qt_dict.qtpl`, `qt_union.qtpl`,
`qt_maybe.qtpl`, `type_rw_*.go` typeRandomCode) driven by the descriptor.

The stream: the harness `Rand` produces one 64-bit word per call, whatever the method
(`Uint32` = low 32 bits, `Int31`/`Int63` = low 31/63 bits, `NormFloat64` = `(w % 2001 − 1000) / 8`, a value that is
exact in `float32` and `float64`, so float bits are computed with integer arithmetic only).  `RG.src` is that word
sequence, `RG.pos` the number of words consumed; theorems quantify over every `src`.

Two inputs besides the kernel descriptor, exported per run by `go/hginfo` (overlay into `gengo`):
`FieldX.recursive` — the generator's private cycle-breaking decision (pointer field; the only struct-field sites that
call `IncreaseDepth`/`DecreaseDepth`), and the kernel's `GetNatFieldUsage` (`#` fields used as field mask / tuple size,
which selects `RandomFieldMask` / `RandomSize`).
-/
namespace TLVerif.Codec
open TLVerif.Prim TLVerif.Facts

/-- per-field decisions of the Go generator that `FillRandom` depends on -/
structure FieldX where
  recursive : Bool := false
  usedAsMask : Bool := false
  usedAsSize : Bool := false
  usedBits : Nat := 0          -- bit set: which bits of this `#` field some field is conditional on
  deriving Repr, Inhabited

/-- instance index → field index → decisions -/
abbrev GenInfo := Nat → Nat → FieldX

def noInfo : Nat → FieldX := fun _ => {}

/-- the field's value is drawn directly (`RandomFieldMask` / `RandomSize`), its type is not consulted -/
def FieldX.drawn (x : FieldX) : Bool := x.usedAsMask || x.usedAsSize

/-- an unwrap struct has no `FillRandom` call of its own (typeRandomCode goes straight to its only field) -/
def structGx (gi : GenInfo) (ty : Nat) (s : StructD) : Nat → FieldX := if s.isUnwrap then noInfo else gi ty

/-! ### `basictl.RandGenerator` -/

structure RG where
  maxDepth : Nat
  cur : Nat
  src : Nat → Nat      -- the i-th 64-bit word the `Rand` returns
  pos : Nat            -- words consumed so far

def RG.raw (rg : RG) : Nat × RG := (rg.src rg.pos % 18446744073709551616, { rg with pos := rg.pos + 1 })
/-- `Rand.Uint32` -/
def RG.uint32 (rg : RG) : Nat × RG := (rg.raw.1 % 4294967296, rg.raw.2)
/-- `Rand.Int31` -/
def RG.int31 (rg : RG) : Nat × RG := (rg.raw.1 % 2147483648, rg.raw.2)
/-- `Rand.Int63` -/
def RG.int63 (rg : RG) : Nat × RG := (rg.raw.1 % 9223372036854775808, rg.raw.2)
/-- `Rand.NormFloat64`, as the number `k` with value `(k − 1000) / 8` -/
def RG.normK (rg : RG) : Nat × RG := (rg.raw.1 % 2001, rg.raw.2)

/-- `NewRandGenerator`: the first `Uint32` picks `maxDepth ∈ [minDepth, maxDepth]` -/
def newRG (src : Nat → Nat) : RG :=
  { maxDepth := (src 0 % 18446744073709551616 % 4294967296) % (Rand.maxDepth - Rand.minDepth + 1) + Rand.minDepth,
    cur := 0, src := src, pos := 1 }

/-- `IncreaseDepth`: unconditional (it used to saturate at `maxDepth`, which made the paired `DecreaseDepth` lower the
depth: repaired in the repository, former known finding C18-leak) -/
def RG.inc (rg : RG) : RG := { rg with cur := rg.cur + 1 }
/-- `DecreaseDepth` -/
def RG.dec (rg : RG) : RG := if rg.cur ≠ 0 then { rg with cur := rg.cur - 1 } else rg

/-- number of low bits kept by `RandomUint`, from the category (low `probabilityBits` bits) of the first word -/
def bitCount (source : Nat) : Nat :=
  let cat := source % 2 ^ Rand.probabilityBits
  let hi := source / 2 ^ Rand.probabilityBits
  if cat < Rand.w0 then 0
  else if cat < Rand.w1to2 then 1 + hi % 2
  else if cat < Rand.w3to4 then 3 + hi % 2
  else if cat < Rand.w5to8 then 5 + hi % 4
  else if cat < Rand.w9to16 then 9 + hi % 8
  else if cat < Rand.w17to24 then 17 + hi % 8
  else if cat < Rand.w25to32 then 25 + hi % 8
  else 0

/-- `basictl.RandomUint`: 0 without touching the stream once the depth limit is reached -/
def randomUint (rg : RG) : Nat × RG :=
  if rg.cur ≥ rg.maxDepth then (0, rg) else
  ((rg.uint32.2.uint32.1) % 2 ^ bitCount rg.uint32.1, rg.uint32.2.uint32.2)

/-- `rg.LimitValue` -/
def limitVal (v : Nat) : Nat := v &&& (Rand.limitValue - 1)

/-- `basictl.RandomSize` (default `SizeHandler` = identity) -/
def randomSize (rg : RG) : Nat × RG := (limitVal (randomUint rg).1, (randomUint rg).2)

/-- the loop of `RandomFieldMask`: bit `i` of `bitMask` receives the next unused bit of `source` -/
def scatterBits (source bitMask : Nat) : Nat → Nat → Nat → Nat
  | 0, _, _ => 0
  | n + 1, i, si =>
    if testBit bitMask i then
      (if testBit source si then 2 ^ i else 0) + scatterBits source bitMask n (i + 1) (si + 1)
    else scatterBits source bitMask n (i + 1) si

/-- `basictl.RandomFieldMask` (default `FieldMaskHandler` = identity); the result is a `uint32` -/
def randomFieldMask (rg : RG) (bitMask : Nat) : Nat × RG :=
  (scatterBits (randomUint rg).1 bitMask 32 0 0 % 4294967296, (randomUint rg).2)

def lettersB : List UInt8 := Rand.letters.toList.map (fun c => UInt8.ofNat c.toNat)

def letterAt (i : Nat) : UInt8 :=
  match lettersB[i % lettersB.length]? with
  | some b => b
  | none => 0

def randomChars : Nat → RG → Bytes × RG
  | 0, rg => ([], rg)
  | n + 1, rg =>
    let r := randomChars n rg.uint32.2
    (letterAt rg.uint32.1 :: r.1, r.2)

/-- `basictl.RandomString` -/
def randomString (rg : RG) : Bytes × RG := randomChars (rg.uint32.1 % Rand.randomNatConstraint) rg.uint32.2

/-- IEEE-754 binary64 bits of `(k − 1000) / 8` for `k ≤ 2000` (exact: at most 10 significant bits) -/
def f64OfEighths (k : Nat) : Nat :=
  if k = 1000 then 0 else
  let n := if k < 1000 then 1000 - k else k - 1000
  let p := Nat.log2 n
  ((if k < 1000 then 9223372036854775808 else 0) + (p + 1020) * 4503599627370496 + (n * 2 ^ (52 - p) - 4503599627370496))
    % 18446744073709551616

/-- binary32 bits of the same value (`float32(x)` is exact as well) -/
def f32OfEighths (k : Nat) : Nat :=
  if k = 1000 then 0 else
  let n := if k < 1000 then 1000 - k else k - 1000
  let p := Nat.log2 n
  ((if k < 1000 then 2147483648 else 0) + (p + 124) * 8388608 + (n * 2 ^ (23 - p) - 8388608)) % 4294967296

/-- `typeRandomCode` of primitives and of `Bool` -/
def fillPrim (k : PrimK) (rg : RG) : Val × RG :=
  match k with
  | .u32 => (.nat (randomUint rg).1, (randomUint rg).2)
  | .i32 => (.nat rg.int31.1, rg.int31.2)
  | .i64 => (.nat rg.int63.1, rg.int63.2)
  | .u64 => (.nat rg.int63.1, rg.int63.2)
  | .f32 => (.nat (f32OfEighths rg.normK.1), rg.normK.2)
  | .f64 => (.nat (f64OfEighths rg.normK.1), rg.normK.2)
  | .byte => (.nat (rg.uint32.1 % 256), rg.uint32.2)
  | .str => (.str (randomString rg).1, (randomString rg).2)
  | .bool _ _ => (.bool ((randomUint rg).1 % 2 == 1), (randomUint rg).2)
  | .bit => (.bool false, rg)

/-! ### generated `FillRandom` -/

abbrev FRes := Except CErr (Val × RG)
abbrev Fl := Nat → List Nat → RG → FRes        -- type index, nat arguments, generator state

/-- the value of one present field: `#` fields that other fields depend on are drawn as masks / sizes -/
def fillValue (fl : Fl) (x : FieldX) (f : Field) (na : List Nat) (rg : RG) : FRes :=
  if x.usedAsMask then
    .ok (.nat (if x.usedAsSize then limitVal (randomFieldMask rg x.usedBits).1 else (randomFieldMask rg x.usedBits).1),
         (randomFieldMask rg x.usedBits).2)
  else if x.usedAsSize then .ok (.nat (randomSize rg).1, (randomSize rg).2)
  else fl f.ty na rg

/-- `randomFields` of a TL1-origin struct: fields in order; a field whose mask bit is clear is reset (absent);
`true`-typed conditional fields have no storage; recursive (pointer) fields are wrapped in
`IncreaseDepth` / `DecreaseDepth` -/
def fillFieldsWith (fl : Fl) (gx : Nat → FieldX) (params : List Nat) :
    List Field → Nat → List (Option Val) → RG → Except CErr (List (Option Val) × RG)
  | [], _, acc, rg => .ok (acc, rg)
  | f :: fs, i, acc, rg =>
    match fieldPresent f acc params, natArgVals acc params f.natArgs with
    | some true, some na =>
      if f.isBit then fillFieldsWith fl gx params fs (i + 1) (acc ++ [some (.struct [])]) rg else
      match fillValue fl (gx i) f na (if (gx i).recursive then rg.inc else rg) with
      | .error e => .error e
      | .ok (v, rg2) =>
        fillFieldsWith fl gx params fs (i + 1) (acc ++ [some v]) (if (gx i).recursive then rg2.dec else rg2)
    | some false, some _ => fillFieldsWith fl gx params fs (i + 1) (acc ++ [none]) rg
    | _, _ => .error .desc

def fillElemsWith (fl : Fl) (f : Field) (na : List Nat) : Nat → RG → Except CErr (List Val × RG)
  | 0, rg => .ok ([], rg)
  | n + 1, rg =>
    match fl f.ty na rg with
    | .error e => .error e
    | .ok (v, rg') =>
      match fillElemsWith fl f na n rg' with
      | .error e => .error e
      | .ok (vs, rg'') => .ok (v :: vs, rg'')

/-- `FillRandom` of the instance `ty`. TL2-origin structs (`RandomInt & 1` per optional field) are not modelled:
they have no TL1 form to compare, the answer is `.error .shape`. -/
def fillTL1 (d : Desc) (gi : GenInfo) : Nat → Fl
  | 0 => fun _ _ _ => .error .fuel
  | fuel + 1 => fun ty params rg =>
    match d.get? ty with
    | none => .error .desc
    | some (.prim k) => .ok (fillPrim k rg)
    | some (.struct s) =>
      if s.originTL2 then .error .shape else
      match fillFieldsWith (fillTL1 d gi fuel) (structGx gi ty s) params s.fields 0 [] rg with
      | .error e => .error e
      | .ok (fs, rg') => .ok (.struct fs, rg')
    | some (.union u) =>
      -- also `Maybe`: `RandomUint & 1 == 1` selects the second variant
      match u.variants[(randomUint rg).1 % u.variants.length]?, natArgVals [] params u.elemNatArgs with
      | some (vi, _), some na =>
        match fillTL1 d gi fuel vi na (randomUint rg).2 with
        | .error e => .error e
        | .ok (v, rg') => .ok (.union ((randomUint rg).1 % u.variants.length) v, rg')
      | _, _ => .error .desc
    | some (.array a) =>
      match natArgVals [] params a.elem.natArgs with
      | none => .error .desc
      | some na =>
        if a.isTuple then
          match (if a.dynamic then params[0]? else some a.count) with
          | none => .error .desc
          | some n =>
            match fillElemsWith (fillTL1 d gi fuel) a.elem na n rg.inc with
            | .error e => .error e
            | .ok (vs, rg') => .ok (.arr vs, rg'.dec)
        else
          match fillElemsWith (fillTL1 d gi fuel) a.elem na (randomSize rg.inc).1 (randomSize rg.inc).2 with
          | .error e => .error e
          | .ok (vs, rg') => .ok (.arr vs, rg'.dec)
    | some (.dict a) =>
      match natArgVals [] params a.elem.natArgs, dictKeyPrim d a with
      | some na, some k =>
        match fillElemsWith (fillTL1 d gi fuel) a.elem na (randomSize rg.inc).1 (randomSize rg.inc).2 with
        | .error e => .error e
        | .ok (vs, rg') => .ok (.arr (dictNormalize k vs), rg'.dec)     -- `(*m)[key] = value`
      | _, _ => .error .desc

/-- `obj.FillRandom(basictl.NewRandGenerator(r))` for a factory object (no nat parameters) -/
def fillRandom (d : Desc) (gi : GenInfo) (fuel ty : Nat) (src : Nat → Nat) : FRes :=
  fillTL1 d gi fuel ty [] (newRG src)

/-- recursion budget used by the driver: never exhausted under `Desc.fillGuard` (`Props.C18.fill_terminates`: `maxDepth` levels
of `|d| + 1` and a rank); every terminating run of the corpus nests far less -/
def fillFuel (d : Desc) : Nat := (Rand.maxDepth + 3) * (d.insts.size + 1)

/-! ### decidable guards of the termination theorem (`Props/C18.lean`), evaluated per factory item (T3)

`fillRanked` is a rank certificate for the references that pass no `IncreaseDepth` site (plain struct fields, union
variants): it fails on recursion through a union, whose `FillRandom` never increases the depth.  References through an
`IncreaseDepth` site (array elements, recursive fields) lower `maxDepth − curDepth` instead — until the limit is
reached; from there on all random sizes, masks and union indices are 0 and what is still followed (unconditional
fields, first variants, elements of tuples) must be a finite recursion of its own: `satFinite`, required by `satOk` of
every body that can be entered at the limit (elements of tuples, the type of a recursive field).  It fails for
non-productive types such as `loopA x:loopA` (lead L8). -/

/-- conditional on a bit of an earlier `#` field of this struct: at the depth limit that field is 0, the field absent -/
def maskedByLocalU32 (d : Desc) (all : List Field) (f : Field) : Bool :=
  match f.mask with
  | some (.field j, _) =>
    match all[j]? with
    | some g => !g.isBit && (match d.get? g.ty with | some (.prim .u32) => true | _ => false)
    | none => false
  | _ => false

def satFields (d : Desc) (q : Nat → Bool) (gx : Nat → FieldX) (all : List Field) : List Field → Nat → Bool
  | [], _ => true
  | f :: fs, i =>
    (f.isBit || maskedByLocalU32 d all f || (gx i).drawn || q f.ty) &&
    satFields d q gx all fs (i + 1)

/-- `FillRandom` of `ty`, started at (or beyond) the depth limit, is a finite recursion -/
def satFinite (d : Desc) (gi : GenInfo) : Nat → Nat → Bool
  | 0, _ => false
  | n + 1, ty =>
    match d.get? ty with
    | none => true
    | some (.prim _) => true
    | some (.struct s) => s.originTL2 || satFields d (satFinite d gi n) (structGx gi ty s) s.fields s.fields 0
    | some (.union u) => (match u.variants with | (vi, _) :: _ => satFinite d gi n vi | [] => true)
    | some (.array a) => !a.isTuple || satFinite d gi n a.elem.ty      -- a vector drawn at the limit is empty
    | some (.dict _) => true

def satOkFields (q : Nat → Bool) (gx : Nat → FieldX) : List Field → Nat → Bool
  | [], _ => true
  | f :: fs, i => (f.isBit || !(gx i).recursive || (gx i).drawn || q f.ty) && satOkFields q gx fs (i + 1)

def Inst.satOk (d : Desc) (gi : GenInfo) (ty : Nat) : Inst → Bool
  | .struct s => satOkFields (satFinite d gi (d.insts.size + 1)) (structGx gi ty s) s.fields 0
  | .array a => !a.isTuple || satFinite d gi (d.insts.size + 1) a.elem.ty
  | _ => true

def fieldsRanked (rk : List Nat) (r : Nat) (gx : Nat → FieldX) : List Field → Nat → Bool
  | [], _ => true
  | f :: fs, i =>
    (f.isBit || (gx i).recursive || (gx i).drawn || decide (rkAt rk f.ty < r)) && fieldsRanked rk r gx fs (i + 1)

def Inst.fillRanked (gi : GenInfo) (rk : List Nat) (ty : Nat) : Inst → Bool
  | .struct s => fieldsRanked rk (rkAt rk ty) (structGx gi ty s) s.fields 0
  | .union u => u.variants.all (fun p => decide (rkAt rk p.1 < rkAt rk ty))
  | _ => true

/-- `p ty inst` for every instance of `S` -/
def Desc.allOnI (d : Desc) (S : Nat → Bool) (p : Nat → Inst → Bool) : Bool :=
  (List.range d.insts.size).all fun i =>
    !S i || match d.get? i with | some inst => p i inst | none => true

/-- the guard of `fill_terminates`: ranks bounded by the number of instances, rank certificate, `satFinite` for what is entered at the
depth limit -/
def Desc.fillGuard (d : Desc) (gi : GenInfo) (rk : List Nat) (S : Nat → Bool) : Bool :=
  d.allOnI S (fun i _ => decide (rkAt rk i ≤ d.insts.size)) && d.allOnI S (Inst.fillRanked gi rk) && d.allOnI S (Inst.satOk d gi)

def fieldsRankStep (rk : List Nat) (gx : Nat → FieldX) : List Field → Nat → Nat → Nat
  | [], _, m => m
  | f :: fs, i, m =>
    fieldsRankStep rk gx fs (i + 1)
      (if f.isBit || (gx i).recursive || (gx i).drawn then m else max m (rkAt rk f.ty + 1))

def Desc.fillRankStep (d : Desc) (gi : GenInfo) (rk : List Nat) : List Nat :=
  (List.range d.insts.size).map fun i =>
    match d.get? i with
    | some (.struct s) => fieldsRankStep rk (structGx gi i s) s.fields 0 0
    | some (.union u) => u.variants.foldl (fun m p => max m (rkAt rk p.1 + 1)) 0
    | _ => 0

/-- candidate rank certificate (unverified helper: the theorem takes any `rk` passing `fillGuard`) -/
def Desc.computeFillRanks (d : Desc) (gi : GenInfo) : List Nat :=
  (List.range (d.insts.size + 1)).foldl (fun rk _ => d.fillRankStep gi rk) (List.replicate d.insts.size 0)

/-- splitmix64: the word sequence of the harness `Rand` for a seed -/
def splitmix (seed i : Nat) : Nat :=
  let s := (seed + (i + 1) * 0x9E3779B97F4A7C15) % 18446744073709551616
  let z := ((s ^^^ (s >>> 30)) * 0xBF58476D1CE4E5B9) % 18446744073709551616
  let z := ((z ^^^ (z >>> 27)) * 0x94D049BB133111EB) % 18446744073709551616
  z ^^^ (z >>> 31)

end TLVerif.Codec
