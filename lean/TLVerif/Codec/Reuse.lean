import TLVerif.Codec.TL1
import TLVerif.Codec.Zero
/-!
Memory-level model of object REUSE in the generated Go readers (C09).

`Val` (Val.lean) is what encoders can observe.  `Mem` keeps what the Go object keeps and `Val` forgets:

* a struct has storage for EVERY field, also for those whose mask bit is clear (`qt_struct.qtpl` `readFields`:
  the `else` branch of a mask test runs `TypeResettingCode` on the old storage, it does not drop it);
* a union object has its `index` AND storage for every variant (`qt_union.qtpl` `ReadTL1Boxed`: `item.index = i`, then
  the variant is read in place into `item.value<V>`; the other variants stay as they were);
* a slice has `len` elements plus stale elements up to `cap` that become visible again when a later read re-slices
  to a larger length (`qt_brackets.qtpl`: `if cap(*vec) < l { make } else { (*vec)[:l] }`, then element-wise in-place read);
* `Maybe` is the two-variant union `{Ok=false | Ok=true, Value}`: the flag is the index, `Value` is the storage of variant 1
  (`qt_maybe.qtpl`: `Reset` only clears `Ok`);
* map dictionaries (`qt_dict.qtpl`) are cleared and refilled, every element being read into a fresh `var elem`;
  map values are not addressable in Go, so the map keeps plain values (`List Val`, sorted by key as the writer emits them);
* `.nil` is storage that was never written: a nil pointer (recursive fields/variants, `EnsureRecursive`:
  `if p == nil { p = new(T) }`) or zeroed inline memory.  The readers materialise it on demand, wherever it occurs, so
  the model does not need to know at which fields gengo placed the pointers (it allows `nil` everywhere).

The only thing `Mem` has that Go has not is the ghost flag of a struct field: the outcome of the last mask test (read) or
`false`/const-mask (Reset) for that field.  Go recomputes it in the writer from the same `#` values; the flag lets the
observation function `abs` be a plain structural function.  The `#` values themselves are read from STORAGE
(`natArgValM`), exactly like `item.F1&(1<<0)` does, so a masked-out `#` field that is not reset leaks into later mask tests.

Readers return the state left behind also on error (the object is dirty: the next step of a history starts from it).
-/
namespace TLVerif.Codec.Reuse
open TLVerif.Prim TLVerif.Codec

inductive Mem where
  | nil
  | nat (n : Nat)
  | str (b : Bytes)
  | bool (b : Bool)
  | struct (fs : List (Bool × Mem))          -- ghost presence flag, storage
  | union (idx : Nat) (vs : List Mem)        -- storage of every variant
  | vec (es stale : List Mem)                -- `es` = [0,len), `stale` = [len,cap) of the backing array (fixed arrays: no stale part)
  | map (es : List Val)
  deriving Repr, Inhabited

/-! ### observation: what the TL1 writer (and every other encoder) can see -/

mutual
  def abs : Mem → Val
    | .nil => .arr []                         -- never visible after a read / Reset / creation (see `fresh_abs`, `reset_spec`)
    | .nat n => .nat n
    | .str b => .str b
    | .bool b => .bool b
    | .struct fs => .struct (absFields fs)
    | .union i vs => .union i (absNth vs i)
    | .vec es _ => .arr (absList es)
    | .map es => .arr es
  def absFields : List (Bool × Mem) → List (Option Val)
    | [] => []
    | (p, m) :: r => (if p then some (abs m) else none) :: absFields r
  def absList : List Mem → List Val
    | [] => []
    | m :: r => abs m :: absList r
  def absNth : List Mem → Nat → Val
    | [], _ => .arr []
    | m :: _, 0 => abs m
    | _ :: r, i + 1 => absNth r i
end

/-! ### accessors that tolerate ill-shaped memory (they make the readers total; see `Reuse.shaped` in `ReuseLemmas`) -/

def Mem.isNil : Mem → Bool
  | .nil => true
  | _ => false

def Mem.fields : Mem → List (Bool × Mem)
  | .struct fs => fs
  | _ => []

def Mem.variants : Mem → List Mem
  | .union _ vs => vs
  | _ => []

def Mem.elems : Mem → List Mem
  | .vec es _ => es
  | _ => []

def Mem.stale : Mem → List Mem
  | .vec _ st => st
  | _ => []

/-- `l[i] = m`, growing `l` with `.nil` when it is too short -/
def setPad : List Mem → Nat → Mem → List Mem
  | [], 0, m => [m]
  | _ :: r, 0, m => m :: r
  | [], i + 1, m => .nil :: setPad [] i m
  | x :: r, i + 1, m => x :: setPad r i m

/-- first `n` cells of `l`, missing ones `.nil` -/
def padTake : Nat → List Mem → List Mem
  | 0, _ => []
  | n + 1, [] => .nil :: padTake n []
  | n + 1, x :: r => x :: padTake n r

/-- `if cap(*vec) < n { *vec = make([]T, n) } else { *vec = (*vec)[:n] }`: the cells to read into, and the stale tail -/
def reslice (old : Mem) (n : Nat) : List Mem × List Mem :=
  let all := old.elems ++ old.stale
  if all.length < n then (List.replicate n .nil, []) else (all.take n, all.drop n)

def Mem.ofPrim : Val → Mem
  | .nat n => .nat n
  | .str b => .str b
  | .bool b => .bool b
  | _ => .nil

def zeroPrimM : PrimK → Mem
  | .str => .str []
  | .bool _ _ => .bool false
  | .bit => .bool false
  | _ => .nat 0

/-! ### creation and Reset -/

/-- ghost flag of a field of a freshly created / `Reset` object (the rule of `Z.zeroFieldsWith`) -/
def visibleAtZero (f : Field) : Bool :=
  let constPresent := match f.mask with | some (.num n, bit) => testBit n bit | _ => false
  !((f.mask.isSome || f.tl2bit.isSome) && !constPresent)

def freshFieldsWith (fr : Nat → Mem) : List Field → List (Bool × Mem)
  | [] => []
  | f :: fs => (if visibleAtZero f then (true, fr f.ty) else (false, .nil)) :: freshFieldsWith fr fs

/-- `new(T)` / `var x T`: the visible part is allocated, everything hidden is `.nil` (zeroed memory) -/
def freshMem (d : Desc) : Nat → Nat → Mem
  | 0, _ => .nil
  | fuel + 1, ty =>
    match d.get? ty with
    | none => .nil
    | some (.prim k) => zeroPrimM k
    | some (.struct s) => .struct (freshFieldsWith (freshMem d fuel) s.fields)
    | some (.union u) =>
      match u.variants with
      | (vi, _) :: rest => .union 0 (freshMem d fuel vi :: rest.map (fun _ => Mem.nil))
      | [] => .nil
    | some (.array a) =>
      if a.isTuple && !a.dynamic then .vec (List.replicate a.count (freshMem d fuel a.elem.ty)) []
      else .vec [] []
    | some (.dict _) => .map []

/-- `Reset()` of a struct: every field's `TypeResettingCode` on its old storage -/
def resetFieldsWith (rs : Nat → Mem → Mem) : List Field → List (Bool × Mem) → List (Bool × Mem)
  | [], _ => []
  | f :: fs, old => (visibleAtZero f, rs f.ty ((old.head?.map (·.2)).getD .nil)) :: resetFieldsWith rs fs old.tail

def resetElems (rs : Mem → Mem) : List Mem → List Mem
  | [] => []
  | m :: r => rs m :: resetElems rs r

/-- `TypeResettingCode` (type_rw_*.go): primitives are zeroed; a struct resets every field; a union sets `index = 0` and
resets variant 0 only (`ResetTo<V0>`; `Maybe`: `Ok = false`, `Value` keeps its garbage); a slice is cut to `[:0]` (all
elements become stale); a fixed array resets its elements in place; a map is cleared.  Never-written storage (`.nil`)
is zeroed memory: its Reset is the fresh object. -/
def resetMem (d : Desc) : Nat → Nat → Mem → Mem
  | 0, _, _ => .nil
  | fuel + 1, ty, old =>
    if old.isNil then freshMem d (fuel + 1) ty else
    match d.get? ty with
    | none => .nil
    | some (.prim k) => zeroPrimM k
    | some (.struct s) => .struct (resetFieldsWith (resetMem d fuel) s.fields old.fields)
    | some (.union u) =>
      match u.variants with
      | (vi, _) :: _ => .union 0 (setPad old.variants 0 (resetMem d fuel vi (old.variants.head?.getD .nil)))
      | [] => .nil
    | some (.array a) =>
      if a.isTuple && !a.dynamic then .vec (resetElems (resetMem d fuel a.elem.ty) (padTake a.count old.elems)) old.stale
      else .vec [] (old.elems ++ old.stale)
    | some (.dict _) => .map []

/-! ### readers into old storage -/

abbrev MRes := Mem × Except CErr Bytes
abbrev RdM := Nat → Bool → List Nat → Mem → Bytes → MRes     -- type, bare, nat args, OLD storage, input
abbrev RsM := Nat → Mem → Mem

/-- `item.F & (1<<bit)` / nat argument `item.F`: reads the STORAGE of the `#` field, whatever its mask said.
(The middle clause only fires for storage that is not a number, i.e. for malformed descriptors, where the
value-level model answers 0 as well.) -/
def natArgValM (fs : List (Bool × Mem)) (params : List Nat) : NatArg → Option Nat
  | .num n => some n
  | .param i => params[i]?
  | .field i =>
    match fs[i]? with
    | some (_, .nat n) => some n
    | some (false, _) => some 0
    | _ => none

def natArgValsM (fs : List (Bool × Mem)) (params : List Nat) : List NatArg → Option (List Nat)
  | [] => some []
  | a :: as => do
    let x ← natArgValM fs params a
    let xs ← natArgValsM fs params as
    pure (x :: xs)

def fieldPresentM (f : Field) (done : List (Bool × Mem)) (params : List Nat) : Option Bool :=
  match f.mask with
  | none => some true
  | some (a, bit) => (natArgValM done params a).map (fun m => testBit m bit)

/-- `readFields`: `done` = the fields already processed (new content), `todo` = old storage of the remaining ones.
mask set: read in place into the old storage; mask clear: `else { Reset }` of the old storage;
error in the middle: the fields after the failing one keep their old content. -/
def readFieldsInto (rd : RdM) (rs : RsM) (params : List Nat) :
    List Field → List (Bool × Mem) → List (Bool × Mem) → Bytes → List (Bool × Mem) × Except CErr Bytes
  | [], done, _, bs => (done, .ok bs)
  | f :: fs, done, todo, bs =>
    let o := (todo.head?.map (·.2)).getD .nil
    match fieldPresentM f done params, natArgValsM done params f.natArgs with
    | some true, some na =>
      match rd f.ty f.bare na o bs with
      | (m, .error e) => (done ++ (true, m) :: todo.tail, .error e)
      | (m, .ok bs') => readFieldsInto rd rs params fs (done ++ [(true, m)]) todo.tail bs'
    | some false, some _ => readFieldsInto rd rs params fs (done ++ [(false, rs f.ty o)]) todo.tail bs
    | _, _ => (done ++ todo, .error .desc)

/-- `for i := range *vec { read (*vec)[i] }` over the cells `todo` -/
def readElemsInto (rd : RdM) (f : Field) (na : List Nat) : List Mem → Bytes → List Mem × Except CErr Bytes
  | [], bs => ([], .ok bs)
  | o :: os, bs =>
    match rd f.ty f.bare na o bs with
    | (m, .error e) => (m :: os, .error e)
    | (m, .ok bs') =>
      match readElemsInto rd f na os bs' with
      | (ms, r) => (m :: ms, r)

/-- map dictionary: `for i < l { var elem T; read elem; data[elem.Key] = elem.Value }` -/
def readDictInto (rd : RdM) (f : Field) (na : List Nat) (k : PrimK) : Nat → List Val → Bytes → List Val × Except CErr Bytes
  | 0, acc, bs => (acc, .ok bs)
  | n + 1, acc, bs =>
    match rd f.ty f.bare na .nil bs with
    | (_, .error e) => (acc, .error e)
    | (m, .ok bs') => readDictInto rd f na k n (dictInsert k (abs m) acc) bs'

def readInto (cfg : Cfg) (d : Desc) : Nat → RdM
  | 0 => fun _ _ _ old _ => (old, .error .fuel)
  | fuel + 1 => fun ty bare params old bs =>
    match d.get? ty with
    | none => (old, .error .desc)
    | some (.prim k) =>
      match readPrim k bs with
      | .error e => (old, .error e)
      | .ok (v, r) => (Mem.ofPrim v, .ok r)
    | some (.struct s) =>
      match (if bare then .ok bs else readExactTag s.tag bs) with
      | .error e => (old, .error e)
      | .ok bs1 =>
        match readFieldsInto (readInto cfg d fuel) (resetMem d fuel) params s.fields [] old.fields bs1 with
        | (fs, r) => (.struct fs, r)
    | some (.union u) =>
      match readU32 bs with
      | .error e => (old, .error e)
      | .ok (tag, bs1) =>
        match findVariant d tag u.variants 0, natArgVals [] params u.elemNatArgs with
        | some (i, vi), some na =>
          -- `item.index = i` is assigned before the variant is read: an error leaves the new index behind
          match readInto cfg d fuel vi true na (old.variants[i]?.getD .nil) bs1 with
          | (m, r) => (.union i (setPad old.variants i m), r)
        | none, _ => (old, .error .rej)
        | _, none => (old, .error .desc)
    | some (.array a) =>
      match natArgVals [] params a.elem.natArgs with
      | none => (old, .error .desc)
      | some na =>
        if a.isTuple then
          match (if a.dynamic then params[0]? else some a.count) with
          | none => (old, .error .desc)
          | some n =>
            if a.dynamic && !sanityOk cfg bs n then (old, .error .eof) else
            let cells := if a.dynamic then reslice old n else (padTake n old.elems, old.stale)
            match readElemsInto (readInto cfg d fuel) a.elem na cells.1 bs with
            | (ms, r) => (.vec ms cells.2, r)
        else
          match readU32 bs with
          | .error e => (old, .error e)
          | .ok (n, bs1) =>
            if !sanityOk cfg bs1 n then (old, .error .eof) else
            let cells := reslice old n
            match readElemsInto (readInto cfg d fuel) a.elem na cells.1 bs1 with
            | (ms, r) => (.vec ms cells.2, r)
    | some (.dict a) =>
      match natArgVals [] params a.elem.natArgs with
      | none => (old, .error .desc)
      | some na =>
        match readU32 bs with
        | .error e => (old, .error e)
        | .ok (n, bs1) =>
          if !sanityOk cfg bs1 n then (old, .error .eof) else
          match dictKeyPrim d a with
          | none => (old, .error .desc)
          | some k =>
            -- `clear(*m)` before the loop: the refill starts from the empty map
            match readDictInto (readInto cfg d fuel) a.elem na k n [] bs1 with
            | (es, r) => (.map es, r)

/-- observation of a read: the value seen through `abs` and the unread rest, or the error -/
def obs : MRes → RRes
  | (m, .ok bs) => .ok (abs m, bs)
  | (_, .error e) => .error e

/-- store a value (decoded by another encoding's reader) into memory: no stale storage survives -/
def Mem.ofVal : Val → Mem
  | .nat n => .nat n
  | .str b => .str b
  | .bool b => .bool b
  | .struct fs => .struct (ofFields fs)
  | .union i v => .union i (setPad [] i (Mem.ofVal v))
  | .arr es => .vec (ofList es) []
where
  ofFields : List (Option Val) → List (Bool × Mem)
    | [] => []
    | none :: r => (false, .nil) :: ofFields r
    | some v :: r => (true, Mem.ofVal v) :: ofFields r
  ofList : List Val → List Mem
    | [] => []
    | v :: r => Mem.ofVal v :: ofList r

end TLVerif.Codec.Reuse
