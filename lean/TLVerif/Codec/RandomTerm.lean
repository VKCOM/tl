import TLVerif.Codec.RandomLemmas
import TLVerif.Codec.TL1Total
/-!
Termination of the random-filling model (C18): with the guards `Desc.fillGuard` (rank certificate for the references
that do not increase the depth + `satFinite` for what is entered at the depth limit) a recursion budget of
`(maxDepth − curDepth) · (|d| + 1) + rank + 1` (`fillTL1_term`; for a fresh generator at most the driver's `fillFuel d`) is never
exhausted, whatever the stream.

Measure: `(maxDepth − curDepth, rank)` lexicographically. `maxDepth − curDepth ≥ 1` outside the saturated region;
a reference through an `IncreaseDepth` site lowers it by one (any rank), a plain reference keeps it and lowers the rank;
at `maxDepth − curDepth = 0` (saturated) only `satFinite` types are entered, they contain no `IncreaseDepth` site and
all random sizes, masks and union indices are 0 there.  The invariant carried along is that every call returns with `curDepth` and
`maxDepth` unchanged (`Returns`): the depth reached decides which of the two regions a call is in.
-/
namespace TLVerif.Codec
open TLVerif.Prim TLVerif.Facts

def RG.same (a b : RG) : Prop := b.cur = a.cur ∧ b.maxDepth = a.maxDepth

theorem RG.same_refl (a : RG) : a.same a := ⟨rfl, rfl⟩
theorem RG.same_trans {a b c : RG} (h1 : a.same b) (h2 : b.same c) : a.same c :=
  ⟨h2.1.trans h1.1, h2.2.trans h1.2⟩

theorem raw_same (rg : RG) : rg.same rg.raw.2 := ⟨rfl, rfl⟩
theorem uint32_same (rg : RG) : rg.same rg.uint32.2 := ⟨rfl, rfl⟩

theorem randomUint_same (rg : RG) : rg.same (randomUint rg).2 := by
  unfold randomUint
  split
  · exact RG.same_refl rg
  · exact ⟨rfl, rfl⟩

theorem randomUint_sat {rg : RG} (h : rg.cur ≥ rg.maxDepth) : randomUint rg = (0, rg) := by
  unfold randomUint
  rw [if_pos h]

theorem limitVal_zero : limitVal 0 = 0 := by
  unfold limitVal; exact Nat.zero_and _

theorem randomSize_same (rg : RG) : rg.same (randomSize rg).2 := randomUint_same rg

theorem randomSize_sat {rg : RG} (h : rg.cur ≥ rg.maxDepth) : randomSize rg = (0, rg) := by
  unfold randomSize
  rw [randomUint_sat h, limitVal_zero]

theorem testBit_zero (b : Nat) : testBit 0 b = false := by
  unfold testBit; simp

theorem scatterBits_zero (m n i si : Nat) : scatterBits 0 m n i si = 0 := by
  fun_induction scatterBits 0 m n i si with
  | case1 => rfl
  | case2 n i si _ ih => simp only [testBit_zero, Bool.false_eq_true, if_false, ih]
  | case3 n i si _ ih => exact ih

theorem randomFieldMask_same (rg : RG) (m : Nat) : rg.same (randomFieldMask rg m).2 := randomUint_same rg

theorem randomFieldMask_sat {rg : RG} (h : rg.cur ≥ rg.maxDepth) (m : Nat) : randomFieldMask rg m = (0, rg) := by
  unfold randomFieldMask
  rw [randomUint_sat h, scatterBits_zero]

theorem randomChars_same (n : Nat) (rg : RG) : rg.same (randomChars n rg).2 := by
  fun_induction randomChars n rg with
  | case1 rg => exact RG.same_refl rg
  | case2 n rg r ih => exact RG.same_trans (uint32_same rg) ih

theorem randomString_same (rg : RG) : rg.same (randomString rg).2 := by
  unfold randomString
  exact RG.same_trans (uint32_same rg) (randomChars_same _ _)

theorem fillPrim_same (k : PrimK) (rg : RG) : rg.same (fillPrim k rg).2 := by
  cases k with
  | u32 | bool => exact randomUint_same rg
  | str => exact randomString_same rg
  | _ => exact ⟨rfl, rfl⟩

/-- `DecreaseDepth` after a body that kept the counters restores the state before the `IncreaseDepth` — at any depth,
since the increase is unconditional -/
theorem dec_inc {rg rg2 : RG} (hs : rg.inc.same rg2) : rg.same rg2.dec := by
  unfold RG.dec
  rw [if_pos (by rw [hs.1]; exact Nat.succ_ne_zero _)]
  exact ⟨by show rg2.cur - 1 = rg.cur; rw [hs.1]; rfl, hs.2⟩

/-- the `IncreaseDepth` / `DecreaseDepth` pair around a recursive field -/
theorem wrap_same (b : Bool) {rg rg2 : RG} (h : (if b then rg.inc else rg).same rg2) :
    rg.same (if b then rg2.dec else rg2) := by
  cases b
  · exact h
  · exact dec_inc h

def Returns {α} (r : Except CErr (α × RG)) (rg : RG) : Prop :=
  r ≠ .error .fuel ∧ ∀ x rg', r = .ok (x, rg') → rg.same rg'

theorem Returns.ne_fuel {α} {r : Except CErr (α × RG)} {rg : RG} (h : Returns r rg) : r ≠ .error .fuel := h.1

theorem Returns.same {α} {r : Except CErr (α × RG)} {rg rg' : RG} {x : α} (h : Returns r rg) (e : r = .ok (x, rg')) :
    rg.same rg' := h.2 x rg' e

theorem Returns.error {α} {e : CErr} (h : e ≠ .fuel) (rg : RG) : Returns (α := α) (.error e) rg :=
  ⟨fun h' => h (by injection h'), fun _ _ h' => (by cases h')⟩

theorem Returns.desc {α} (rg : RG) : Returns (α := α) (.error .desc) rg := Returns.error (by decide) rg

theorem Returns.ok {α} {x : α} {rg rg' : RG} (h : rg.same rg') : Returns (.ok (x, rg')) rg :=
  ⟨fun h' => (by cases h'), fun _ _ h' => (by injection h' with h'; injection h' with _ h2; rw [← h2]; exact h)⟩

theorem Returns.of_same {α} {r : Except CErr (α × RG)} {rg rg1 : RG} (h : rg.same rg1) (hr : Returns r rg1) :
    Returns r rg :=
  ⟨hr.ne_fuel, fun _ _ e => RG.same_trans h (hr.same e)⟩

theorem Returns.cases {α} {r : Except CErr (α × RG)} {rg : RG} (hr : Returns r rg) :
    (∃ e, e ≠ .fuel ∧ r = .error e) ∨ ∃ x rg', rg.same rg' ∧ r = .ok (x, rg') := by
  cases r with
  | error e => exact Or.inl ⟨e, fun h => hr.ne_fuel (by rw [h]), rfl⟩
  | ok p => exact Or.inr ⟨p.1, p.2, hr.same rfl, rfl⟩

theorem fillElems_returns {fl : Fl} (f : Field) (na : List Nat) {rg0 : RG} :
    ∀ (n : Nat), (n ≠ 0 → ∀ rg, rg0.same rg → Returns (fl f.ty na rg) rg) →
      ∀ rg : RG, rg0.same rg → Returns (fillElemsWith fl f na n rg) rg := by
  intro n
  induction n with
  | zero => intro _ rg _; exact Returns.ok (RG.same_refl rg)
  | succ n ih =>
    intro hb rg h
    have hb := hb (Nat.succ_ne_zero n)
    simp only [fillElemsWith]
    obtain ⟨e, he, hr⟩ | ⟨v, rg1, s1, hr⟩ := (hb rg h).cases <;> simp only [hr]
    · exact Returns.error he rg
    · obtain ⟨e, he, hr⟩ | ⟨vs, rg2, s2, hr⟩ := (ih (fun _ => hb) rg1 (RG.same_trans h s1)).cases <;> simp only [hr]
      · exact Returns.error he rg
      · exact Returns.ok (RG.same_trans s1 s2)

/-- the elements of an array right after its `IncreaseDepth`, and the `DecreaseDepth` that follows them; the element
type matters only if there is an element -/
theorem elems_inc {fl : Fl} (f : Field) (na : List Nat) {rg : RG} (n : Nat)
    (hb : n ≠ 0 → ∀ rg', rg.inc.same rg' → Returns (fl f.ty na rg') rg')
    (g : List Val → Val) (rg1 : RG) (h1 : rg.inc.same rg1) :
    Returns (match fillElemsWith fl f na n rg1 with
      | .error e => (.error e : Except CErr (Val × RG))
      | .ok (vs, rg') => .ok (g vs, rg'.dec)) rg := by
  obtain ⟨e, he, hr⟩ | ⟨vs, rg2, s, hr⟩ := (fillElems_returns f na n hb rg1 h1).cases <;> simp only [hr]
  · exact Returns.error he rg
  · exact Returns.ok (dec_inc (RG.same_trans h1 s))

/-- `P` is what the caller carries from field to field, `rg0` a state with the counters the loop runs at -/
theorem fillFields_returns {fl : Fl} {gx : Nat → FieldX} {params : List Nat} {rg0 : RG}
    (P : List Field → Nat → List (Option Val) → Prop)
    (hskip : ∀ f fs i acc x, P (f :: fs) i acc → x = none ∨ f.isBit = true ∧ x = some (.struct []) →
      P fs (i + 1) (acc ++ [x]))
    (hval : ∀ f fs i acc na rg rg1, P (f :: fs) i acc → fieldPresent f acc params = some true → f.isBit = false →
      rg0.same rg → rg1 = (if (gx i).recursive then rg.inc else rg) →
      Returns (fillValue fl (gx i) f na rg1) rg1 ∧
        ∀ v rg', fillValue fl (gx i) f na rg1 = .ok (v, rg') → P fs (i + 1) (acc ++ [some v]))
    (fields : List Field) (i : Nat) (acc : List (Option Val)) (rg : RG) (hP : P fields i acc) (h : rg0.same rg) :
    Returns (fillFieldsWith fl gx params fields i acc rg) rg := by
  fun_induction fillFieldsWith fl gx params fields i acc rg with
  | case1 i acc rg => exact .ok (RG.same_refl rg)
  | case2 f fs i acc rg na _ _ cb ih => exact ih (hskip f fs i acc _ hP (Or.inr ⟨cb, rfl⟩)) h -- a present `true` bit
  | case3 f fs i acc rg na _ hp cb e hr => -- present, the fill fails
    exact .error (fun he => (hval f fs i acc na rg _ hP hp (by simpa using cb) h rfl).1.ne_fuel (he ▸ hr)) rg
  | case4 f fs i acc rg na _ hp cb v rg2 hr ih => -- present and filled
    obtain ⟨hv, hnext⟩ := hval f fs i acc na rg _ hP hp (by simpa using cb) h rfl
    have s' := wrap_same _ (hv.same hr)
    exact .of_same s' (ih (hnext v rg2 hr) (RG.same_trans h s'))
  | case5 f fs i acc rg _ _ _ ih => exact ih (hskip f fs i acc _ hP (Or.inl rfl)) h -- absent
  | case6 _ _ _ _ rg => exact .desc rg -- mask or arguments do not evaluate

theorem fillValue_returns {fl : Fl} {x : FieldX} {f : Field} {na : List Nat} {rg : RG}
    (h : x.drawn = false → Returns (fl f.ty na rg) rg) : Returns (fillValue fl x f na rg) rg := by
  unfold fillValue
  split
  · exact Returns.ok (randomFieldMask_same rg _)
  · split
    · exact Returns.ok (randomSize_same rg)
    · rename_i c1 c2
      exact h (by simp [FieldX.drawn, c1, c2])

theorem fillTL1_succ_returns {d : Desc} {gi : GenInfo} {fuel ty : Nat} {params : List Nat} {rg : RG}
    (hs : ∀ s, d.get? ty = some (.struct s) → s.originTL2 = false →
      Returns (fillFieldsWith (fillTL1 d gi fuel) (structGx gi ty s) params s.fields 0 [] rg) rg)
    (hu : ∀ u vi nm na, d.get? ty = some (.union u) → u.variants[(randomUint rg).1 % u.variants.length]? = some (vi, nm) →
      Returns (fillTL1 d gi fuel vi na (randomUint rg).2) (randomUint rg).2)
    (ha : ∀ a, d.get? ty = some (.array a) → (a.isTuple = false → (randomSize rg.inc).1 ≠ 0) →
      ∀ na rg', rg.inc.same rg' → Returns (fillTL1 d gi fuel a.elem.ty na rg') rg')
    (hd : ∀ a, d.get? ty = some (.dict a) → (randomSize rg.inc).1 ≠ 0 →
      ∀ na rg', rg.inc.same rg' → Returns (fillTL1 d gi fuel a.elem.ty na rg') rg') :
    Returns (fillTL1 d gi (fuel + 1) ty params rg) rg := by
  unfold fillTL1
  cases hg : d.get? ty with
  | none => exact .desc rg
  | some inst =>
    cases inst with
    | prim k => exact Returns.ok (fillPrim_same k rg)
    | struct s =>
      simp only
      by_cases co : s.originTL2 = true
      · rw [if_pos co]; exact Returns.error (by decide) rg
      · rw [if_neg co]
        obtain ⟨e, he, hr⟩ | ⟨fs, rg', h, hr⟩ := (hs s hg (by simpa using co)).cases <;> simp only [hr]
        · exact Returns.error he rg
        · exact Returns.ok h
    | union u =>
      simp only
      cases hv : u.variants[(randomUint rg).1 % u.variants.length]? with
      | none => exact .desc rg
      | some q =>
        obtain ⟨vi, nm⟩ := q
        cases hna : natArgVals [] params u.elemNatArgs with
        | none => exact .desc rg
        | some na =>
          obtain ⟨e, he, hr⟩ | ⟨x, r, h, hr⟩ := (hu u vi nm na hg hv).cases <;> simp only [hr]
          · exact Returns.error he rg
          · exact Returns.ok (RG.same_trans (randomUint_same rg) h)
    | array a =>
      simp only
      cases hna : natArgVals [] params a.elem.natArgs with
      | none => exact .desc rg
      | some na =>
        simp only
        by_cases ct : a.isTuple = true
        · rw [if_pos ct]
          cases hn : (if a.dynamic = true then params[0]? else some a.count) with
          | none => exact .desc rg
          | some n => exact elems_inc a.elem na n (fun _ => ha a hg (fun h => by rw [ct] at h; cases h) na) _ _ (RG.same_refl _)
        · rw [if_neg ct]
          exact elems_inc a.elem na _ (fun h => ha a hg (fun _ => h) na) _ _ (randomSize_same _)
    | dict a =>
      simp only
      cases hna : natArgVals [] params a.elem.natArgs with
      | none => exact .desc rg
      | some na =>
        cases hkp : dictKeyPrim d a with
        | none => exact .desc rg
        | some kp => exact elems_inc a.elem na _ (fun h => hd a hg h na) _ _ (randomSize_same _)

/-- the invariant of `fillFields_quiet`: at the depth limit every `#` field filled so far is absent or 0, so a field masked
by one of them is absent (`masked_absent`) and is never entered -/
def ZeroNats (d : Desc) (all : List Field) (acc : List (Option Val)) : Prop :=
  ∀ j g, all[j]? = some g → g.isBit = false → d.isU32 g.ty = true → j < acc.length →
    acc[j]? = some none ∨ acc[j]? = some (some (.nat 0))

theorem zeroNats_snoc {d : Desc} {all : List Field} {acc : List (Option Val)} (hz : ZeroNats d all acc) (x : Option Val)
    (hx : ∀ g, all[acc.length]? = some g → g.isBit = false → d.isU32 g.ty = true → x = none ∨ x = some (.nat 0)) :
    ZeroNats d all (acc ++ [x]) := by
  intro j g hg hb hu hj
  simp only [List.length_append, List.length_cons, List.length_nil] at hj
  by_cases c : j < acc.length
  · rw [List.getElem?_append_left c]; exact hz j g hg hb hu c
  · have e : j = acc.length := by omega
    subst e
    rw [List.getElem?_append_right (Nat.le_refl _)]
    simp only [Nat.sub_self, List.getElem?_cons_zero]
    rcases hx g hg hb hu with h | h
    · left; rw [h]
    · right; rw [h]

theorem maskedByLocalU32_inv {d : Desc} {all : List Field} {f : Field} (h : maskedByLocalU32 d all f = true) :
    ∃ j bit g, f.mask = some (.field j, bit) ∧ all[j]? = some g ∧ g.isBit = false ∧ d.isU32 g.ty = true := by
  unfold maskedByLocalU32 at h
  split at h
  · rename_i j bit hm
    split at h
    · rename_i g hg
      simp only [Bool.and_eq_true, Bool.not_eq_true'] at h
      exact ⟨j, bit, g, hm, hg, h.1, h.2⟩
    · cases h
  · cases h

/-- `≠ some true` and not `= some false`: for a malformed descriptor `fieldPresent` answers `none` -/
theorem masked_absent {d : Desc} {all : List Field} {acc : List (Option Val)} (hz : ZeroNats d all acc) {f : Field}
    (hm : maskedByLocalU32 d all f = true) (params : List Nat) : fieldPresent f acc params ≠ some true := by
  obtain ⟨j, bit, g, hfm, hg, hb, hu⟩ := maskedByLocalU32_inv hm
  simp only [fieldPresent, hfm, natArgVal]
  by_cases c : j < acc.length
  · rcases hz j g hg hb hu c with h | h <;> simp [h, testBit_zero]
  · simp [List.getElem?_eq_none (Nat.le_of_not_lt c)]

theorem fillValue_sat {fl : Fl} {x : FieldX} {f : Field} {na : List Nat} {rg rg' : RG} {v : Val}
    (hsat : rg.cur ≥ rg.maxDepth) (h : fillValue fl x f na rg = .ok (v, rg')) :
    v = .nat 0 ∨ fl f.ty na rg = .ok (v, rg') := by
  unfold fillValue at h
  split at h
  · rw [randomFieldMask_sat hsat] at h
    simp only [limitVal_zero, ite_self] at h
    cases h; exact Or.inl rfl
  · split at h
    · rw [randomSize_sat hsat] at h
      cases h; exact Or.inl rfl
    · exact Or.inr h

theorem fillFields_quiet {d : Desc} {fl : Fl} {q : Nat → Bool} {gx : Nat → FieldX} {params : List Nat} {all : List Field}
    (hQ : ∀ ty, q ty = true → ∀ na rg, rg.cur ≥ rg.maxDepth → Returns (fl ty na rg) rg)
    (hU : ∀ ty na rg v rg', d.isU32 ty = true → rg.cur ≥ rg.maxDepth → fl ty na rg = .ok (v, rg') → v = .nat 0)
    (rg : RG) (hq : satFields d q gx all all 0 = true) (hsat : rg.cur ≥ rg.maxDepth) :
    Returns (fillFieldsWith fl gx params all 0 [] rg) rg := by
  let P : List Field → Nat → List (Option Val) → Prop := fun fs i acc =>
    all.drop i = fs ∧ acc.length = i ∧ ZeroNats d all acc ∧ satFields d q gx all fs i = true
  -- one field done: its cell `x` is 0 or reset if it is a `#` field with storage
  have step : ∀ f fs i acc x, P (f :: fs) i acc →
      (f.isBit = false → d.isU32 f.ty = true → x = none ∨ x = some (.nat 0)) → P fs (i + 1) (acc ++ [x]) := by
    intro f fs i acc x ⟨hall, hlen, hz, hq⟩ hx
    have hf0 : all[acc.length]? = some f := by
      rw [hlen, ← Nat.add_zero i, ← List.getElem?_drop, hall]; rfl
    simp only [satFields, Bool.and_eq_true] at hq
    refine ⟨by rw [← List.drop_drop, hall]; rfl, by simp [hlen], zeroNats_snoc hz x ?_, hq.2⟩
    intro g hg hb hu
    rw [hf0] at hg; injection hg with hg; subst hg
    exact hx hb hu
  refine fillFields_returns P ?_ ?_ all 0 [] rg ⟨rfl, rfl, fun j g _ _ _ hj => absurd hj (Nat.not_lt_zero j), hq⟩ (RG.same_refl rg)
  · intro f fs i acc x hP hx
    refine step f fs i acc x hP fun hb _ => ?_
    rcases hx with rfl | ⟨cb, _⟩
    · exact Or.inl rfl
    · rw [cb] at hb; cases hb
  · intro f fs i acc na rg0 rg1 hP hp cb h e1
    have hc := h.1
    have hm := h.2
    have hq1 : (gx i).drawn = true ∨ q f.ty = true := by
      obtain ⟨_, _, hz, hq⟩ := hP
      have cm : maskedByLocalU32 d all f = false := by
        cases h : maskedByLocalU32 d all f with
        | false => rfl
        | true => exact absurd hp (masked_absent hz h params)
      simp only [satFields, Bool.and_eq_true] at hq
      simpa [cb, cm] using hq.1
    -- still at the limit inside the `IncreaseDepth` of a recursive field
    have hsat1 : rg1.cur ≥ rg1.maxDepth := by
      rw [e1]
      split
      · show rg0.cur + 1 ≥ rg0.maxDepth; omega
      · omega
    refine ⟨fillValue_returns fun hd => hQ _ (hq1.resolve_left (by rw [hd]; decide)) na _ hsat1, fun v rg' e => ?_⟩
    refine step f fs i acc _ hP fun _ hu => Or.inr (congrArg some ?_)
    rcases fillValue_sat hsat1 e with h | h
    · exact h
    · exact hU _ _ _ _ _ hu hsat1 h

theorem fillTL1_u32_sat (d : Desc) (gi : GenInfo) (fuel ty : Nat) (na : List Nat) (rg : RG) (v : Val) (rg' : RG)
    (hu : d.isU32 ty = true) (hsat : rg.cur ≥ rg.maxDepth) (h : fillTL1 d gi fuel ty na rg = .ok (v, rg')) : v = .nat 0 := by
  cases fuel with
  | zero => simp [fillTL1] at h
  | succ fuel =>
    unfold Desc.isU32 at hu
    simp only [fillTL1] at h
    split at hu
    · rename_i hg
      simp only [hg, fillPrim, randomUint_sat hsat] at h
      cases h; rfl
    · cases hu

/-- **the saturated region**: a `satFinite` type, entered at the depth limit, is filled without running out of fuel `≥ n`
and without touching the depth counters -/
theorem fillTL1_quiet (d : Desc) (gi : GenInfo) :
    ∀ (n fuel ty : Nat) (params : List Nat) (rg : RG), n ≤ fuel → satFinite d gi n ty = true → rg.cur ≥ rg.maxDepth →
      Returns (fillTL1 d gi fuel ty params rg) rg := by
  intro n
  induction n with
  | zero => intro fuel ty params rg _ hq _; simp [satFinite] at hq
  | succ n ih =>
    intro fuel ty params rg hle hq hsat
    obtain ⟨fuel, rfl⟩ : ∃ f, fuel = f + 1 := ⟨fuel - 1, by omega⟩
    have hle' : n ≤ fuel := by omega
    -- a vector or dictionary drawn at the limit is empty
    have hsize : (randomSize rg.inc).1 = 0 := by
      rw [randomSize_sat (show rg.inc.cur ≥ rg.inc.maxDepth from Nat.le_succ_of_le hsat)]
    simp only [satFinite] at hq
    apply fillTL1_succ_returns
    · intro s hg ho
      simp only [hg, ho, Bool.false_or] at hq
      exact fillFields_quiet (fun ty' hq' na rg' hs => ih fuel ty' na rg' hle' hq' hs)
        (fun ty' na rg' v rg'' hu hs h => fillTL1_u32_sat d gi fuel ty' na rg' v rg'' hu hs h)
        rg hq hsat
    · intro u vi nm na hg hv
      rw [randomUint_sat hsat] at hv ⊢
      simp only [hg] at hq
      cases hvs : u.variants with
      | nil => simp [hvs] at hv
      | cons p ps =>
        simp only [hvs, Nat.zero_mod, List.getElem?_cons_zero, Option.some.injEq] at hv hq
        subst hv
        exact ih fuel vi na rg hle' hq hsat
    · intro a hg hne na rg' h
      simp only [hg] at hq
      by_cases ct : a.isTuple = true
      · exact ih fuel _ na rg' hle' (by simpa [ct] using hq) (by rw [h.1, h.2]; exact Nat.le_succ_of_le hsat)
      · exact absurd hsize (hne (by simpa using ct))
    · intro a _ hne
      exact absurd hsize hne

theorem fillFields_term {fl : Fl} {gx : Nat → FieldX} {params : List Nat} {S q : Nat → Bool} {rk : List Nat} {r : Nat} {rg0 : RG}
    (hPlain : ∀ ty', rkAt rk ty' < r → S ty' = true → ∀ na rg, rg0.same rg → Returns (fl ty' na rg) rg)
    (hBody : ∀ ty', S ty' = true → q ty' = true → ∀ na rg, rg0.inc.same rg → Returns (fl ty' na rg) rg)
    (fields : List Field) (hS : ∀ f ∈ fields, S f.ty = true) (hrk : fieldsRanked rk r gx fields 0 = true)
    (hcf : satOkFields q gx fields 0 = true) :
    Returns (fillFieldsWith fl gx params fields 0 [] rg0) rg0 := by
  let P : List Field → Nat → List (Option Val) → Prop := fun fs i _ =>
    (∀ f ∈ fs, S f.ty = true) ∧ fieldsRanked rk r gx fs i = true ∧ satOkFields q gx fs i = true
  have tail : ∀ f fs i acc acc', P (f :: fs) i acc → P fs (i + 1) acc' := by
    intro f fs i _ _ ⟨hS, hrk, hcf⟩
    simp only [fieldsRanked, satOkFields, Bool.and_eq_true] at hrk hcf
    exact ⟨fun g hg => hS g (List.mem_cons_of_mem _ hg), hrk.2, hcf.2⟩
  refine fillFields_returns P (fun f fs i acc x hP _ => tail f fs i acc (acc ++ [x]) hP) ?_ fields 0 [] rg0 ⟨hS, hrk, hcf⟩ (RG.same_refl rg0)
  intro f fs i acc na rg rg1 hP _ cb h e1
  refine ⟨fillValue_returns fun hd => ?_, fun v _ _ => tail f fs i acc (acc ++ [some v]) hP⟩
  obtain ⟨hS, hrk, hcf⟩ := hP
  have hSf : S f.ty = true := hS f (List.mem_cons_self ..)
  simp only [fieldsRanked, satOkFields, Bool.and_eq_true] at hrk hcf
  by_cases cr : (gx i).recursive = true
  · -- an `IncreaseDepth` site
    rw [if_pos cr] at e1
    subst e1
    exact hBody _ hSf (by simpa [cb, cr, hd] using hcf.1) na _ ⟨congrArg (· + 1) h.1, h.2⟩
  · rw [if_neg cr] at e1
    subst e1
    exact hPlain _ (by simpa [cb, cr, hd] using hrk.1) hSf na _ h

theorem fillRanked_variant {gi : GenInfo} {rk : List Nat} {ty : Nat} {u : UnionD} (h : Inst.fillRanked gi rk ty (.union u) = true)
    {i vi : Nat} {nm : String} (hv : u.variants[i]? = some (vi, nm)) : rkAt rk vi < rkAt rk ty := by
  simp only [Inst.fillRanked, List.all_eq_true, decide_eq_true_eq] at h
  exact h (vi, nm) (List.mem_of_getElem? hv)

/-- **termination** on a reference-closed set `S` satisfying the guards: with `k + 1 = maxDepth − curDepth`, fuel
`(k + 1) · (|d| + 1) + rank + 1` suffices, and the call returns with the depth counters unchanged -/
theorem fillTL1_term (d : Desc) (gi : GenInfo) (rk : List Nat) (S : Nat → Bool) (hcl : d.closed S = true)
    (hbd : d.allOnI S (fun i _ => decide (rkAt rk i ≤ d.insts.size)) = true)
    (hrk : d.allOnI S (Inst.fillRanked gi rk) = true) (hcf : d.allOnI S (Inst.satOk d gi) = true) :
    ∀ (fuel k ty : Nat) (params : List Nat) (rg : RG), S ty = true → rg.cur + (k + 1) = rg.maxDepth →
      (k + 1) * (d.insts.size + 1) + rkAt rk ty + 1 ≤ fuel → Returns (fillTL1 d gi fuel ty params rg) rg := by
  intro fuel
  induction fuel with
  | zero => intro k ty params rg _ _ h; exact absurd h (Nat.not_succ_le_zero _)
  | succ fuel ih =>
    intro k ty params rg hSty hck hfuel
    have hN : d.insts.size + 1 ≤ fuel := by
      have h := hfuel
      rw [Nat.succ_mul] at h
      omega
    -- a vector or dictionary whose `IncreaseDepth` reaches the limit is drawn empty
    have hsize : k = 0 → (randomSize rg.inc).1 = 0 := by
      intro k0; subst k0
      rw [randomSize_sat (show rg.inc.cur ≥ rg.inc.maxDepth from Nat.le_of_eq hck.symm)]
    -- bodies entered through an `IncreaseDepth` site: one level deeper at any rank, or at the limit
    have hBody : ∀ ty', S ty' = true → satFinite d gi (d.insts.size + 1) ty' = true ∨ k ≠ 0 →
        ∀ na rg', rg.inc.same rg' → Returns (fillTL1 d gi fuel ty' na rg') rg' := by
      intro ty' hS' hq na rg' h
      have h1 : rg'.cur = rg.cur + 1 := h.1
      have h2 : rg'.maxDepth = rg.maxDepth := h.2
      cases k with
      | zero =>
        exact fillTL1_quiet d gi _ fuel ty' na rg' hN (hq.resolve_right fun h => h rfl) (by rw [h1, h2, ← hck]; exact Nat.le_refl _)
      | succ k =>
        cases hg' : d.get? ty' with
        | none =>
          -- an index outside the descriptor is answered `.error .desc` at once
          obtain ⟨f, rfl⟩ := Nat.exists_eq_succ_of_ne_zero (Nat.ne_of_gt (Nat.lt_of_lt_of_le (Nat.succ_pos _) hN))
          simp only [fillTL1, hg']
          exact .desc rg'
        | some inst =>
          exact ih k ty' na rg' hS' (by rw [h1, h2, ← hck, Nat.add_assoc, Nat.add_comm 1])
            (budget_major (Nat.le_refl _) (Nat.lt_succ_of_le (by simpa using Desc.allOnI_get hbd hg' hS')) hfuel)
    apply fillTL1_succ_returns
    · intro s hg _
      exact fillFields_term (q := satFinite d gi (d.insts.size + 1)) (rg0 := rg)
        (fun ty' hlt' hS' na rg' h => ih k ty' na rg' hS' (by rw [h.1, h.2, hck]) (budget_rank (Nat.le_refl _) hlt' hfuel))
        (fun ty' hS' hq => hBody ty' hS' (Or.inl hq)) s.fields
        (fun f hf => Desc.closed_get hcl hg hSty _ (List.mem_map_of_mem hf))
        (Desc.allOnI_get hrk hg hSty) (Desc.allOnI_get hcf hg hSty)
    · intro u vi nm na hg hv
      have s0 := randomUint_same rg
      exact ih k vi na _ (Desc.closed_get hcl hg hSty _ (List.mem_map_of_mem (f := (·.1)) (List.mem_of_getElem? hv)))
        (by rw [s0.1, s0.2, hck]) (budget_rank (Nat.le_refl _) (fillRanked_variant (Desc.allOnI_get hrk hg hSty) hv) hfuel)
    · intro a hg hne
      refine hBody _ (Desc.closed_get hcl hg hSty _ (List.mem_singleton.mpr rfl)) ?_
      by_cases ct : a.isTuple = true
      · exact Or.inl (by simpa [Inst.satOk, ct] using Desc.allOnI_get hcf hg hSty)
      · exact Or.inr fun k0 => hne (by simpa using ct) (hsize k0)
    · intro a hg hne
      exact hBody _ (Desc.closed_get hcl hg hSty _ (List.mem_singleton.mpr rfl)) (Or.inr fun k0 => hne (hsize k0))

end TLVerif.Codec
