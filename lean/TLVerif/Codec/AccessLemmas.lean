import TLVerif.Codec.Access
import TLVerif.Codec.TL1Lemmas
/-!
`Set<F>` and `Clear<F>` (C43) are one update with different arguments: after the value has been stored or reset (a state
that is `AObj.SameBut` for the field), the field's own bit in its mask word is assigned (`AObj.ownMask`) and so is the
hidden presence bit (`AObj.hidden`); together `AObj.mark`.  What that update changes and what it leaves alone is proved once,
of any two objects it relates (`AObj.Marked`).
-/
namespace TLVerif.Codec

theorem testBit_setBitN_self (n bit : Nat) : testBit (setBitN n bit) bit = true := by
  rw [testBit_eq_nat, setBitN, Nat.testBit_or, Nat.testBit_two_pow_self, Bool.or_true]

theorem testBit_setBitN_ne (n : Nat) {bit b : Nat} (h : b ≠ bit) : testBit (setBitN n bit) b = testBit n b := by
  rw [testBit_eq_nat, testBit_eq_nat, setBitN, Nat.testBit_or, Nat.testBit_two_pow_of_ne (Ne.symm h), Bool.or_false]

theorem testBit_clearBitN_self (n bit : Nat) : testBit (clearBitN n bit) bit = false := by
  rw [testBit_eq_nat, clearBitN, Nat.testBit_xor, Nat.testBit_and, Nat.testBit_two_pow_self, Bool.and_true]
  cases n.testBit bit <;> rfl

theorem testBit_clearBitN_ne (n : Nat) {bit b : Nat} (h : b ≠ bit) : testBit (clearBitN n bit) b = testBit n b := by
  rw [testBit_eq_nat, testBit_eq_nat, clearBitN, Nat.testBit_xor, Nat.testBit_and, Nat.testBit_two_pow_of_ne (Ne.symm h),
    Bool.and_false, Bool.xor_false]

/-- `Set<F>(b)` leaves the field's bit equal to the hidden presence bit it sets -/
theorem testBit_newMask_self (f : Field) (b : Bool) (m bit : Nat) :
    testBit (newMask f b m bit) bit = if f.isBit then b else true := by
  unfold newMask
  cases f.isBit <;> cases b <;> simp [testBit_setBitN_self, testBit_clearBitN_self]

theorem testBit_newMask_ne (f : Field) (b : Bool) (m : Nat) {bit b' : Nat} (h : b' ≠ bit) :
    testBit (newMask f b m bit) b' = testBit m b' := by
  unfold newMask
  split
  · exact testBit_clearBitN_ne m h
  · exact testBit_setBitN_ne m h

/-- the mask reference can be assigned in this object, and is not the field `i` itself -/
def AObj.assignable (o : AObj) (i : Nat) : NatArg → Prop
  | .num _ => False
  | .param p => p < o.params.length
  | .field j => j < o.vals.length ∧ j ≠ i

theorem assignable_ne_self {o : AObj} {i : Nat} {a : NatArg} (h : o.assignable i a) : a ≠ .field i := by
  intro e; subst e; exact h.2 rfl

theorem maskVal_withMask {o : AObj} {i : Nat} {a : NatArg} (h : o.assignable i a) (n : Nat) : (o.withMask a n).maskVal a = n := by
  cases a with
  | num m => exact absurd h (by simp [AObj.assignable])
  | param p =>
    simp only [AObj.assignable] at h
    simp only [AObj.withMask, AObj.maskVal, List.getElem?_set_self h]
  | field j =>
    simp only [AObj.assignable] at h
    simp only [AObj.withMask, AObj.maskVal, List.getElem?_set_self h.1]

theorem withMask_tl2 (o : AObj) (a : NatArg) (n : Nat) : (o.withMask a n).tl2 = o.tl2 := by
  cases a <;> rfl

theorem withMask_vals_ne (o : AObj) (a : NatArg) (n : Nat) {k : Nat} (h : a ≠ .field k) : (o.withMask a n).vals[k]? = o.vals[k]? := by
  cases a with
  | num m => rfl
  | param p => rfl
  | field j =>
    have hj : j ≠ k := fun e => h (by rw [e])
    simp only [AObj.withMask, List.getElem?_set_ne hj]

theorem withMask_params_ne (o : AObj) (a : NatArg) (n : Nat) {p : Nat} (h : a ≠ .param p) : (o.withMask a n).params[p]? = o.params[p]? := by
  cases a with
  | num m => rfl
  | field j => rfl
  | param q =>
    have hq : q ≠ p := fun e => h (by rw [e])
    simp only [AObj.withMask, List.getElem?_set_ne hq]

theorem maskVal_withMask_ne (o : AObj) {a a' : NatArg} (h : a' ≠ a) (n : Nat) : (o.withMask a n).maskVal a' = o.maskVal a' := by
  cases a' with
  | num m => rfl
  | param p => simp only [AObj.maskVal, withMask_params_ne o a n (Ne.symm h)]
  | field j => simp only [AObj.maskVal, withMask_vals_ne o a n (Ne.symm h)]

structure AObj.SameBut (o o1 : AObj) (i : Nat) : Prop where
  tl2 : o1.tl2 = o.tl2
  params : o1.params = o.params
  length : o1.vals.length = o.vals.length
  vals : ∀ k, k ≠ i → o1.vals[k]? = o.vals[k]?

theorem sameBut_put (o : AObj) (i : Nat) (x : Option Val) : o.SameBut { o with vals := o.vals.set i x } i :=
  ⟨rfl, rfl, List.length_set, fun _ hk => List.getElem?_set_ne (Ne.symm hk)⟩

theorem sameBut_stored (o : AObj) (f : Field) (i : Nat) (v : Val) : o.SameBut (o.stored f i v) i := by
  unfold AObj.stored
  split
  · exact ⟨rfl, rfl, rfl, fun _ _ => rfl⟩
  · exact sameBut_put o i _

theorem AObj.SameBut.maskVal {o o1 : AObj} {i : Nat} (s : o.SameBut o1 i) {a : NatArg} (h : a ≠ .field i) :
    o1.maskVal a = o.maskVal a := by
  cases a with
  | num m => rfl
  | param p => simp only [AObj.maskVal, s.params]
  | field j => simp only [AObj.maskVal, s.vals j fun e => h (by rw [e])]

theorem AObj.SameBut.assignable {o o1 : AObj} {i : Nat} (s : o.SameBut o1 i) {a : NatArg} (h : o.assignable i a) :
    o1.assignable i a := by
  cases a with
  | num m => exact h
  | param p => simp only [AObj.assignable, s.params] at h ⊢; exact h
  | field j => simp only [AObj.assignable, s.length] at h ⊢; exact h

def AObj.ownMask (o : AObj) (f : Field) (g : Nat → Nat → Nat) : AObj :=
  match f.mask with
  | some (a, bit) => o.withMask a (g (o.maskVal a) bit)
  | none => o

def AObj.hidden (o : AObj) (f : Field) (i : Nat) (t : Bool) : AObj :=
  match f.tl2bit with
  | some _ => { o with tl2 := o.tl2.set i t }
  | none => o

def AObj.mark (o : AObj) (f : Field) (i : Nat) (g : Nat → Nat → Nat) (t : Bool) : AObj := (o.ownMask f g).hidden f i t

theorem set_eq {o : AObj} {fields : List Field} {i : Nat} {f : Field} (hf : fields[i]? = some f) (v : Val) (b : Bool) :
    o.set fields i v b = (o.stored f i v).mark f i (newMask f b) (if f.isBit then b else true) := by
  simp only [AObj.set, hf, AObj.mark, AObj.ownMask, AObj.hidden]
  rcases f.mask with _ | ⟨a, bit⟩ <;> cases f.tl2bit <;> rfl

theorem clear_eq {o : AObj} {fields : List Field} {i : Nat} {f : Field} (hf : fields[i]? = some f) :
    o.clear fields i = ({ o with vals := o.vals.set i none } : AObj).mark f i clearBitN false := by
  simp only [AObj.clear, hf, AObj.mark, AObj.ownMask, AObj.hidden]
  rcases f.mask with _ | ⟨a, bit⟩ <;> cases f.tl2bit <;> rfl

section
variable {o : AObj} {f : Field} {i : Nat} (g : Nat → Nat → Nat) (t : Bool)

theorem ownMask_tl2 : (o.ownMask f g).tl2 = o.tl2 := by
  unfold AObj.ownMask
  split
  · exact withMask_tl2 ..
  · rfl

theorem ownMask_maskVal_self {a : NatArg} {bit : Nat} (hm : f.mask = some (a, bit)) (ha : o.assignable i a) :
    (o.ownMask f g).maskVal a = g (o.maskVal a) bit := by
  simp only [AObj.ownMask, hm]
  exact maskVal_withMask ha _

theorem ownMask_maskVal_ne {a' : NatArg} (h : ∀ a bit, f.mask = some (a, bit) → a' ≠ a) :
    (o.ownMask f g).maskVal a' = o.maskVal a' := by
  unfold AObj.ownMask
  split
  · rename_i a bit hm
    exact maskVal_withMask_ne o (h a bit hm) _
  · rfl

theorem ownMask_vals {k : Nat} (h : ∀ a bit, f.mask = some (a, bit) → a ≠ .field k) : (o.ownMask f g).vals[k]? = o.vals[k]? := by
  unfold AObj.ownMask
  split
  · rename_i a bit hm
    exact withMask_vals_ne o a _ (h a bit hm)
  · rfl

theorem ownMask_params {p : Nat} (h : ∀ a bit, f.mask = some (a, bit) → a ≠ .param p) :
    (o.ownMask f g).params[p]? = o.params[p]? := by
  unfold AObj.ownMask
  split
  · rename_i a bit hm
    exact withMask_params_ne o a _ (h a bit hm)
  · rfl

theorem hidden_vals : (o.hidden f i t).vals = o.vals := by
  unfold AObj.hidden; split <;> rfl

theorem hidden_params : (o.hidden f i t).params = o.params := by
  unfold AObj.hidden; split <;> rfl

theorem hidden_maskVal (a : NatArg) : (o.hidden f i t).maskVal a = o.maskVal a := by
  cases a <;> simp only [AObj.maskVal, hidden_vals, hidden_params]

theorem hidden_tl2_ne {k : Nat} (hk : k ≠ i) : (o.hidden f i t).tl2[k]? = o.tl2[k]? := by
  unfold AObj.hidden
  split
  · exact List.getElem?_set_ne (Ne.symm hk)
  · rfl

theorem hidden_tl2_self {x : Nat} (ht : f.tl2bit = some x) (hi : i < o.tl2.length) : (o.hidden f i t).tl2[i]? = some t := by
  simp only [AObj.hidden, ht, List.getElem?_set_self hi]

end

/-- `o'` is `o` after `Set<F>` or `Clear<F>` of field `i`: the value was stored or reset (state `o1`), then the field's bit in
its mask word and its hidden bit were both assigned `t`, by a bit operation that keeps the other bits of the word -/
inductive AObj.Marked (o o1 : AObj) (f : Field) (i : Nat) (t : Bool) : AObj → Prop
  | mk {g : Nat → Nat → Nat} (s : o.SameBut o1 i) (hne : ∀ m {bit b : Nat}, b ≠ bit → testBit (g m bit) b = testBit m b)
      (hself : ∀ m bit, testBit (g m bit) bit = t) : Marked o o1 f i t (o1.mark f i g t)

theorem set_marked {o : AObj} {fields : List Field} {i : Nat} {f : Field} (hf : fields[i]? = some f) (v : Val) (b : Bool) :
    o.Marked (o.stored f i v) f i (if f.isBit then b else true) (o.set fields i v b) := by
  rw [set_eq hf]
  exact ⟨sameBut_stored o f i v, testBit_newMask_ne f b, testBit_newMask_self f b⟩

theorem clear_marked {o : AObj} {fields : List Field} {i : Nat} {f : Field} (hf : fields[i]? = some f) :
    o.Marked { o with vals := o.vals.set i none } f i false (o.clear fields i) := by
  rw [clear_eq hf]
  exact ⟨sameBut_put o i none, testBit_clearBitN_ne, testBit_clearBitN_self⟩

section
variable {o o1 o' : AObj} {f : Field} {i : Nat} {t : Bool} (h : o.Marked o1 f i t o')
include h

theorem AObj.Marked.vals_ne {k : Nat} (hk : k ≠ i) (hmk : ∀ a bit, f.mask = some (a, bit) → a ≠ .field k) :
    o'.vals[k]? = o.vals[k]? := by
  obtain ⟨s, _, _⟩ := h
  rw [AObj.mark, hidden_vals, ownMask_vals _ hmk, s.vals k hk]

theorem AObj.Marked.vals_self (hmk : ∀ a bit, f.mask = some (a, bit) → o.assignable i a) : o'.vals[i]? = o1.vals[i]? := by
  cases h
  rw [AObj.mark, hidden_vals, ownMask_vals _ fun a bit hm => assignable_ne_self (hmk a bit hm)]

theorem AObj.Marked.params_ne {p : Nat} (hmk : ∀ a bit, f.mask = some (a, bit) → a ≠ .param p) : o'.params[p]? = o.params[p]? := by
  obtain ⟨s, _, _⟩ := h
  rw [AObj.mark, hidden_params, ownMask_params _ hmk, s.params]

theorem AObj.Marked.tl2_ne {k : Nat} (hk : k ≠ i) : o'.tl2[k]? = o.tl2[k]? := by
  obtain ⟨s, _, _⟩ := h
  rw [AObj.mark, hidden_tl2_ne t hk, ownMask_tl2, s.tl2]

theorem AObj.Marked.tl2_self {x : Nat} (ht : f.tl2bit = some x) (hi : i < o.tl2.length) : o'.tl2[i]? = some t := by
  obtain ⟨s, _, _⟩ := h
  exact hidden_tl2_self t ht (by rw [ownMask_tl2, s.tl2]; exact hi)

theorem AObj.Marked.testBit_self {a : NatArg} {bit : Nat} (hm : f.mask = some (a, bit)) (ha : o.assignable i a) :
    testBit (o'.maskVal a) bit = t := by
  obtain ⟨s, _, hself⟩ := h
  rw [AObj.mark, hidden_maskVal, ownMask_maskVal_self _ hm (s.assignable ha), hself]

/-- in the mask of `F` only the bit of `F` changes; other masks (that are not the field `F` itself) do not change -/
theorem AObj.Marked.maskBits (hmk : ∀ a bit, f.mask = some (a, bit) → o.assignable i a) {a' : NatArg} {bit' : Nat}
    (h1 : a' ≠ .field i) (h2 : ∀ a bit, f.mask = some (a, bit) → ¬ (a' = a ∧ bit' = bit)) :
    testBit (o'.maskVal a') bit' = testBit (o.maskVal a') bit' := by
  obtain ⟨s, hne, _⟩ := h
  rw [AObj.mark, hidden_maskVal, ← s.maskVal h1]
  by_cases e : ∃ bit, f.mask = some (a', bit)
  · obtain ⟨bit, hm⟩ := e
    rw [ownMask_maskVal_self _ hm (s.assignable (hmk a' bit hm))]
    exact hne _ fun e => h2 a' bit hm ⟨rfl, e⟩
  · rw [ownMask_maskVal_ne (a' := a') _ fun a bit hm e' => e ⟨bit, e' ▸ hm⟩]

end

end TLVerif.Codec
