import TLVerif.Prim.TL2SizeLemmas
import TLVerif.Codec.TL2
/-!
Lemmas about the definitions of the TL2 model (`TL2.lean`): their equations for one step, the framing of objects
(`objTL2` against `sliceBody`: `readsBack_obj`, with `ReadsBack` naming what it means that a reader inverts a writer's
answer), and that the layout pass computes exactly the length of what the write pass emits (`layout_agrees_enc`).
-/
namespace TLVerif.Codec
open TLVerif.Prim

theorem bodyTL2_eq (ui : Nat) (rs : List (Option Bytes)) :
    bodyTL2 ui rs =
      if ui == 0 then
        (if (bodyLoop 0 rs).1 == 0 && (bodyLoop 0 rs).2.isEmpty then [] else byteOf (bodyLoop 0 rs).1 :: (bodyLoop 0 rs).2)
      else byteOf (1 + (bodyLoop 0 rs).1) :: (tl2WriteSize ui ++ (bodyLoop 0 rs).2) := rfl

theorem encPrim_eq {k : PrimK} {v : Val} {b : Bytes} (h : primTL2 k v = .ok b) (zie : Bool) :
    encPrim k zie v = .ok (if zie && primEmpty k v then none else some b) := by
  unfold encPrim; rw [h]

theorem encFieldsWith_cons {enc : Enc} {f : Field} {fs : List Field} {v : Option Val} {vs : List (Option Val)} {rs : List (Option Bytes)}
    (h : encFieldsWith enc (f :: fs) (v :: vs) = .ok rs) :
    ∃ r rs', encField enc f v = .ok r ∧ encFieldsWith enc fs vs = .ok rs' ∧ rs = r :: rs' := by
  simp only [encFieldsWith] at h
  split at h
  · cases h
  · split at h
    · cases h
    · cases h; exact ⟨_, _, ‹_›, ‹_›, rfl⟩

theorem encElemsWith_cons {enc : Enc} {ty : Nat} {e : Val} {es : List Val} {c : Bytes}
    (h : encElemsWith enc ty (e :: es) = .ok c) :
    ∃ r c', enc ty false e = .ok r ∧ encElemsWith enc ty es = .ok c' ∧ c = optBytes r ++ c' := by
  simp only [encElemsWith] at h
  split at h
  · cases h
  · split at h
    · cases h
    · cases h; exact ⟨_, _, ‹_›, ‹_›, rfl⟩

theorem padTo_self (n : Nat) (z : Val) (vs : List Val) (h : vs.length = n) : padTo n z vs = vs := by
  unfold padTo; rw [h, Nat.sub_self]; simp

section zero
variable {d : Desc} {ty : Nat} (fuel : Nat)

theorem zeroVal_prim {k : PrimK} (h : d.get? ty = some (.prim k)) : zeroVal d (fuel + 1) ty = zeroPrim k := by
  simp only [zeroVal, h]

theorem zeroVal_struct {s : StructD} (h : d.get? ty = some (.struct s)) :
    zeroVal d (fuel + 1) ty = .struct (zeroFieldsWith (zeroVal d fuel) s.fields) := by
  simp only [zeroVal, h]

theorem zeroVal_union {u : UnionD} {vi : Nat} {nm : String} (h : d.get? ty = some (.union u))
    (hv : u.variants[0]? = some (vi, nm)) : zeroVal d (fuel + 1) ty = .union 0 (zeroVal d fuel vi) := by
  simp only [zeroVal, h]
  cases huv : u.variants with
  | nil => rw [huv] at hv; cases hv
  | cons p t => rw [huv] at hv; cases hv; rfl

theorem zeroVal_array {a : ArrayD} (h : d.get? ty = some (.array a)) :
    zeroVal d (fuel + 1) ty =
      if a.isTuple && !a.dynamic then .arr (List.replicate a.count (zeroVal d fuel a.elem.ty)) else .arr [] := by
  simp only [zeroVal, h]

theorem zeroVal_dict {a : ArrayD} (h : d.get? ty = some (.dict a)) : zeroVal d (fuel + 1) ty = .arr [] := by
  simp only [zeroVal, h]

end zero

theorem tl2WriteSize_append_ne_nil (n : Nat) (c : Bytes) : tl2WriteSize n ++ c ≠ [] := by
  unfold tl2WriteSize
  split <;> (try split) <;> nofun

theorem parseSize_write (n : Nat) (rest : Bytes) (h : n < 2 ^ 63) : parseSize (tl2WriteSize n ++ rest) = .ok (n, rest) := by
  unfold parseSize
  rw [tl2_size_roundtrip n rest h]
  rfl

open TLVerif.Facts.Prim in
/-- the huge form `FF` + 8 bytes is accepted for every size (also where a shorter form exists) -/
theorem parseSize_huge (n : Nat) (rest : Bytes) (h : n < 2 ^ 63) :
    parseSize (255 :: (le64 n ++ rest)) = .ok (n, rest) := by
  have hh : byteOf hugeStringMarker = 255 := by rw [hugeMarker_eq]; rfl
  have := tl2_huge_form_accepted n rest h
  rw [hh, List.cons_append] at this
  unfold parseSize
  rw [this]; rfl

theorem sliceBody_obj (body rest : Bytes) (h : body.length < 2 ^ 63) :
    sliceBody (tl2WriteSize body.length ++ (body ++ rest)) = .ok (body, rest) := by
  unfold sliceBody
  rw [parseSize_write _ _ h]
  simp

theorem objTL2_nonempty (zie : Bool) {body : Bytes} (h : body.isEmpty = false) :
    objTL2 zie body = some (tl2WriteSize body.length ++ body) := by
  unfold objTL2; rw [h]; rfl

theorem objTL2_false_some (body : Bytes) : (objTL2 false body).isSome = true := by
  unfold objTL2; split <;> rfl

def ReadsBack {α : Type} (rd : Bytes → Except CErr (α × Bytes)) (v z : α) (r : Option Bytes) : Prop :=
  (∀ b, r = some b → b ≠ [] ∧ ∀ rest, rd (b ++ rest) = .ok (v, rest)) ∧ (r = none → v = z)

section
variable {α : Type} {rd : Bytes → Except CErr (α × Bytes)} {v z : α}

theorem ReadsBack.imp {β : Type} {rd' : Bytes → Except CErr (β × Bytes)} {v' z' : β} {r : Option Bytes}
    (h : ReadsBack rd v z r) (hrd : ∀ bs rest, rd bs = .ok (v, rest) → rd' bs = .ok (v', rest)) (hz : v = z → v' = z') :
    ReadsBack rd' v' z' r :=
  ⟨fun b hb => ⟨(h.1 b hb).1, fun rest => hrd _ _ ((h.1 b hb).2 rest)⟩, fun hn => hz (h.2 hn)⟩

theorem ReadsBack.present {r : Option Bytes} (h : ReadsBack rd v z r) (hs : r.isSome = true) (rest : Bytes) :
    optBytes r ≠ [] ∧ rd (optBytes r ++ rest) = .ok (v, rest) := by
  cases r with
  | none => cases hs
  | some b => exact ⟨(h.1 b rfl).1, (h.1 b rfl).2 rest⟩

/-- An object as `objTL2` writes it is never empty and `sliceBody` cuts exactly its body off the input; nothing at all
is written only for an empty body.  So it is read back by a reader that gets `v` out of every input whose sliced body is
`body`. -/
theorem readsBack_obj (zie : Bool) (body : Bytes)
    (hlen : (optBytes (objTL2 zie body)).length < 2 ^ 63) (hz : body = [] → v = z)
    (hrd : ∀ bs rest, sliceBody bs = .ok (body, rest) → rd bs = .ok (v, rest)) : ReadsBack rd v z (objTL2 zie body) := by
  cases body with
  | nil =>
    refine ⟨fun b hb => ?_, fun _ => hz rfl⟩
    cases zie with
    | true => cases hb
    | false => cases hb; exact ⟨List.cons_ne_nil _ _, fun rest => hrd _ _ (sliceBody_obj [] rest (by decide))⟩
  | cons x xs =>
    rw [objTL2_nonempty zie rfl] at hlen ⊢
    refine ⟨fun b hb => ?_, nofun⟩
    cases hb
    simp only [optBytes, List.length_append] at hlen
    refine ⟨by simp, fun rest => hrd _ _ ?_⟩
    rw [List.append_assoc, sliceBody_obj _ _ (by omega)]

end

/-- body of an array or dictionary object -/
def arrBody : Nat → Bytes → Bytes
  | 0, _ => []
  | n + 1, c => tl2WriteSize (n + 1) ++ c

theorem arrBody_count {n : Nat} {c : Bytes} (hn : n + 1 < 2 ^ 63) :
    (if (arrBody (n + 1) c).isEmpty then .ok (0, arrBody (n + 1) c) else parseSize (arrBody (n + 1) c)) = .ok (n + 1, c) := by
  unfold arrBody
  rw [List.isEmpty_eq_false_iff.mpr (tl2WriteSize_append_ne_nil _ _), parseSize_write _ _ hn]
  rfl

theorem arrBody_nil {n : Nat} {c : Bytes} (h : arrBody n c = []) : n = 0 := by
  cases n with
  | zero => rfl
  | succ n => exact absurd h (tl2WriteSize_append_ne_nil _ _)

/-- what the array and dictionary writers answer is the object around `arrBody` -/
theorem objTL2_arrBody (zie : Bool) (es : List Val) (c : Bytes) :
    (if es.isEmpty then Except.ok (if zie then none else some [0])
      else .ok (some (tl2WriteSize (tl2WriteSize es.length ++ c).length ++ (tl2WriteSize es.length ++ c)))) =
    (.ok (objTL2 zie (arrBody es.length c)) : Except CErr (Option Bytes)) := by
  cases es with
  | nil => rfl
  | cons e es =>
    rw [List.length_cons, arrBody, objTL2_nonempty]
    · rfl
    · exact List.isEmpty_eq_false_iff.mpr (tl2WriteSize_append_ne_nil _ _)

def lenOpt (r : Option Bytes) : Option Nat := r.map List.length

theorem primSize_eq (k : PrimK) (v : Val) : primSize k v = (primTL2 k v).map List.length := by
  unfold primSize
  split <;> first | rfl | simp [primTL2, Except.map, stringWriteTL2, tl2_calc_eq_len]

theorem layPrim_eq (k : PrimK) (zie : Bool) (v : Val) :
    layPrim k zie v = (encPrim k zie v).map lenOpt := by
  unfold layPrim encPrim
  rw [primSize_eq]
  cases primTL2 k v with
  | error e => rfl
  | ok b =>
    simp only [Except.map]
    split <;> simp [lenOpt]

theorem layField_eq (lay : Lay) (enc : Enc) (h : ∀ ty zie v, lay ty zie v = (enc ty zie v).map lenOpt)
    (f : Field) (v : Option Val) : layField lay f v = (encField enc f v).map lenOpt := by
  unfold layField encField
  by_cases ho : f.omitted = true
  · simp only [ho, if_true]; rfl
  · simp only [ho, Bool.false_eq_true, if_false]
    by_cases ht : f.tl2bit.isSome = true
    · simp only [ht, if_true]
      cases v with
      | none => rfl
      | some x =>
        by_cases hb : f.isBit = true
        · simp only [hb, if_true]; rfl
        · simp only [hb, Bool.false_eq_true, if_false]; exact h _ _ _
    · simp only [ht, Bool.false_eq_true, if_false]
      cases v with
      | none => rfl
      | some x => exact h _ _ _

theorem layFields_eq (lay : Lay) (enc : Enc) (h : ∀ ty zie v, lay ty zie v = (enc ty zie v).map lenOpt) :
    ∀ (fs : List Field) (vs : List (Option Val)),
      layFieldsWith lay fs vs = (encFieldsWith enc fs vs).map (List.map lenOpt) := by
  intro fs
  induction fs with
  | nil => intro vs; cases vs <;> rfl
  | cons f fs ih =>
    intro vs
    cases vs with
    | nil => rfl
    | cons v vs =>
      simp only [layFieldsWith, encFieldsWith]
      rw [ih vs, layField_eq lay enc h]
      cases encField enc f v with
      | error e => rfl
      | ok b => cases encFieldsWith enc fs vs <;> rfl

theorem optBytes_length (b : Option Bytes) : (optBytes b).length = (lenOpt b).getD 0 := by
  cases b <;> rfl

theorem layElems_eq (lay : Lay) (enc : Enc) (h : ∀ ty zie v, lay ty zie v = (enc ty zie v).map lenOpt) (ty : Nat) :
    ∀ vs : List Val, layElemsWith lay ty vs = (encElemsWith enc ty vs).map List.length := by
  intro vs
  induction vs with
  | nil => rfl
  | cons v vs ih =>
    simp only [layElemsWith, encElemsWith]
    rw [h, ih]
    cases enc ty false v with
    | error e => rfl
    | ok b =>
      cases encElemsWith enc ty vs with
      | error e => rfl
      | ok bs => simp [Except.map, optBytes_length]

theorem bodyLoop_cons (i : Nat) (r : Option Bytes) (rs : List (Option Bytes)) :
    bodyLoop i (r :: rs) =
      if (i + 1) % 8 == 0 then
        (0, if (fieldBit i r.isSome + (bodyLoop (i + 1) rs).1 == 0 && (optBytes r ++ (bodyLoop (i + 1) rs).2).isEmpty) then []
            else byteOf (fieldBit i r.isSome + (bodyLoop (i + 1) rs).1) :: (optBytes r ++ (bodyLoop (i + 1) rs).2))
      else (fieldBit i r.isSome + (bodyLoop (i + 1) rs).1, optBytes r ++ (bodyLoop (i + 1) rs).2) := by
  simp only [bodyLoop]

/-- From field `i` on, write pass and layout pass together.  Either nothing is present: nothing is contributed and
`lastUsedByte` stays.  Or something is: the mask byte in front of it is kept ("body truncated to the last used byte") and
`lastUsedByte` ends as `currentSize` before the loop + the bytes the write pass emits. -/
theorem bodyLoop_used : ∀ (rs : List (Option Bytes)) (i : Nat),
    (rs.any Option.isSome = false ∧ bodyLoop i rs = (0, []) ∧ ∀ cur last, (layLoop i cur last (rs.map lenOpt)).2 = last) ∨
    (rs.any Option.isSome = true ∧ ((bodyLoop i rs).1 == 0 && (bodyLoop i rs).2.isEmpty) = false ∧
      ∀ cur last, (layLoop i cur last (rs.map lenOpt)).2 = cur + (bodyLoop i rs).2.length) := by
  intro rs
  induction rs with
  | nil => intro i; exact .inl ⟨rfl, rfl, fun _ _ => rfl⟩
  | cons r rs ih =>
    intro i
    rw [bodyLoop_cons]
    cases r with
    | some b =>
      have hk : (fieldBit i true + (bodyLoop (i + 1) rs).1 == 0 && (b ++ (bodyLoop (i + 1) rs).2).isEmpty) = false := by
        have : 0 < fieldBit i true := by simp only [fieldBit, if_true]; exact Nat.pow_pos (by decide)
        rw [Bool.and_eq_false_iff, beq_eq_false_iff_ne]; exact .inl (by omega)
      refine .inr ⟨rfl, ?_, fun cur last => ?_⟩
      · by_cases hb : ((i + 1) % 8 == 0) = true
        · rw [if_pos hb]
          simp only [Option.isSome_some, optBytes, hk]
          rfl
        · rw [if_neg hb]
          exact hk
      · simp only [List.map_cons, lenOpt, Option.map_some, layLoop, Option.isSome_some, optBytes, hk]
        rcases ih (i + 1) with ⟨_, h0, hl⟩ | ⟨_, _, hl⟩
        · simp only [hl, h0, Bool.false_eq_true, if_false, List.append_nil]
          split <;> simp only [List.length_cons] <;> omega
        · simp only [hl]
          split <;> simp only [List.length_cons, List.length_append, Bool.false_eq_true, if_false] <;> omega
    | none =>
      have e1 : fieldBit i (none : Option Bytes).isSome = 0 := rfl
      have e2 : optBytes (none : Option Bytes) = [] := rfl
      rw [e1, e2, Nat.zero_add, List.nil_append]
      rcases ih (i + 1) with ⟨ha, h0, hl⟩ | ⟨ha, hc, hl⟩
      · refine .inl ⟨ha, ?_, fun cur last => by simp only [List.map_cons, lenOpt, Option.map_none, layLoop, hl]⟩
        rw [h0]
        by_cases hb : ((i + 1) % 8 == 0) = true
        · rw [if_pos hb]; rfl
        · rw [if_neg hb]
      · refine .inr ⟨ha, ?_, fun cur last => ?_⟩
        · by_cases hb : ((i + 1) % 8 == 0) = true
          · rw [if_pos hb, hc]; rfl
          · rw [if_neg hb]; exact hc
        · simp only [List.map_cons, lenOpt, Option.map_none, layLoop, hl, hc]
          -- field `i + 1` opens a new mask byte, or not: the lengths agree either way
          split <;> simp only [List.length_cons, Bool.false_eq_true, if_false] <;> omega

theorem layLoop_le (szs : List (Option Nat)) (i cur last : Nat) : last ≤ cur →
    (layLoop i cur last szs).2 ≤ (layLoop i cur last szs).1 := by
  fun_induction layLoop i cur last szs with
  | case1 => exact id
  | case2 i cur last n szs cur' ih => exact fun _ => ih (Nat.le_refl _)
  | case3 i cur last szs cur' ih => exact fun h => ih (by unfold cur'; split <;> omega)

theorem layBody_eq (ui : Nat) (rs : List (Option Bytes)) :
    layBody ui (rs.map lenOpt) = (bodyTL2 ui rs).length := by
  have hmin : ∀ a b : Nat, a ≤ b → (if a < b then a else b) = a := by intro a b h; split <;> omega
  rw [bodyTL2_eq]
  unfold layBody
  by_cases hu : (ui == 0) = true
  · simp only [hu, if_true]
    rw [hmin _ _ (layLoop_le _ 0 1 0 (by omega))]
    rcases bodyLoop_used rs 0 with ⟨_, h0, hl⟩ | ⟨_, hc, hl⟩
    · rw [hl, h0]; rfl
    · rw [hl, hc]; simp only [Bool.false_eq_true, if_false, List.length_cons]; omega
  · simp only [hu, Bool.false_eq_true, if_false]
    rw [hmin _ _ (layLoop_le _ 0 _ _ (Nat.le_refl _)), tl2_calc_eq_len]
    rcases bodyLoop_used rs 0 with ⟨_, h0, hl⟩ | ⟨_, _, hl⟩
    · rw [hl, h0]; simp only [List.length_cons, List.length_append, List.length_nil]; omega
    · rw [hl]; simp only [List.length_cons, List.length_append]; omega

theorem layObj_eq (zie : Bool) (body : Bytes) :
    layObj zie body.length = lenOpt (objTL2 zie body) := by
  unfold layObj objTL2
  cases body with
  | nil => cases zie <;> rfl
  | cons b t => simp [lenOpt, tl2_calc_eq_len]; omega

theorem layout_agrees_enc (d : Desc) : ∀ (fuel ty : Nat) (zie : Bool) (v : Val),
    layoutTL2 d fuel ty zie v = (encTL2 d fuel ty zie v).map lenOpt := by
  intro fuel
  induction fuel with
  | zero => intro ty zie v; rfl
  | succ fuel ih =>
    intro ty zie v
    unfold layoutTL2 encTL2
    cases hty : d.get? ty with
    | none => rfl
    | some inst =>
      cases inst with
      | prim k => exact layPrim_eq k zie v
      | struct s =>
        simp only []
        by_cases hal : ((s.isAlias || s.isUnwrap) && !s.isUnionElement) = true
        · simp only [hal, if_true]
          split <;> first | exact ih _ _ _ | rfl
        · simp only [hal, Bool.false_eq_true, if_false]
          cases v with
          | struct fs =>
            simp only []
            rw [layFields_eq _ _ ih]
            cases encFieldsWith (encTL2 d fuel) s.fields fs with
            | error e => rfl
            | ok rs => simp only [Except.map]; rw [layBody_eq, layObj_eq]
          | _ => rfl
      | union u =>
        simp only []
        cases v with
        | union i x =>
          simp only []
          cases hv : u.variants[i]? with
          | none => rfl
          | some p =>
            obtain ⟨vi, nm⟩ := p
            simp only []
            by_cases hm : (u.isMaybe && i != 0) = true
            · simp only [hm, if_true]
              split
              · rename_i vs y hg
                split
                · rename_i f hf
                  rw [ih]
                  cases encTL2 d fuel f.ty true y with
                  | error e => rfl
                  | ok r =>
                    simp only [Except.map]
                    have := layBody_eq i [r]
                    simp only [List.map_cons, List.map_nil] at this
                    rw [this, layObj_eq]
                · rfl
              · rfl
            · simp only [hm, Bool.false_eq_true, if_false]
              exact ih _ _ _
        | _ => rfl
      | array a =>
        simp only []
        cases v with
        | arr es =>
          simp only []
          by_cases hc : (a.isTuple && !a.dynamic && decide (es.length ≠ a.count)) = true
          · simp only [hc, if_true]; rfl
          · simp only [hc, Bool.false_eq_true, if_false]
            cases hes : es.isEmpty with
            | true => cases zie <;> rfl
            | false =>
              simp only [Bool.false_eq_true, if_false]
              by_cases hb : isBitTy d a.elem.ty = true
              · simp only [hb, if_true]
                cases boolsOf es with
                | none => rfl
                | some bs =>
                  simp only [Except.map, lenOpt, Option.map_some, List.length_append, ← bits_write_length, tl2_calc_eq_len]
                  rw [Nat.add_comm]
              · simp only [hb, Bool.false_eq_true, if_false]
                rw [layElems_eq _ _ ih]
                cases encElemsWith (encTL2 d fuel) a.elem.ty es with
                | error e => rfl
                | ok c =>
                  simp only [Except.map, lenOpt, Option.map_some, List.length_append, tl2_calc_eq_len]
                  rw [Nat.add_comm]
        | _ => rfl
      | dict a =>
        simp only []
        cases v with
        | arr es =>
          simp only []
          cases hes : es.isEmpty with
          | true => cases zie <;> rfl
          | false =>
            simp only [Bool.false_eq_true, if_false]
            rw [layElems_eq _ _ ih]
            cases encElemsWith (encTL2 d fuel) a.elem.ty es with
            | error e => rfl
            | ok c =>
              simp only [Except.map, lenOpt, Option.map_some, List.length_append, tl2_calc_eq_len]
              rw [Nat.add_comm]
        | _ => rfl

end TLVerif.Codec
