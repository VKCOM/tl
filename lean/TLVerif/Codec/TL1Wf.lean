import TLVerif.Codec.TL1
/-!
Decidable predicates on descriptors and values used as hypotheses of the TL1 codec theorems
(`Props/C01.lean`, `Props/C02.lean`, `Props/CodecTL1Extra.lean`).  Core Lean only, executable: the
integrator can evaluate them on every exported descriptor (T3 certificate) through the driver.
-/
namespace TLVerif.Codec
open TLVerif.Prim

def Inst.isDict : Inst → Bool
  | .dict _ => true
  | _ => false

def Inst.isBitPrim : Inst → Bool
  | .prim .bit => true
  | _ => false

def Inst.nparams : Inst → Nat
  | .prim _ => 0
  | .struct s => s.nparams
  | .union u => u.nparams
  | .array a => a.nparams
  | .dict a => a.nparams

/-! ### instance sets closed under references

Guards are stated on a set `S` of instance indices (a `Nat → Bool` certificate, e.g. `d.reach ty` or `fun _ => true`)
that is closed under type references: a dictionary or a zero-size element somewhere in a schema does not
spoil the theorems for the types that cannot reach it. -/

def Inst.refs : Inst → List Nat
  | .prim _ => []
  | .struct s => s.fields.map (·.ty)
  | .union u => u.variants.map (·.1)
  | .array a => [a.elem.ty]
  | .dict a => [a.elem.ty]

/-- every instance in `S` references only instances in `S` -/
def Desc.closed (d : Desc) (S : Nat → Bool) : Bool :=
  (List.range d.insts.size).all fun i =>
    !S i || match d.get? i with | some inst => inst.refs.all S | none => true

/-- the local condition `p` holds for every instance in `S` -/
def Desc.allOn (d : Desc) (S : Nat → Bool) (p : Inst → Bool) : Bool :=
  (List.range d.insts.size).all fun i =>
    !S i || match d.get? i with | some inst => p inst | none => true

/-- candidate certificate: instances reachable from `ty` (unverified helper; `Desc.closed` is what the theorems use) -/
def Desc.reachList (d : Desc) (ty : Nat) : List Nat :=
  (List.range (d.insts.size + 1)).foldl (fun acc _ =>
    acc.foldl (fun acc i =>
      match d.get? i with
      | some inst => inst.refs.foldl (fun acc r => if acc.contains r then acc else acc ++ [r]) acc
      | none => acc) acc) [ty]

def Desc.reach (d : Desc) (ty : Nat) : Nat → Bool := fun i => (d.reachList ty).contains i

/-- the whole descriptor -/
def allInsts : Nat → Bool := fun _ => true

/-- no map-backed dictionary instance -/
def Desc.noDict (d : Desc) : Bool := d.insts.toList.all (fun i => !i.isDict)

/-- no TL2-only `bit` primitive instance (the TL1 writer of the model refuses it: `writePrim .bit _ = .error .shape`) -/
def Desc.noBit (d : Desc) : Bool := d.insts.toList.all (fun i => !i.isBitPrim)

/-! ### descriptor conditions needed by the round trip -/

/-- a `.field i` reference made by field number `j` points to an earlier field -/
def NatArg.refsLt (j : Nat) : NatArg → Bool
  | .field i => decide (i < j)
  | _ => true

def Field.refsLt (j : Nat) (f : Field) : Bool :=
  (match f.mask with | none => true | some (a, _) => a.refsLt j) && f.natArgs.all (NatArg.refsLt j)

def fieldsRefsOk : Nat → List Field → Bool
  | _, [] => true
  | j, f :: fs => f.refsLt j && fieldsRefsOk (j + 1) fs

/-- every variant is a struct whose 32-bit tag selects exactly this variant (tags pairwise distinct) -/
def unionOk (d : Desc) (u : UnionD) : Bool :=
  (List.range u.variants.length).all fun i =>
    match u.variants[i]? with
    | some (vi, _) =>
      match d.get? vi with
      | some (.struct s) => decide (s.tag < 4294967296) && (findVariant d s.tag u.variants 0 == some (i, vi))
      | _ => false
    | none => false

def Inst.rtOk (d : Desc) : Inst → Bool
  | .prim (.bool f t) => decide (f < 4294967296) && decide (t < 4294967296)
  | .prim _ => true
  | .struct s => decide (s.tag < 4294967296) && fieldsRefsOk 0 s.fields
  | .union u => unionOk d u
  | .array _ => true
  | .dict _ => true

/-- tags fit in 32 bits, masks / nat arguments refer to earlier fields, union tags select their variant -/
def Desc.rtOk (d : Desc) : Bool := d.insts.toList.all (Inst.rtOk d)

/-! ### values "as a reader produces them" -/

def normalPrim : PrimK → Val → Bool
  | .u32, .nat n | .i32, .nat n | .f32, .nat n => decide (n < 4294967296)
  | .u64, .nat n | .i64, .nat n | .f64, .nat n => decide (n < 18446744073709551616)
  | .byte, .nat n => decide (n < 256)
  | .str, .str _ => true
  | .bool f t, .bool b => !b || f != t
  | _, _ => false

abbrev Nm := Nat → Bool → List Nat → Val → Bool

/-- a masked field holds a value iff its mask bit is set (in the value of the mask as stored in `all`) -/
def normalFieldsWith (nm : Nm) (params : List Nat) (all : List (Option Val)) :
    List Field → List (Option Val) → Bool
  | [], [] => true
  | f :: fs, v :: vs =>
    match fieldPresent f all params, natArgVals all params f.natArgs with
    | some true, some na =>
      (match v with | some x => nm f.ty f.bare na x | none => false) && normalFieldsWith nm params all fs vs
    | some false, some _ => v.isNone && normalFieldsWith nm params all fs vs
    | _, _ => false
  | _, _ => false

/-- strictly sorted by key (every earlier key is smaller than every later one) -/
def dictSorted (k : PrimK) : List Val → Bool
  | [] => true
  | e :: es =>
    es.all (fun x => keyLt k (elemKey e) (elemKey x) && !keyLt k (elemKey x) (elemKey e)) && dictSorted k es

/-- `Normal`: integers in range of their type, a masked field is `some` iff its mask bit is set,
union index in range, dictionary elements strictly sorted by key. -/
def normalTL1 (d : Desc) : Nat → Nm
  | 0 => fun _ _ _ _ => false
  | fuel + 1 => fun ty _bare params v =>
    match d.get? ty, v with
    | some (.prim k), v => normalPrim k v
    | some (.struct s), .struct fs => normalFieldsWith (normalTL1 d fuel) params fs s.fields fs
    | some (.union u), .union i x =>
      match u.variants[i]?, natArgVals [] params u.elemNatArgs with
      | some (vi, _), some na => normalTL1 d fuel vi true na x
      | _, _ => false
    | some (.array a), .arr es =>
      match natArgVals [] params a.elem.natArgs with
      | some na => es.all (normalTL1 d fuel a.elem.ty a.elem.bare na)
      | none => false
    | some (.dict a), .arr es =>
      match natArgVals [] params a.elem.natArgs, dictKeyPrim d a with
      | some na, some k => es.all (normalTL1 d fuel a.elem.ty a.elem.bare na) && dictSorted k es
      | _, _ => false
    | _, _ => false

/-! ### minimal encoded size (for `CheckLengthSanity`) -/

def minSizePrim : PrimK → Nat
  | .u32 | .i32 | .f32 | .str | .bool _ _ => 4
  | .u64 | .i64 | .f64 => 8
  | .byte => 1
  | .bit => 0

def minFields (ms : Nat → Bool → Nat) : List Field → Nat
  | [] => 0
  | f :: fs => (if f.mask.isNone then ms f.ty f.bare else 0) + minFields ms fs

def allStructs (d : Desc) (vs : List (Nat × String)) : Bool :=
  vs.all (fun p => match d.get? p.1 with | some (.struct _) => true | _ => false)

/-- a lower bound (fuel-bounded, hence possibly 0) of the number of bytes any successful `writeTL1` emits -/
def minSize (d : Desc) : Nat → Nat → Bool → Nat
  | 0 => fun _ _ => 0
  | fuel + 1 => fun ty bare =>
    match d.get? ty with
    | none => 0
    | some (.prim k) => minSizePrim k
    | some (.struct s) => (if bare then 0 else 4) + minFields (minSize d fuel) s.fields
    | some (.union u) => if allStructs d u.variants then 4 else 0
    | some (.array a) =>
      if a.isTuple then (if a.dynamic then 0 else a.count * minSize d fuel a.elem.ty a.elem.bare) else 4
    | some (.dict _) => 4

def Inst.elemMin4 (d : Desc) : Inst → Bool
  | .array a => (a.isTuple && !a.dynamic) || decide (4 ≤ minSize d d.insts.size a.elem.ty a.elem.bare)
  | .dict a => decide (4 ≤ minSize d d.insts.size a.elem.ty a.elem.bare)
  | _ => true

/-- every element type of a vector / dynamic tuple / dictionary encodes to at least 4 bytes -/
def Desc.elemMin4 (d : Desc) : Bool := d.insts.toList.all (Inst.elemMin4 d)

/-! ### productivity: every cycle of type references that consumes no input is broken (rank certificate) -/

def rkAt (rk : List Nat) (i : Nat) : Nat := (rk[i]?).getD 0

/-- rank of a call: a *boxed* struct reads its 4-byte tag before anything else, so it needs no rank -/
def rkOf (d : Desc) (rk : List Nat) (ty : Nat) (bare : Bool) : Nat :=
  match bare, d.get? ty with
  | false, some (.struct _) => 0
  | _, _ => rkAt rk ty

/-- a successful read of this type consumes at least one byte -/
def Desc.consumes (d : Desc) (ty : Nat) (bare : Bool) : Bool :=
  match d.get? ty with
  | some (.prim .bit) => false
  | some (.prim _) => true
  | some (.struct _) => !bare
  | some (.union _) => true
  | some (.array a) => !a.isTuple
  | some (.dict _) => true
  | none => false

/-- fields of a bare struct read before anything was surely consumed (`g = false`) must go to a smaller rank;
after an unmasked consuming field (e.g. the `fields_mask:#` itself) the remaining fields are guarded -/
def fieldsProductive (d : Desc) (rk : List Nat) (r : Nat) : Bool → List Field → Bool
  | _, [] => true
  | g, f :: fs =>
    (g || decide (rkOf d rk f.ty f.bare < r)) &&
    fieldsProductive d rk r (g || (f.mask.isNone && d.consumes f.ty f.bare)) fs

/-- references followed before any input is consumed (leading fields of a bare struct, tuple elements) go to a
strictly smaller rank; unions, vectors and dictionaries read 4 bytes first and are unconstrained -/
def Inst.productive (d : Desc) (rk : List Nat) (i : Nat) : Inst → Bool
  | .struct s => fieldsProductive d rk (rkAt rk i) false s.fields
  | .array a => !a.isTuple || decide (rkOf d rk a.elem.ty a.elem.bare < rkAt rk i)
  | _ => true

/-- `rk` is a rank certificate for `d` (each rank ≤ number of instances; an instance beyond the end of `rk` has rank 0) -/
def Desc.productive (d : Desc) (rk : List Nat) : Bool :=
  rk.all (fun r => decide (r ≤ d.insts.size)) &&
  (List.range d.insts.size).all (fun i => match d.get? i with | some inst => inst.productive d rk i | none => true)

/-- one relaxation round of the rank computation -/
def Desc.rankStep (d : Desc) (rk : List Nat) : List Nat :=
  (List.range d.insts.size).map fun i =>
    match d.get? i with
    | some (.struct s) =>
      (s.fields.foldl (fun (p : Nat × Bool) f =>
        ((if p.2 then p.1 else max p.1 (rkOf d rk f.ty f.bare + 1)), p.2 || (f.mask.isNone && d.consumes f.ty f.bare))) (0, false)).1
    | some (.array a) => if a.isTuple then rkOf d rk a.elem.ty a.elem.bare + 1 else 0
    | _ => 0

/-- candidate rank certificate (longest chain of input-free references), unverified: the theorems take any
`rk` with `d.productive rk = true`; on a descriptor with an input-free cycle the candidate fails the check -/
def Desc.computeRanks (d : Desc) : List Nat :=
  (List.range (d.insts.size + 1)).foldl (fun rk _ => d.rankStep rk) (List.replicate d.insts.size 0)

/-- fuel that always suffices for an input of `len` bytes -/
def fuelFor (d : Desc) (len : Nat) : Nat := (len + 1) * (d.insts.size + 1)

/-! ### well-formedness: everything the reader looks up exists (no `.error .desc`) -/

def isNumPrim : PrimK → Bool
  | .u32 | .i32 | .f32 | .u64 | .i64 | .f64 | .byte => true
  | _ => false

/-- the instance is a numeric primitive (`#` in particular): its reader yields `Val.nat` -/
def Desc.isNumTy (d : Desc) (ty : Nat) : Bool :=
  match d.get? ty with
  | some (.prim k) => isNumPrim k
  | _ => false

/-- a nat argument can be evaluated: parameter in range / earlier numeric field
(`nums` = for each earlier field, whether its type is a numeric primitive) -/
def NatArg.okIn (np : Nat) (nums : List Bool) : NatArg → Bool
  | .num _ => true
  | .param i => decide (i < np)
  | .field i => (nums[i]?).getD false

/-- the referenced type exists and receives at least as many nat arguments as it has parameters -/
def Desc.refOk (d : Desc) (np : Nat) (nums : List Bool) (f : Field) : Bool :=
  (match d.get? f.ty with | some inst => decide (inst.nparams ≤ f.natArgs.length) | none => false) &&
  f.natArgs.all (NatArg.okIn np nums)

def Desc.fieldOk (d : Desc) (np : Nat) (nums : List Bool) (f : Field) : Bool :=
  d.refOk np nums f && (match f.mask with | none => true | some (a, _) => a.okIn np nums)

def Desc.fieldsOk (d : Desc) (np : Nat) : List Bool → List Field → Bool
  | _, [] => true
  | nums, f :: fs => d.fieldOk np nums f && d.fieldsOk np (nums ++ [d.isNumTy f.ty]) fs

def Inst.wf (d : Desc) : Inst → Bool
  | .prim _ => true
  | .struct s => d.fieldsOk s.nparams [] s.fields
  | .union u =>
    u.elemNatArgs.all (NatArg.okIn u.nparams []) &&
    u.variants.all (fun p =>
      match d.get? p.1 with
      | some inst => decide (inst.nparams ≤ u.elemNatArgs.length)
      | none => false)
  | .array a => d.refOk a.nparams [] a.elem && (!(a.isTuple && a.dynamic) || decide (1 ≤ a.nparams))
  | .dict a => d.refOk a.nparams [] a.elem && (dictKeyPrim d a).isSome

/-- all type indices in range, nat-argument references in range (parameters) or pointing to earlier numeric
fields (masks included), parameter counts of references match, dictionary keys primitive -/
def Desc.wf (d : Desc) : Bool := d.insts.toList.all (Inst.wf d)

end TLVerif.Codec
