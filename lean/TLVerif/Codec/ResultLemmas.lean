import TLVerif.Codec.Result
import TLVerif.Codec.TL1Step
/-!
Helper lemma of C07 (function results): `writeTL1Z_of_writeTL1` — the zero-filling TL1 writer used for values decoded
from TL2 agrees with the plain TL1 writer wherever the latter succeeds.  Both writers have the same shape: a successful
write is taken apart by the inversions of `TL1Step` (`writeTL1_struct_ok` …, `writeFields_cons_ok`, `writeElems_cons_ok`)
and its parts are handed to the other writer.
-/
namespace TLVerif.Codec
open TLVerif.Prim

section
variable {wr wr' : Wr} (H : ∀ ty bare na x b, wr ty bare na x = .ok b → wr' ty bare na x = .ok b)
include H

theorem writeFieldsZ_of_writeFields (z : Nat → Val) (params : List Nat) (all : List (Option Val)) :
    ∀ (fs : List Field) (vs : List (Option Val)) (b : Bytes),
      writeFieldsWith wr params all fs vs = .ok b → writeFieldsZWith wr' z params all fs vs = .ok b := by
  intro fs
  induction fs with
  | nil => intro vs b h; cases vs <;> first | exact h | cases h
  | cons f fs ih =>
    intro vs b h
    cases vs with
    | nil => cases h
    | cons v vs =>
      obtain ⟨na, hna, ⟨hp, x, b1, bs, rfl, h1, h2, rfl⟩ | ⟨hp, h2⟩⟩ := writeFields_cons_ok h
      · simp only [writeFieldsZWith, hp, hna, Option.getD_some, H _ _ _ _ _ h1, ih _ _ h2]
      · simp only [writeFieldsZWith, hp, hna, ih _ _ h2]

theorem writeElems_mono (f : Field) (na : List Nat) :
    ∀ (es : List Val) (b : Bytes), writeElemsWith wr f na es = .ok b → writeElemsWith wr' f na es = .ok b := by
  intro es
  induction es with
  | nil => exact fun _ h => h
  | cons v vs ih =>
    intro b h
    obtain ⟨b1, bs, h1, h2, rfl⟩ := writeElems_cons_ok h
    simp only [writeElemsWith, H _ _ _ _ _ h1, ih _ h2]

end

theorem writeTL1Z_of_writeTL1 (d : Desc) : ∀ (fuel ty : Nat) (bare : Bool) (params : List Nat) (v : Val) (b : Bytes),
    writeTL1 d fuel ty bare params v = .ok b → writeTL1Z d fuel ty bare params v = .ok b := by
  intro fuel
  induction fuel with
  | zero => intro ty bare params v b h; cases h
  | succ fuel ih =>
    intro ty bare params v b h
    cases hg : d.get? ty with
    | none => simp only [writeTL1, hg] at h; cases h
    | some inst =>
      cases inst with
      | prim k => simpa only [writeTL1, writeTL1Z, hg] using h
      | struct s =>
        obtain ⟨fs, w, rfl, hw, rfl⟩ := writeTL1_struct_ok hg h
        simp only [writeTL1Z, hg, writeFieldsZ_of_writeFields ih _ _ _ _ _ _ hw]
      | union u =>
        obtain ⟨i, x, vi, nm, na, rfl, hv, hna, hw⟩ := writeTL1_union_ok hg h
        simp only [writeTL1Z, hg, hv, hna, ih _ _ _ _ _ hw]
      | array a =>
        obtain ⟨es, na, w, rfl, hna, hw, hk⟩ := writeTL1_array_ok hg h
        have hw' := writeElems_mono ih a.elem na es w hw
        cases ht : a.isTuple with
        | true =>
          rw [ht] at hk
          simp only [if_true] at hk
          simp only [writeTL1Z, hg, hna, ht, hk.1, hk.2, hw', if_true, ne_eq, not_true_eq_false, if_false]
        | false =>
          rw [ht] at hk
          simp only [Bool.false_eq_true, if_false] at hk
          simp only [writeTL1Z, hg, hna, ht, hk.2, hw', Bool.false_eq_true, if_false, ge_iff_le, Nat.not_le.mpr hk.1, Except.map]
      | dict a =>
        obtain ⟨es, na, w, rfl, hna, hw, hl, rfl⟩ := writeTL1_dict_ok hg h
        simp only [writeTL1Z, hg, hna, writeElems_mono ih a.elem na es w hw, ge_iff_le, Nat.not_le.mpr hl, if_false, Except.map]

end TLVerif.Codec
