import TLVerif.Util.Hex
import TLVerif.Codec.TL1
import TLVerif.Codec.JsonPrim
/-!
JSON model of the generated Go code: `writeJson` follows `WriteJSONOpt` (qt_struct.qtpl `writeJSONCode`,
qt_union.qtpl, qt_brackets.qtpl, qt_dict.qtpl, qt_maybe.qtpl, `typeJSONEmptyCondition` of type_rw_*.go),
`readJson` follows `ReadJSONGeneral` (qt_struct.qtpl `readJSONCode` with its BLOCKs, qt_helpers.qtpl
`Json2Read*`, union / maybe / brackets / dict readers).  Both work on JSON *trees* with ordered, possibly
duplicated keys; strings are byte strings (after unescaping), numbers keep their token text.
The textual layer (parser, printer, RFC 8259 grammar) is in `JsonText.lean`.

Presence of a struct field in `Val` (`none`/`some`): for fields that have a hidden TL2 presence bit
(`tl2bit`) it is that bit; for other masked fields it is the TL1 mask bit; unmasked fields are always `some`.
-/
namespace TLVerif.Codec
open TLVerif.Prim TLVerif.Util

inductive Json where
  | null
  | bool (b : Bool)
  | num (t : List Char)                 -- number token text
  | str (b : Bytes)                     -- string content (bytes after unescaping)
  | arr (es : List Json)
  | obj (kvs : List (Bytes × Json))     -- members in order, duplicates kept
  deriving Repr, Inhabited

/-- UTF-8 bytes of a list of characters / of a string (written with `toList` so that it reduces in the kernel) -/
def charsBytes (cs : List Char) : Bytes := cs.flatMap (fun c => utf8Encode c.toNat)
def strBytes (s : String) : Bytes := charsBytes s.toList

/-- the fixed member names of the JSON mapping, as bytes -/
def kType : Bytes := [116, 121, 112, 101]
def kValue : Bytes := [118, 97, 108, 117, 101]
def kOk : Bytes := [111, 107]
def kBase64 : Bytes := [98, 97, 115, 101, 54, 52]

/-! ### canonical one-word dump (line protocol): `z t f n<text> s<hex> [a,b] {<hexkey>:v,…}` -/

def hexRaw (bs : Bytes) : String :=
  String.ofList (bs.foldr (fun b acc => hexDigit (b.toNat / 16) :: hexDigit (b.toNat % 16) :: acc) [])

mutual
  def Json.dump : Json → String
    | .null => "z"
    | .bool true => "t"
    | .bool false => "f"
    | .num t => "n" ++ String.ofList t
    | .str b => "s" ++ hexRaw b
    | .arr es => "[" ++ dumpList es ++ "]"
    | .obj kvs => "{" ++ dumpMembers kvs ++ "}"
  def dumpList : List Json → String
    | [] => ""
    | [j] => j.dump
    | j :: js => j.dump ++ "," ++ dumpList js
  def dumpMembers : List (Bytes × Json) → String
    | [] => ""
    | [(k, j)] => hexRaw k ++ ":" ++ j.dump
    | (k, j) :: r => hexRaw k ++ ":" ++ j.dump ++ "," ++ dumpMembers r
end

/-! ### descriptor helpers -/

def instName (d : Desc) (i : Nat) : String := d.tlnames.getD i ""

def containsSub (s sub : List Char) : Bool :=
  match s with
  | [] => sub.isEmpty
  | _ :: t => sub.isPrefixOf s || containsSub t sub

/-- JSON name of union variant `vi` (qt_union.qtpl: TL name, or the TL2 variant name for names containing `__`) -/
def variantJsonName (d : Desc) (vi : Nat) (vname : String) : String :=
  let name := instName d vi
  if containsSub name.toList ['_', '_'] then vname else name

def isTrueType (d : Desc) (ty : Nat) : Bool :=
  match d.get? ty with
  | some (.struct s) => s.fields.isEmpty
  | _ => false

/-- TL2-omitted field (`_`-prefixed / anonymous TL2 field): no JSON key -/
def fieldOmitted (s : StructD) (f : Field) : Bool :=
  (match f.name.toList with | '_' :: _ => true | _ => false) || (f.name == "" && s.originTL2)

def dependsOnLocal (f : Field) : Bool := f.natArgs.any (fun a => match a with | .field _ => true | _ => false)

/-- Go `!= 0` / `len != 0` / `.Ok` / `b` conditions of `typeJSONEmptyCondition`; `none` = the type has no condition -/
def emptyCond (d : Desc) : Nat → Nat → Val → Option Bool
  | 0, _, _ => none
  | fuel + 1, ty, v =>
    match d.get? ty with
    | some (.prim k) =>
      match k, v with
      | .str, .str s => some (!s.isEmpty)
      | .bool _ _, .bool b => some b
      | .bit, _ => none
      -- floats: `x != 0 || 1/x < 0`, i.e. the bit pattern is non-zero (-0.0 is not empty); integers: `x != 0`
      | _, .nat n => some (n != 0)
      | _, _ => none
    | some (.struct s) =>
      if s.isTypedef then
        match s.fields, v with
        | [f], .struct [some x] => emptyCond d fuel f.ty x
        | _, _ => none
      else none
    | some (.union u) =>
      if u.isMaybe then (match v with | .union i _ => some (i != 0) | _ => none) else none
    | some (.array a) =>
      if !a.isTuple || a.dynamic then (match v with | .arr es => some (!es.isEmpty) | _ => none) else none
    | some (.dict _) => (match v with | .arr es => some (!es.isEmpty) | _ => none)
    | none => none

/-! ### hidden fields
A value produced by the JSON reader of a TL2-enabled type can hold a field whose TL1 mask bit is set while its hidden
TL2 presence bit is clear (the JSON/TL2 writers skip it, the TL1 writer writes it). Such a field is stored as
`some (hidden v)`; no reader of TL1 bytes produces it. -/

def hiddenTag : Nat := 2 ^ 32
def hidden (v : Val) : Val := .union hiddenTag v
def isHidden : Val → Bool
  | .union i _ => i == hiddenTag
  | _ => false
def unhide : Val → Val
  | .union i v => if i == hiddenTag then v else .union i v
  | v => v

/-! ### writer -/

abbrev Wj := Nat → List Nat → Val → Except CErr Json     -- type index, nat args, value

def writePrimJ (k : PrimK) (v : Val) : Except CErr Json :=
  match k, v with
  | .u32, .nat n => .ok (.num (natText (n % 2 ^ 32)))
  | .u64, .nat n => .ok (.num (natText (n % 2 ^ 64)))
  | .byte, .nat n => .ok (.num (natText (n % 256)))
  | .i32, .nat n => .ok (.num (intText 32 n))
  | .i64, .nat n => .ok (.num (intText 64 n))
  | .f32, .nat n =>
    match classify fmt32 n with
    | .nan => .ok (.str (strBytes "NaN"))
    | .inf neg => .ok (.str (strBytes (if neg then "-Inf" else "+Inf")))
    | .fin _ _ _ => .ok (.num (floatText fmt32 n))
  | .f64, .nat n =>
    match classify fmt64 n with
    | .nan => .ok (.str (strBytes "NaN"))
    | .inf neg => .ok (.str (strBytes (if neg then "-Inf" else "+Inf")))
    | .fin _ _ _ => .ok (.num (floatText fmt64 n))
  | .str, .str s => .ok (if utf8Valid s then .str s else .obj [(kBase64, .str (base64Encode s))])
  | .bool _ _, .bool b => .ok (.bool b)
  | _, _ => .error .shape

/-- presence test used by the JSON writer for a masked field -/
def presentJ (f : Field) (all : List (Option Val)) (params : List Nat) (v : Option Val) : Option Bool :=
  match f.tl2bit with
  | some _ => some (match v with | some x => !isHidden x | none => false)
  | none => fieldPresent f all params

def writeFieldsJ (d : Desc) (fuel : Nat) (wj : Wj) (s : StructD) (params : List Nat) (all : List (Option Val)) :
    List Field → List (Option Val) → Except CErr (List (Bytes × Json))
  | [], [] => .ok []
  | f :: fs, v :: vs =>
    match writeFieldsJ d fuel wj s params all fs vs with
    | .error e => .error e
    | .ok rest =>
      if fieldOmitted s f then .ok rest else
      match presentJ f all params v, natArgVals all params f.natArgs with
      | some pres, some na =>
        if f.isBit then
          .ok (if pres then (strBytes f.name, .bool true) :: rest else rest)
        else if isTrueType d f.ty then .ok rest
        else if f.mask.isSome || f.tl2bit.isSome then
          if !pres then .ok rest else
          match v with
          | none => .error .shape
          | some x =>
            match wj f.ty na x with
            | .error e => .error e
            | .ok j => .ok ((strBytes f.name, j) :: rest)
        else
          match v with
          | none => .error .shape
          | some x =>
            match emptyCond d fuel f.ty x with
            | some false =>
              -- TL1-origin code writes first and truncates afterwards: a write error still surfaces
              if s.originTL2 then .ok rest else
              (match wj f.ty na x with
               | .error e => .error e
               | .ok _ => .ok rest)
            | _ =>
              match wj f.ty na x with
              | .error e => .error e
              | .ok j => .ok ((strBytes f.name, j) :: rest)
      | _, _ => .error .desc
  | _, _ => .error .shape

def writeElemsJ (wj : Wj) (f : Field) (na : List Nat) : List Val → Except CErr (List Json)
  | [] => .ok []
  | v :: vs =>
    match wj f.ty na v with
    | .error e => .error e
    | .ok j =>
      match writeElemsJ wj f na vs with
      | .error e => .error e
      | .ok js => .ok (j :: js)

/-- text of a dictionary key that is not a string: the key's JSON token between quotes -/
def keyTokenBytes : Json → Option Bytes
  | .num t => some (t.map (fun c => byteOf c.toNat))
  | .bool true => some (strBytes "true")
  | .bool false => some (strBytes "false")
  | _ => none

def dictKeyIsString (d : Desc) (kty : Nat) : Bool :=
  match d.get? kty with
  | some (.prim .str) => true
  | _ => false

def writeDictJ (d : Desc) (wj : Wj) (kf vf : Field) (kna vna : List Nat) : List Val → Except CErr (List (Bytes × Json))
  | [] => .ok []
  | .struct [some k, some v] :: es =>
    let key : Except CErr Bytes :=
      -- string keys: `JSONWriteString(key)`. For a key that is not valid UTF-8 Go emits `{"base64":…}` in key position,
      -- which is not JSON (finding F1): the model has no tree for it and reports a writer error.
      if dictKeyIsString d kf.ty then (match k with | .str s => if utf8Valid s then .ok s else .error .shape | _ => .error .shape)
      else match wj kf.ty kna k with
        | .error e => .error e
        | .ok j => match keyTokenBytes j with | some b => .ok b | none => .error .shape
    match key, wj vf.ty vna v, writeDictJ d wj kf vf kna vna es with
    | .ok kb, .ok jv, .ok rest => .ok ((kb, jv) :: rest)
    | .error e, _, _ => .error e
    | _, .error e, _ => .error e
    | _, _, .error e => .error e
  | _ :: _ => .error .shape

def writeJson (d : Desc) : Nat → Wj
  | 0 => fun _ _ _ => .error .fuel
  | fuel + 1 => fun ty params v =>
    match d.get? ty with
    | none => .error .desc
    | some (.prim k) => writePrimJ k v
    | some (.struct s) =>
      match v with
      | .struct fs =>
        if s.isTypedef || s.isUnwrap then
          match s.fields, fs with
          | [f], [some x] =>
            match natArgVals [] params f.natArgs with
            | some na => writeJson d fuel f.ty na x
            | none => .error .desc
          | _, _ => .error .shape
        else
          -- mask / size lookups see the stored values of hidden fields; presence tests see the raw entries
          (writeFieldsJ d fuel (writeJson d fuel) s params (fs.map (·.map unhide)) s.fields fs).map Json.obj
      | _ => .error .shape
    | some (.union u) =>
      match v with
      | .union i x =>
        match u.variants[i]?, natArgVals [] params u.elemNatArgs with
        | some (vi, vname), some vparams =>
          if u.isMaybe then
            if i == 0 then .ok (.obj []) else
            match d.get? vi, x with
            | some (.struct vs), .struct [some e] =>
              match vs.fields with
              | [f] =>
                match natArgVals [] vparams f.natArgs with
                | none => .error .desc
                | some ena =>
                  match emptyCond d fuel f.ty e with
                  | some false => .ok (.obj [(kOk, .bool true)])
                  | _ =>
                    match writeJson d fuel f.ty ena e with
                    | .error er => .error er
                    | .ok j => .ok (.obj [(kOk, .bool true), (kValue, j)])
              | _ => .error .desc
            | _, _ => .error .shape
          else
            let name := strBytes (variantJsonName d vi vname)
            if u.isEnum then .ok (.str name)
            else if isTrueType d vi then .ok (.obj [(kType, .str name)])
            else
              match emptyCond d fuel vi x with
              | some false => .ok (.obj [(kType, .str name)])
              | _ =>
                match writeJson d fuel vi vparams x with
                | .error e => .error e
                | .ok j => .ok (.obj [(kType, .str name), (kValue, j)])
        | none, _ => .error .shape
        | _, none => .error .desc
      | _ => .error .shape
    | some (.array a) =>
      match v, natArgVals [] params a.elem.natArgs with
      | .arr es, some na =>
        if a.isTuple then
          match (if a.dynamic then params[0]? else some a.count) with
          | none => .error .desc
          | some n =>
            if es.length ≠ n then .error .shape
            else (writeElemsJ (writeJson d fuel) a.elem na es).map Json.arr
        else (writeElemsJ (writeJson d fuel) a.elem na es).map Json.arr
      | _, none => .error .desc
      | _, _ => .error .shape
    | some (.dict a) =>
      match v, natArgVals [] params a.elem.natArgs, d.get? a.elem.ty with
      | .arr es, some ena, some (.struct es') =>
        match es'.fields with
        | [kf, vf] =>
          match natArgVals [] ena kf.natArgs, natArgVals [] ena vf.natArgs with
          | some kna, some vna => (writeDictJ d (writeJson d fuel) kf vf kna vna es).map Json.obj
          | _, _ => .error .desc
        | _ => .error .desc
      | _, none, _ => .error .desc
      | _, _, _ => .error .shape

/-! ### reader -/

abbrev Rj := Nat → List Nat → Option Json → Except CErr Val     -- `none` = Go `in == nil`

def charsOfBytes (b : Bytes) : List Char := b.map (fun x => Char.ofNat x.toNat)

/-- numbers: a number token or a string holding the decimal text (`Json2ReadUint32` …) -/
def readIntJ (signed : Bool) (bits : Nat) : Option Json → Except CErr Val
  | none => .ok (.nat 0)
  | some (.num t) =>
    match (if signed then parseIntText bits t else parseUintText bits t) with
    | some n => .ok (.nat n)
    | none => .error .rej
  | some (.str s) =>
    match (if signed then parseIntText bits (charsOfBytes s) else parseUintText bits (charsOfBytes s)) with
    | some n => .ok (.nat n)
    | none => .error .rej
  | some _ => .error .rej

def readFloatJ (f : FloatFmt) : Option Json → Except CErr Val
  | none => .ok (.nat 0)
  | some (.num t) =>
    match parseFloatText f t with
    | some n => .ok (.nat n)
    | none => .error .rej
  | some (.str s) =>
    match parseFloatText f (charsOfBytes s) with
    | some n => .ok (.nat n)
    | none => .error .rej
  | some _ => .error .rej

/-- `Json2ReadString`: a string, or `{"base64": "<std base64>"}` with exactly that one key -/
def readStringJ : Option Json → Except CErr Val
  | none => .ok (.str [])
  | some (.str s) => .ok (.str s)
  | some (.obj [(k, .str b)]) =>
    if k == kBase64 then
      match base64Decode b with
      | some r => .ok (.str r)
      | none => .error .rej
    else .error .rej
  | some _ => .error .rej

def readPrimJ (k : PrimK) (j : Option Json) : Except CErr Val :=
  match k with
  | .u32 => readIntJ false 32 j
  | .u64 => readIntJ false 64 j
  | .byte => readIntJ false 8 j
  | .i32 => readIntJ true 32 j
  | .i64 => readIntJ true 64 j
  | .f32 => readFloatJ fmt32 j
  | .f64 => readFloatJ fmt64 j
  | .str => readStringJ j
  | .bool _ _ =>
    match j with
    | none => .ok (.bool false)
    | some (.bool b) => .ok (.bool b)
    | some _ => .error .rej
  | .bit => .error .desc

def jzeroFieldsWith (z : Nat → Except CErr Val) : List Field → Except CErr (List (Option Val))
  | [] => .ok []
  | f :: fs =>
    match jzeroFieldsWith z fs with
    | .error e => .error e
    | .ok rest =>
      if f.mask.isSome || f.tl2bit.isSome then .ok (none :: rest)
      else match z f.ty with
        | .error e => .error e
        | .ok v => .ok (some v :: rest)

/-- Go `Reset()` of a value of a type without nat parameters: the zero value -/
def jzeroVal (d : Desc) : Nat → Nat → Except CErr Val
  | 0 => fun _ => .error .fuel
  | fuel + 1 => fun ty =>
    match d.get? ty with
    | none => .error .desc
    | some (.prim k) =>
      match k with
      | .str => .ok (.str [])
      | .bool _ _ => .ok (.bool false)
      | .bit => .ok (.bool false)
      | _ => .ok (.nat 0)
    | some (.struct s) => (jzeroFieldsWith (jzeroVal d fuel) s.fields).map Val.struct
    | some (.union u) =>
      match u.variants with
      | (vi, _) :: _ => (jzeroVal d fuel vi).map (Val.union 0)
      | [] => .error .desc
    | some (.array a) =>
      if a.isTuple && !a.dynamic then
        (jzeroVal d fuel a.elem.ty).map (fun z => .arr (List.replicate a.count z))
      else .ok (.arr [])
    | some (.dict _) => .ok (.arr [])

/-- position of the (non-omitted) field called `key` -/
def findField (s : StructD) (key : Bytes) : List Field → Nat → Option (Nat × Field)
  | [], _ => none
  | f :: fs, i => if !fieldOmitted s f && strBytes f.name == key then some (i, f) else findField s key fs (i + 1)

def lookupKey (key : Bytes) : List (Bytes × Json) → Option Json
  | [] => none
  | (k, j) :: r => if k == key then some j else lookupKey key r

def countKey (key : Bytes) : List (Bytes × Json) → Nat
  | [] => 0
  | (k, _) :: r => (if k == key then 1 else 0) + countKey key r

/-- every key names a (non-omitted) field and no key repeats (BLOCK main read: default / duplicate branches) -/
def keysOk (s : StructD) (kvs : List (Bytes × Json)) : Bool :=
  kvs.all (fun kv => (findField s kv.1 s.fields 0).isSome && countKey kv.1 kvs == 1)

/-- JSON member of field `f` in the object being read (`none`: absent, or the whole object is `nil`) -/
def memberOf (s : StructD) (f : Field) (kvs : List (Bytes × Json)) : Option Json :=
  if fieldOmitted s f then none else lookupKey (strBytes f.name) kvs

/-- Go `n |= 1 << bit` -/
def setBit (n bit : Nat) : Nat := n ||| 2 ^ bit

def setNatField (vals : List (Option Val)) (i bit : Nat) : List (Option Val) :=
  match vals[i]? with
  | some (some (.nat n)) => vals.set i (some (.nat (setBit n bit)))
  | some none => vals.set i (some (.nat (setBit 0 bit)))
  | _ => vals

/-- BLOCK "set TL1 field masks recursively": walk the chain of local masks upwards setting bits; at an external
or constant mask the bit must already be set unless the type has TL2 (`.error`); `fuel` bounds the chain. -/
def propagateMask (s : StructD) (params : List Nat) : Nat → Field → List (Option Val) → Except CErr (List (Option Val))
  | 0, _, vals => .ok vals
  | fuel + 1, cur, vals =>
    match cur.mask with
    | none => .ok vals
    | some (.field a, bit) =>
      match s.fields[a]? with
      | some anc => propagateMask s params fuel anc (setNatField vals a bit)
      | none => .error .desc
    | some (m, bit) =>
      if s.hasTL2 then .ok vals else
      match natArgVal vals params m with
      | some mv => if testBit mv bit then .ok vals else .error .rej
      | none => .error .desc

/-- result of the first pass over one field -/
structure Slot where
  f : Field
  j : Option Json          -- member, if presented
  presented : Bool
  trueVal : Bool           -- isBit fields: the boolean read
  deriving Inhabited

/-- BLOCK main read (+ reset of independent absent props): bit fields and independent fields are read, dependent ones deferred -/
def rsPass1 (d : Desc) (fuel : Nat) (rj : Rj) (s : StructD) (kvs : List (Bytes × Json)) :
    List Field → Except CErr (List Slot × List (Option Val))
  | [] => .ok ([], [])
  | f :: fs =>
    match rsPass1 d fuel rj s kvs fs with
    | .error e => .error e
    | .ok (slots, vals) =>
      let j := memberOf s f kvs
      if f.isBit then
        match j with
        | none => .ok ({ f, j, presented := false, trueVal := false } :: slots, none :: vals)
        | some (.bool b) => .ok ({ f, j, presented := true, trueVal := b } :: slots, none :: vals)
        | some _ => .error .rej
      else if f.natArgs.isEmpty then
        match j with
        | some jv =>
          match rj f.ty [] (some jv) with
          | .error e => .error e
          | .ok v => .ok ({ f, j, presented := true, trueVal := false } :: slots, some v :: vals)
        | none =>
          if fieldOmitted s f then .ok ({ f, j, presented := false, trueVal := false } :: slots, none :: vals) else
          match jzeroVal d fuel f.ty with
          | .error e => .error e
          | .ok z => .ok ({ f, j, presented := false, trueVal := false } :: slots, some z :: vals)
      else .ok ({ f, j, presented := j.isSome, trueVal := false } :: slots, none :: vals)

def presentOr (f : Field) (vals : List (Option Val)) (params : List Nat) : Bool :=
  match fieldPresent f vals params with | some b => b | none => false

/-- BLOCK set TL2 masks from TL1 masks (uses the masks as they are *before* propagation) -/
def rsTl2Set (params : List Nat) (vals0 : List (Option Val)) (slots : List Slot) : List Bool :=
  slots.map (fun sl =>
    if sl.presented then (if sl.f.isBit then sl.trueVal else true)
    else sl.f.mask.isSome && presentOr sl.f vals0 params)     -- TL2-origin fields have no TL1 mask to copy from

/-- does this slot imply its mask bits (a presented field, or a true-typed field given as `true`) -/
def Slot.implies (sl : Slot) : Bool := sl.f.mask.isSome && (if sl.f.isBit then sl.trueVal else sl.presented)

/-- BLOCK set TL1 field masks recursively -/
def rsProp (s : StructD) (params : List Nat) : List Slot → List (Option Val) → Except CErr (List (Option Val))
  | [], vals => .ok vals
  | sl :: r, vals =>
    if sl.implies then
      match propagateMask s params (s.fields.length + 1) sl.f vals with
      | .error e => .error e
      | .ok vals' => rsProp s params r vals'
    else rsProp s params r vals

/-- BLOCK trueType with false values validation (types without TL2 only) -/
def rsBadFalse (s : StructD) (params : List Nat) (vals1 : List (Option Val)) (slots : List Slot) : Bool :=
  !s.hasTL2 && slots.any (fun sl => sl.f.isBit && sl.presented && !sl.trueVal && presentOr sl.f vals1 params)

/-- BLOCK read presented dependent fields / read-or-reset remaining fields, and the final presence of every field -/
def rsFin (d : Desc) (fuel : Nat) (rj : Rj) (s : StructD) (params : List Nat) (vals1 : List (Option Val)) :
    List Slot → List Bool → List (Option Val) → Except CErr (List (Option Val))
  | [], _, _ => .ok []
  | sl :: r, t :: ts, v :: vs =>
    match rsFin d fuel rj s params vals1 r ts vs with
    | .error e => .error e
    | .ok rest =>
      let f := sl.f
      let tl1 := f.mask.isSome && presentOr f vals1 params
      if fieldOmitted s f then .ok (none :: rest) else
      -- the value Go holds in the field (relevant when the field is present for TL1 or for TL2)
      let actual : Except CErr (Option Val) :=
        if f.isBit then .ok (some (.struct []))
        else if f.natArgs.isEmpty then .ok v
        else
          match natArgVals vals1 params f.natArgs with
          | none => .error .desc
          | some na =>
            if sl.presented then (rj f.ty na sl.j).map some
            else if (if f.tl2bit.isSome then t else if f.mask.isSome then tl1 else true) then (rj f.ty na none).map some
            else (jzeroVal d fuel f.ty).map some
      match actual with
      | .error e => .error e
      | .ok x =>
        if f.tl2bit.isSome then
          .ok ((if t then x else if tl1 then x.map hidden else none) :: rest)
        else if f.mask.isSome then .ok ((if tl1 then x else none) :: rest)
        else .ok (x :: rest)
  | _, _, _ => .error .desc

def readStructJ (d : Desc) (fuel : Nat) (rj : Rj) (s : StructD) (params : List Nat) (kvs : List (Bytes × Json)) :
    Except CErr Val :=
  if !keysOk s kvs then .error .rej else
  match rsPass1 d fuel rj s kvs s.fields with
  | .error e => .error e
  | .ok (slots, vals0) =>
    match rsProp s params slots vals0 with
    | .error e => .error e
    | .ok vals1 =>
      if rsBadFalse s params vals1 slots then .error .rej else
      (rsFin d fuel rj s params vals1 slots (rsTl2Set params vals0 slots) vals1).map Val.struct

def readElemsJ (rj : Rj) (f : Field) (na : List Nat) : List Json → Except CErr (List Val)
  | [] => .ok []
  | j :: js =>
    match rj f.ty na (some j) with
    | .error e => .error e
    | .ok v =>
      match readElemsJ rj f na js with
      | .error e => .error e
      | .ok vs => .ok (v :: vs)

/-- `Json2ReadUnion`: a bare string, or an object with `type` (string, required) and `value` (optional), no other
keys, no duplicates -/
def readUnionHead : Option Json → Except CErr (Bytes × Option Json)
  | some (.str s) => .ok (s, none)
  | some (.obj kvs) =>
    if kvs.all (fun kv => (kv.1 == kType || kv.1 == kValue) && countKey kv.1 kvs == 1) then
      match lookupKey (kType) kvs with
      | some (.str t) => .ok (t, lookupKey (kValue) kvs)
      | _ => .error .rej
    else .error .rej
  | _ => .error .rej

/-- `Json2ReadMaybe`: `{}` / `{"ok":b}` / `{"value":v}` / `{"ok":true,"value":v}`; `ok:false` with a value is an error -/
def readMaybeHead : Option Json → Except CErr (Bool × Option Json)
  | none => .ok (false, none)
  | some (.obj kvs) =>
    if kvs.all (fun kv => (kv.1 == kOk || kv.1 == kValue) && countKey kv.1 kvs == 1) then
      let v := lookupKey (kValue) kvs
      match lookupKey (kOk) kvs with
      | some (.bool true) => .ok (true, v)
      | some (.bool false) => if v.isSome then .error .rej else .ok (false, none)
      | some _ => .error .rej
      | none => .ok (v.isSome, v)
    else .error .rej
  | some _ => .error .rej

def hex8 (n : Nat) : List Char :=
  (List.range 8).map (fun i => hexDigit ((n / 16 ^ (7 - i)) % 16))

/-- names under which variant `vi` is accepted (qt_union.qtpl `cases`); `legacy` = `jctx.LegacyTypeNames` -/
def variantMatches (d : Desc) (u : UnionD) (originTL2 legacy : Bool) (vi : Nat) (vname : String) (tag : Bytes) : Bool :=
  let name := instName d vi
  let vtag := match d.get? vi with | some (.struct s) => s.tag | _ => 0
  let tagS := '#' :: hex8 vtag
  let hasOld := !containsSub name.toList ['_', '_'] && !(u.hasTL2 && vname == name)
  (u.hasTL2 && tag == strBytes vname) ||
  (hasOld && tag == strBytes name) ||
  (!originTL2 && legacy && (tag == charsBytes (name.toList ++ tagS) || tag == charsBytes tagS))

def findVariantJ (d : Desc) (u : UnionD) (originTL2 legacy : Bool) (tag : Bytes) : List (Nat × String) → Nat → Option (Nat × Nat)
  | [], _ => none
  | (vi, vname) :: vs, i =>
    if variantMatches d u originTL2 legacy vi vname tag then some (i, vi) else findVariantJ d u originTL2 legacy tag vs (i + 1)

def unionOriginTL2 (d : Desc) (u : UnionD) : Bool :=
  match u.variants with
  | (vi, _) :: _ => (match d.get? vi with | some (.struct s) => s.originTL2 | _ => false)
  | [] => false

def readDictJ (d : Desc) (rj : Rj) (parseKey : Bytes → Option Json) (kf vf : Field) (kna vna : List Nat) (kprim : PrimK) :
    List (Bytes × Json) → List Val → Except CErr (List Val)
  | [], acc => .ok acc
  | (k, jv) :: r, acc =>
    let key : Except CErr Val :=
      if dictKeyIsString d kf.ty then .ok (.str k)
      else match parseKey k with
        | some jk => rj kf.ty kna (some jk)
        | none => .error .rej
    match key with
    | .error e => .error e
    | .ok kv =>
      match rj vf.ty vna (some jv) with
      | .error e => .error e
      | .ok v => readDictJ d rj parseKey kf vf kna vna kprim r (dictInsert kprim (.struct [some kv, some v]) acc)

/-- `parseKey` re-lexes the text of a non-string dictionary key (`in2 := JsonLexer{Data: keyBytes}`);
it is supplied by the text layer (`JsonText.parseJson`). -/
def readJson (d : Desc) (legacy : Bool) (parseKey : Bytes → Option Json) : Nat → Rj
  | 0 => fun _ _ _ => .error .fuel
  | fuel + 1 => fun ty params j =>
    match d.get? ty with
    | none => .error .desc
    | some (.prim k) => readPrimJ k j
    | some (.struct s) =>
      if s.isTypedef || s.isUnwrap then
        match s.fields with
        | [f] =>
          match natArgVals [] params f.natArgs with
          | some na => (readJson d legacy parseKey fuel f.ty na j).map (fun x => .struct [some x])
          | none => .error .desc
        | _ => .error .desc
      else
        match j with
        | none => readStructJ d fuel (readJson d legacy parseKey fuel) s params []
        | some (.obj kvs) => readStructJ d fuel (readJson d legacy parseKey fuel) s params kvs
        | some _ => .error .rej
    | some (.union u) =>
      match natArgVals [] params u.elemNatArgs with
      | none => .error .desc
      | some vparams =>
        if u.isMaybe then
          match readMaybeHead j, u.variants with
          | .error e, _ => .error e
          | .ok (false, _), (v0, _) :: _ => (jzeroVal d fuel v0).map (Val.union 0)
          | .ok (true, jv), [_, (v1, _)] =>
            match d.get? v1 with
            | some (.struct vs) =>
              match vs.fields with
              | [f] =>
                match natArgVals [] vparams f.natArgs with
                | some ena => (readJson d legacy parseKey fuel f.ty ena jv).map (fun x => .union 1 (.struct [some x]))
                | none => .error .desc
              | _ => .error .desc
            | _ => .error .desc
          | _, _ => .error .desc
        else
          match readUnionHead j with
          | .error e => .error e
          | .ok (tag, jv) =>
            match findVariantJ d u (unionOriginTL2 d u) legacy tag u.variants 0 with
            | none => .error .rej
            | some (i, vi) =>
              if isTrueType d vi then .ok (.union i (.struct []))
              else (readJson d legacy parseKey fuel vi vparams jv).map (Val.union i)
    | some (.array a) =>
      match natArgVals [] params a.elem.natArgs with
      | none => .error .desc
      | some na =>
        let items : Except CErr (List Json) :=
          match j with
          | none => .ok []
          | some (.arr es) => .ok es
          | some _ => .error .rej
        match items with
        | .error e => .error e
        | .ok es =>
          if a.isTuple then
            match (if a.dynamic then params[0]? else some a.count) with
            | none => .error .desc
            | some n =>
              if es.length ≠ n then .error .rej
              else (readElemsJ (readJson d legacy parseKey fuel) a.elem na es).map Val.arr
          else (readElemsJ (readJson d legacy parseKey fuel) a.elem na es).map Val.arr
    | some (.dict a) =>
      match natArgVals [] params a.elem.natArgs, d.get? a.elem.ty, dictKeyPrim d a with
      | some ena, some (.struct es'), some kprim =>
        match es'.fields with
        | [kf, vf] =>
          match natArgVals [] ena kf.natArgs, natArgVals [] ena vf.natArgs with
          | some kna, some vna =>
            match j with
            | none => .ok (.arr [])
            | some (.obj kvs) => (readDictJ d (readJson d legacy parseKey fuel) parseKey kf vf kna vna kprim kvs []).map Val.arr
            | some _ => .error .rej
          | _, _ => .error .desc
        | _ => .error .desc
      | _, _, _ => .error .desc

end TLVerif.Codec
