import TLVerif.Codec.BytesVariant
/-! `keyLt` (the order in which the map-backed variant writes dictionary keys) is asymmetric, for every key kind. -/
namespace TLVerif.Codec
open TLVerif.Prim

theorem bytesLt_asymm (x y : Bytes) (h : bytesLt x y = true) : bytesLt y x = false := by
  fun_induction bytesLt x y with
  | case1 => rfl
  | case2 => rfl
  | case3 => cases h
  | case4 a as b bs hab =>
    rw [bytesLt, if_neg (fun hba => UInt8.lt_irrefl _ (UInt8.lt_trans hab hba)), if_pos hab]
  | case5 => cases h
  | case6 a as b bs hab hba ih => rw [bytesLt, if_neg hba, if_neg hab, ih h]

theorem keyLt_asymm (k : PrimK) (a b : Val) (h : keyLt k a b = true) : keyLt k b a = false := by
  unfold keyLt at *
  generalize keyRaw 8 a = ra at *
  generalize keyRaw 8 b = rb at *
  -- the arm of `keyLt` that compared `ra` with `rb` also compares `rb` with `ra`
  split at h
  · simp only [decide_eq_true_eq, decide_eq_false_iff_not] at h ⊢; omega
  · simp only [decide_eq_true_eq, decide_eq_false_iff_not] at h ⊢; omega
  · exact bytesLt_asymm _ _ h
  · simp only [decide_eq_true_eq, decide_eq_false_iff_not] at h ⊢; omega
  · rename_i x y
    revert h; cases x <;> cases y <;> decide
  · cases h

def keyBelowAllLt (k : PrimK) (x : Val) : List Val → Bool
  | [] => true
  | y :: ys => keyLt k (elemKey x) (elemKey y) && keyBelowAllLt k x ys

/-- each key strictly below every later key -/
def dictPairwiseLt (k : PrimK) : List Val → Bool
  | [] => true
  | x :: xs => keyBelowAllLt k x xs && dictPairwiseLt k xs

theorem keyBelowAll_eq (k : PrimK) (x : Val) : ∀ ys, keyBelowAll k x ys = keyBelowAllLt k x ys := by
  intro ys
  induction ys with
  | nil => rfl
  | cons y ys ih =>
    simp only [keyBelowAll, keyBelowAllLt, ih]
    cases h : keyLt k (elemKey x) (elemKey y) with
    | false => simp
    | true => simp [keyLt_asymm k _ _ h]

end TLVerif.Codec
