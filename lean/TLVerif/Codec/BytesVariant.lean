import TLVerif.Codec.TL1
import TLVerif.Codec.TL1Wf
/-!
# `[]byte` variant of the generated TL1 readers (C10)

With `--generateByteVersions` every type gets a second Go representation in which strings are `[]byte`
and **dictionaries are slices** (`[]DictionaryField…Bytes`, `internal/puregen/gengo/type_rw_dict.go`
`typeString2`): `…BytesReadTL1` (`qt_dict.qtpl`, `bytesVersion` branch) resizes the slice to the wire count
and reads the elements in wire order — no sorting, no de-duplication — and `…BytesWriteTL1` writes the slice
in order.  The string variant decodes into `map[K]V` and writes the keys sorted (`dictNormalize`).

`readTL1M` is `readTL1` with the storage discipline of dictionaries as a parameter:

* `.map`    — the string variant (`readTL1M_map`: it *is* `readTL1`, so every C01/C02 theorem applies);
* `.slice`  — the `[]byte` variant: a dictionary instance is a slice iff it *has* a bytes version (`sl ty`:
  `TypeRWWrapper.hasBytesVersion` — true for every dictionary — and the root type is reached from the
  `--generateByteVersions` white list, otherwise `CreateObjectBytes()` is the string variant);
* `.strict` — a proof device: the slice reader that additionally rejects a dictionary whose keys are not
  strictly ascending.  The inputs it accepts are the *canonical* inputs of the property.

Everything else (structs, unions, arrays, primitives: a `[]byte` string and a `string` hold the same bytes,
`Val.str`) is shared, which is the content of "one representation-agnostic model".
-/
namespace TLVerif.Codec
open TLVerif.Prim

inductive DictMode where
  | map | slice | strict
  deriving DecidableEq, Repr

/-- the key of `x` is strictly below every key of the list (and not conversely) -/
def keyBelowAll (k : PrimK) (x : Val) : List Val → Bool
  | [] => true
  | y :: ys => keyLt k (elemKey x) (elemKey y) && !keyLt k (elemKey y) (elemKey x) && keyBelowAll k x ys

def dictAscending (k : PrimK) : List Val → Bool
  | [] => true
  | x :: xs => keyBelowAll k x xs && dictAscending k xs

def dictStore (m : DictMode) (isSlice : Bool) (k : PrimK) (vs : List Val) : Except CErr (List Val) :=
  match m with
  | .map => .ok (dictNormalize k vs)
  | .slice => .ok (if isSlice then vs else dictNormalize k vs)
  | .strict => if dictAscending k vs then .ok vs else .error .rej

def readTL1M (m : DictMode) (sl : Nat → Bool) (cfg : Cfg) (d : Desc) : Nat → Rd
  | 0 => fun _ _ _ _ => .error .fuel
  | fuel + 1 => fun ty bare params bs =>
    match d.get? ty with
    | none => .error .desc
    | some (.prim k) => readPrim k bs
    | some (.struct s) =>
      match (if bare then .ok bs else readExactTag s.tag bs) with
      | .error e => .error e
      | .ok bs1 =>
        match readFieldsWith (readTL1M m sl cfg d fuel) params s.fields [] bs1 with
        | .error e => .error e
        | .ok (fs, r) => .ok (.struct fs, r)
    | some (.union u) =>
      match readU32 bs with
      | .error e => .error e
      | .ok (tag, bs1) =>
        match findVariant d tag u.variants 0, natArgVals [] params u.elemNatArgs with
        | some (i, vi), some na =>
          match readTL1M m sl cfg d fuel vi true na bs1 with
          | .error e => .error e
          | .ok (v, r) => .ok (.union i v, r)
        | none, _ => .error .rej
        | _, none => .error .desc
    | some (.array a) =>
      match natArgVals [] params a.elem.natArgs with
      | none => .error .desc
      | some na =>
        if a.isTuple then
          match (if a.dynamic then params[0]? else some a.count) with
          | none => .error .desc
          | some n =>
            if a.dynamic && !sanityOk cfg bs n then .error .eof else
            (readElemsWith (readTL1M m sl cfg d fuel) a.elem na n bs).map (fun (vs, r) => (.arr vs, r))
        else
          match readU32 bs with
          | .error e => .error e
          | .ok (n, bs1) =>
            if !sanityOk cfg bs1 n then .error .eof else
            (readElemsWith (readTL1M m sl cfg d fuel) a.elem na n bs1).map (fun (vs, r) => (.arr vs, r))
    | some (.dict a) =>
      match natArgVals [] params a.elem.natArgs with
      | none => .error .desc
      | some na =>
        match readU32 bs with
        | .error e => .error e
        | .ok (n, bs1) =>
          if !sanityOk cfg bs1 n then .error .eof else
          match dictKeyPrim d a with
          | none => .error .desc
          | some k =>
            match readElemsWith (readTL1M m sl cfg d fuel) a.elem na n bs1 with
            | .error e => .error e
            | .ok (vs, r) =>
              match dictStore m (sl ty) k vs with
              | .error e => .error e
              | .ok vs' => .ok (.arr vs', r)

/-- `hasBytesVersion` of the generator (`MarkHasBytesVersion`, type_rw_*.go): the instance reaches a string
primitive or a dictionary (`TypeRWDict.markHasBytesVersion` is constantly true, so a dictionary instance always
has a slice representation, also `dictionaryAny int int`) -/
def Desc.hasBytesVersion (d : Desc) (ty : Nat) : Bool :=
  (d.reachList ty).any fun j => match d.get? j with | some (.prim .str) => true | some (.dict _) => true | _ => false

end TLVerif.Codec
