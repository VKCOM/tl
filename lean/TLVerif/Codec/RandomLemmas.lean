import TLVerif.Codec.Random
import TLVerif.Codec.TL1Canon
/-!
Whatever `fillTL1` returns is accepted by the TL1 writer, bare and boxed (`fillTL1_writable`), under the decidable side
conditions `Inst.fillOk`.
-/
namespace TLVerif.Codec
open TLVerif.Prim TLVerif.Facts

def Desc.isU32 (d : Desc) (ty : Nat) : Bool :=
  match d.get? ty with
  | some (.prim .u32) => true
  | _ => false

/-- `true` / `True`: a TL1-origin struct without fields -/
def Desc.isTrueTy (d : Desc) (ty : Nat) : Bool :=
  match d.get? ty with
  | some (.struct s) => s.fields.isEmpty && !s.originTL2
  | _ => false

/-- only `#` fields are drawn as masks / sizes -/
def drawnOkFields (d : Desc) (gx : Nat → FieldX) : List Field → Nat → Bool
  | [], _ => true
  | f :: fs, i => (!(gx i).drawn || d.isU32 f.ty) && drawnOkFields d gx fs (i + 1)

/-- side conditions of `fillTL1_writable`: usage flags sit on `#` fields, storage-less conditional fields are of
type `true`, no TL2 `bit` primitive, `Bool` tags differ -/
def Inst.fillOk (d : Desc) (gi : GenInfo) (ty : Nat) : Inst → Bool
  | .struct s => drawnOkFields d (structGx gi ty s) s.fields 0 && s.fields.all (fun f => !f.isBit || d.isTrueTy f.ty)
  | .prim .bit => false
  | .prim (.bool f t) => f != t
  | _ => true

theorem Desc.allOnI_get {d : Desc} {S : Nat → Bool} {p : Nat → Inst → Bool} (h : d.allOnI S p = true) {ty : Nat} {i : Inst}
    (hg : d.get? ty = some i) (hS : S ty = true) : p ty i = true := by
  have := List.all_eq_true.mp h ty (List.mem_range.mpr (Desc.get?_lt hg))
  simpa [hS, hg] using this

theorem limitVal_lt (v : Nat) : limitVal v < 1024 := by
  unfold limitVal
  have : v &&& (Rand.limitValue - 1) ≤ Rand.limitValue - 1 := Nat.and_le_right
  have e : Rand.limitValue = 1024 := rfl
  omega

theorem randomChars_length (n : Nat) (rg : RG) : (randomChars n rg).1.length = n := by
  fun_induction randomChars n rg with
  | case1 => rfl
  | case2 n rg r ih => exact congrArg (· + 1) ih

theorem randomString_length (rg : RG) : (randomString rg).1.length < 32 := by
  unfold randomString
  rw [randomChars_length]
  have e : Rand.randomNatConstraint = 32 := rfl
  rw [e]; exact Nat.mod_lt _ (by decide)

theorem fillPrim_writable {k : PrimK} (hk : k ≠ .bit) (rg : RG) : ∃ bs, writePrim k (fillPrim k rg).1 = .ok bs := by
  cases k with
  | bit => exact absurd rfl hk
  | str =>
    have hl := randomString_length rg
    obtain ⟨bs, hbs⟩ := string_write_total (randomString rg).1 (by rw [maxHuge_eq]; omega)
    exact ⟨bs, by simp only [fillPrim, writePrim, hbs]⟩
  | _ => exact ⟨_, rfl⟩

/-- what `fillTL1_writable` proves by induction on fuel and the loop lemmas assume of `fl`: the writer accepts what is filled -/
def WrOk (S : Nat → Bool) (fl : Fl) (wr : Wr) : Prop :=
  ∀ ty na rg v rg', S ty = true → fl ty na rg = .ok (v, rg') → ∀ bare, ∃ bs, wr ty bare na v = .ok bs

theorem writeTL1_true {d : Desc} {ty : Nat} (h : d.isTrueTy ty = true) (m : Nat) (bare : Bool) (na : List Nat) :
    ∃ bs, writeTL1 d (m + 1) ty bare na (.struct []) = .ok bs := by
  unfold Desc.isTrueTy at h
  split at h
  · rename_i s hg
    simp only [Bool.and_eq_true, List.isEmpty_iff] at h
    rw [writeTL1_struct hg, h.1]
    exact ⟨_, rfl⟩
  · cases h

theorem writeTL1_u32 {d : Desc} {ty : Nat} (h : d.isU32 ty = true) (m : Nat) (bare : Bool) (na : List Nat) (n : Nat) :
    ∃ bs, writeTL1 d (m + 1) ty bare na (.nat n) = .ok bs := by
  unfold Desc.isU32 at h
  split at h
  · rename_i hg
    exact ⟨_, writeTL1_prim hg _⟩
  · cases h

theorem fillValue_writable {d : Desc} {S : Nat → Bool} {fl : Fl} {m : Nat} (hW : WrOk S fl (writeTL1 d (m + 1)))
    {x : FieldX} {f : Field} (hd : (!x.drawn || d.isU32 f.ty) = true) (hS : S f.ty = true)
    {na : List Nat} {rg rg' : RG} {v : Val} (h : fillValue fl x f na rg = .ok (v, rg')) (bare : Bool) :
    ∃ bs, writeTL1 d (m + 1) f.ty bare na v = .ok bs := by
  unfold fillValue at h
  split at h
  · rename_i c1
    cases h
    exact writeTL1_u32 (by simpa [FieldX.drawn, c1] using hd) m bare na _
  · split at h
    · rename_i c2
      cases h
      exact writeTL1_u32 (by simpa [FieldX.drawn, c2] using hd) m bare na _
    · exact hW _ _ _ _ _ hS h bare

theorem fillFields_writable {d : Desc} {S : Nat → Bool} {fl : Fl} {m : Nat} (hW : WrOk S fl (writeTL1 d (m + 1)))
    (gx : Nat → FieldX) (params : List Nat) :
    ∀ (fields : List Field) (i : Nat) (acc : List (Option Val)) (rg : RG) (out : List (Option Val)) (rg' : RG),
      (∀ f ∈ fields, S f.ty = true) → drawnOkFields d gx fields i = true →
      fields.all (fun f => !f.isBit || d.isTrueTy f.ty) = true →
      fillFieldsWith fl gx params fields i acc rg = .ok (out, rg') →
      ∃ tail, out = acc ++ tail ∧ ∃ bs, writeFieldsWith (writeTL1 d (m + 1)) params out fields tail = .ok bs := by
  intro fields
  induction fields with
  | nil =>
    intro i acc rg out rg' _ _ _ h
    cases h
    exact ⟨[], by simp, [], rfl⟩
  | cons f fs ih =>
    intro i acc rg out rg' hS hdo hbo h
    have hS' : ∀ g ∈ fs, S g.ty = true := fun g hg => hS g (List.mem_cons_of_mem _ hg)
    simp only [drawnOkFields, Bool.and_eq_true] at hdo
    simp only [List.all_cons, Bool.and_eq_true] at hbo
    simp only [fillFieldsWith] at h
    -- the cell `x` this field contributes, written (when present) as `b1`, then the rest
    have step : ∀ (x : Option Val) {rg1 : RG}, fillFieldsWith fl gx params fs (i + 1) (acc ++ [x]) rg1 = .ok (out, rg') →
        ∀ p na, fieldPresent f acc params = some p → natArgVals acc params f.natArgs = some na →
        (p = true → ∃ v b1, x = some v ∧ writeTL1 d (m + 1) f.ty f.bare na v = .ok b1) →
        ∃ tail, out = acc ++ tail ∧ ∃ bs, writeFieldsWith (writeTL1 d (m + 1)) params out (f :: fs) tail = .ok bs := by
      intro x rg1 h p na hp hna hx
      obtain ⟨tail, e2, b2, hb2⟩ := ih _ _ _ _ _ hS' hdo.2 hbo.2 h
      rw [List.append_assoc] at e2
      refine ⟨x :: tail, e2, ?_⟩
      simp only [writeFieldsWith, fieldEval_of_prefix hp hna e2]
      cases p with
      | false => exact ⟨b2, hb2⟩
      | true =>
        obtain ⟨v, b1, rfl, hb1⟩ := hx rfl
        simp only [hb1, hb2]
        exact ⟨_, rfl⟩
    cases hp : fieldPresent f acc params with
    | none => simp [hp] at h
    | some p =>
      cases hna : natArgVals acc params f.natArgs with
      | none => cases p <;> simp [hp, hna] at h
      | some na =>
        cases p with
        | false =>
          simp only [hp, hna] at h
          exact step none h false na hp hna (fun e => by cases e)
        | true =>
          simp only [hp, hna] at h
          split at h
          · rename_i cb
            obtain ⟨b1, hb1⟩ := writeTL1_true (by simpa [cb] using hbo.1 : d.isTrueTy f.ty = true) m f.bare na
            exact step _ h true na hp hna fun _ => ⟨_, b1, rfl, hb1⟩
          · split at h
            · cases h
            · rename_i v rg2 hr
              obtain ⟨b1, hb1⟩ := fillValue_writable hW hdo.1 (hS f (List.mem_cons_self ..)) hr f.bare
              exact step _ h true na hp hna fun _ => ⟨v, b1, rfl, hb1⟩

theorem fillElems_spec {S : Nat → Bool} {fl : Fl} {wr : Wr} (hW : WrOk S fl wr) (f : Field) (hS : S f.ty = true) (na : List Nat)
    (n : Nat) (rg : RG) (vs : List Val) (rg' : RG) (h : fillElemsWith fl f na n rg = .ok (vs, rg')) :
    vs.length = n ∧ ∀ v ∈ vs, ∃ b, wr f.ty f.bare na v = .ok b := by
  fun_induction fillElemsWith fl f na n rg generalizing vs rg' with
  | case1 => cases h; exact ⟨rfl, nofun⟩
  | case2 => cases h
  | case3 => cases h
  | case4 n rg v rg1 hr vs' rg2 hr2 ih =>
    cases h
    obtain ⟨hl, hall⟩ := ih _ _ hr2
    refine ⟨by simp [hl], fun w hw => ?_⟩
    rcases List.mem_cons.mp hw with rfl | hw
    · exact hW _ _ _ _ _ hS hr f.bare
    · exact hall w hw

theorem fillTL1_writable (d : Desc) (gi : GenInfo) (S : Nat → Bool) (hcl : d.closed S = true)
    (hok : d.allOnI S (Inst.fillOk d gi) = true) :
    ∀ fuel, WrOk S (fillTL1 d gi fuel) (writeTL1 d (fuel + 1)) := by
  intro fuel
  induction fuel with
  | zero => intro ty na rg v rg' _ h; cases h
  | succ fuel ih =>
    intro ty params rg v rg' hSty h bare
    -- a vector or dictionary: fewer than `limitValue` elements, each written by the induction hypothesis
    have hsized : ∀ (f : Field) (na : List Nat) (es : List Val),
        (∀ v ∈ es, ∃ b, writeTL1 d (fuel + 1) f.ty f.bare na v = .ok b) → es.length ≤ (randomSize rg.inc).1 →
        ∃ w, (if es.length ≥ 2 ^ 32 then (.error .shape : Except CErr Bytes) else
          (writeElemsWith (writeTL1 d (fuel + 1)) f na es).map (fun b => u32le es.length ++ b)) = .ok w := by
      intro f na es hall hle
      obtain ⟨w, hw⟩ := (writeElems_ok_iff _ f na es).mpr hall
      have := limitVal_lt (randomUint rg.inc).1
      rw [if_neg (by simp only [randomSize] at hle; omega), hw]
      exact ⟨_, rfl⟩
    unfold fillTL1 at h
    cases hg : d.get? ty with
    | none => simp only [hg] at h; cases h
    | some inst =>
      simp only [hg] at h
      have hrefs := Desc.closed_get hcl hg hSty
      have hio := Desc.allOnI_get hok hg hSty
      cases inst with
      | prim k =>
        simp only at h
        obtain rfl : (fillPrim k rg).1 = v := by injection h with h; rw [h]
        obtain ⟨bs, hbs⟩ := fillPrim_writable (k := k) (fun e => by subst e; simp [Inst.fillOk] at hio) rg
        exact ⟨bs, (writeTL1_prim hg _).trans hbs⟩
      | struct s =>
        simp only at h
        split at h
        · cases h
        split at h
        · cases h
        rename_i fs r hr
        cases h
        simp only [Inst.fillOk, Bool.and_eq_true] at hio
        obtain ⟨tail, e1, bs, hbs⟩ := fillFields_writable ih _ params _ _ _ _ _ _
          (fun f hf => hrefs _ (List.mem_map_of_mem hf)) hio.1 hio.2 hr
        rw [← List.nil_append tail, ← e1] at hbs
        rw [writeTL1_struct hg, hbs]
        exact ⟨_, rfl⟩
      | union u =>
        simp only at h
        split at h
        · rename_i vi nm na hv hna
          split at h
          · cases h
          rename_i x r hr
          cases h
          rw [writeTL1_union hg hv hna]
          exact ih _ _ _ _ _ (hrefs _ (List.mem_map_of_mem (f := (·.1)) (List.mem_of_getElem? hv))) hr false
        · cases h
      | array a =>
        simp only at h
        have hSe : S a.elem.ty = true := hrefs _ (List.mem_singleton.mpr rfl)
        split at h
        · cases h
        rename_i na hna
        split at h
        · rename_i ct
          split at h
          · cases h
          rename_i n hn
          split at h
          · cases h
          rename_i vs r hr
          cases h
          obtain ⟨hl, hall⟩ := fillElems_spec ih a.elem hSe na _ _ _ _ hr
          rw [writeTL1_tuple hg ct hna hn, if_neg (· hl)]
          exact (writeElems_ok_iff _ a.elem na vs).mpr hall
        · rename_i ct
          split at h
          · cases h
          rename_i vs r hr
          cases h
          obtain ⟨hl, hall⟩ := fillElems_spec ih a.elem hSe na _ _ _ _ hr
          rw [writeTL1_vector hg (by simpa using ct) hna]
          exact hsized a.elem na vs hall (Nat.le_of_eq hl)
      | dict a =>
        simp only at h
        split at h
        · rename_i na k hna hk
          split at h
          · cases h
          rename_i vs r hr
          cases h
          obtain ⟨hl, hall⟩ := fillElems_spec ih a.elem (hrefs _ (List.mem_singleton.mpr rfl)) na _ _ _ _ hr
          rw [writeTL1_dict hg hna]
          exact hsized a.elem na _ (fun v hv => hall v (mem_dictNormalize hv)) (hl ▸ dictNormalize_length_le k vs)
        · cases h

end TLVerif.Codec
