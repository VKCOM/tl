import TLVerif.Codec.TL2RoundTrip
/-!
What C13 needs of the TL2 reader beyond the round trip: non-minimal encodings and schema evolution, one lemma per rule
(huge-form sizes, oversize rejection, explicit zero mask bytes / missing trailing fields, explicitly written zero
values).  Unknown trailing fields are `fields_roundtrip_append` / `body_roundtrip_ext` in `TL2RoundTrip.lean`.
-/
namespace TLVerif.Codec
open TLVerif.Prim TLVerif.Facts.Prim

theorem sliceBody_huge (body rest : Bytes) (h : body.length < 2 ^ 63) :
    sliceBody (255 :: (le64 body.length ++ (body ++ rest))) = sliceBody (tl2WriteSize body.length ++ (body ++ rest)) := by
  rw [sliceBody_obj body rest h]
  unfold sliceBody
  rw [parseSize_huge _ _ h]
  simp

theorem sliceBody_oversize (bs r : Bytes) (sz : Nat) (hp : parseSize bs = .ok (sz, r)) (h : r.length < sz) :
    sliceBody bs = .error .rej := by
  unfold sliceBody; rw [hp]; simp [h]

/-- types whose TL2 encoding starts with a size: structs (not aliases), unions, arrays, dictionaries -/
def objectLike (d : Desc) (ty : Nat) : Bool :=
  match d.get? ty with
  | some (.struct s) => !((s.isAlias || s.isUnwrap) && !s.isUnionElement)
  | some (.union _) => true
  | some (.array _) => true
  | some (.dict _) => true
  | _ => false

/-- the readers of sized types look at their input only through `sliceBody`, and its errors are theirs -/
theorem readTL2_slice (d : Desc) (fuel ty : Nat) (c : Bool) (bs : Bytes) (ho : objectLike d ty = true) :
    (∀ bs', sliceBody bs = sliceBody bs' → readTL2 d (fuel + 1) ty c bs = readTL2 d (fuel + 1) ty c bs') ∧
    (∀ e, sliceBody bs = .error e → readTL2 d (fuel + 1) ty c bs = .error e) := by
  unfold objectLike at ho
  unfold readTL2
  cases hty : d.get? ty with
  | none => rw [hty] at ho; cases ho
  | some inst =>
    rw [hty] at ho
    cases inst with
    | prim k => cases ho
    | struct s =>
      simp only [Bool.not_eq_true'] at ho
      simp only [ho, Bool.false_eq_true, if_false, readStructObj]
      exact ⟨fun bs' h => by rw [h], fun e h => by rw [h]⟩
    | union u => exact ⟨fun bs' h => by rw [h], fun e h => by rw [h]⟩
    | array a => exact ⟨fun bs' h => by rw [h], fun e h => by rw [h]⟩
    | dict a => exact ⟨fun bs' h => by rw [h], fun e h => by rw [h]⟩

/-- Fields for which the body has nothing left (it ended early, i.e. an older writer did not know them) — or has only
explicit zero mask bytes left — read as absent / zero: `n = 0` is the truncated body, `n > 0` the padded one. -/
theorem fields_missing_tail (rd : Rd2) (skip : Nat → Bool → Bytes → Except CErr Bytes) (z : Nat → Val) (isTrue : Nat → Bool) :
    ∀ (gs : List Field), (∀ g ∈ gs, g.isBit = true → (fieldOptional g || g.omitted) = true) →
      ∀ (i : Nat) (block : UInt8) (n : Nat), BlockAgree i block 0 →
        readFields2With rd skip z isTrue i block gs (List.replicate n 0) = .ok (zeroFieldsWith z gs) := by
  intro gs
  induction gs with
  | nil => intro _ i block n _; rfl
  | cons g gs ih =>
    intro hwf i block n hA
    have hnb : ∃ block1 n', nextBlock i block (List.replicate n 0) = (block1, List.replicate n' 0) ∧
        BlockAgree (i + 1) block1 0 ∧ testBit block1.toNat ((i + 1) % 8) = false := by
      have hz : ∀ k, testBit (0 : UInt8).toNat k = testBit 0 k := fun _ => rfl
      have hz0 : ∀ k, testBit 0 k = false := by intro k; simp [testBit]
      unfold nextBlock
      by_cases hb : ((i + 1) % 8 == 0) = true
      · rw [if_pos hb]
        cases n with
        | zero => exact ⟨0, 0, rfl, fun _ k _ _ => hz k, hz0 _⟩
        | succ n' => exact ⟨0, n', by rw [List.replicate_succ], fun _ k _ _ => hz k, hz0 _⟩
      · rw [if_neg hb]
        have hb' : (i + 1) % 8 ≠ 0 := by simpa using hb
        refine ⟨block, n, rfl, fun hne k h1 h2 => hA hb' k (Nat.le_of_succ_le (Nat.le_trans (Nat.le_of_eq (succ_mod8 hne).symm) h1)) h2, ?_⟩
        rw [hA hb' _ (Nat.le_refl _) (Nat.mod_lt _ (by decide)), hz0]
    obtain ⟨block1, n', hcur, hA', hbit⟩ := hnb
    simp only [readFields2With]
    rw [hcur]
    simp only []
    rw [hbit, readField_absent g (hwf g (List.mem_cons_self ..))]
    simp only []
    rw [ih (fun g' hg' => hwf g' (List.mem_cons_of_mem _ hg')) (i + 1) block1 n' hA']
    rfl

/-- a zero primitive that is written out explicitly reads as the zero value — the same value the reader produces when
the field is left out -/
theorem explicit_zero_prim (k : PrimK) (hk : k ≠ .bit) (c : Bool) (rest : Bytes) :
    ∃ b, primTL2 k (zeroPrim k) = .ok b ∧ readPrim2 k c (b ++ rest) = .ok (zeroPrim k, rest) := by
  cases k <;> first | exact absurd rfl hk | exact ⟨_, rfl, rfl⟩

end TLVerif.Codec
