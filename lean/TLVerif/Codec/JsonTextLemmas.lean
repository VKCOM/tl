import TLVerif.Codec.JsonText
/-!
RFC 8259 grammar as inductive predicates over `List Char`, and the proof that `printJson` of a tree whose number
tokens are number tokens is a JSON text; number tokens produced by the writers (`natText`, `intText`, `floatText`)
are shown to be in the grammar. String escaping is a hypothesis (`EscOK`); it is not proved here of the model of `JSONWriteString` (`Jsonp/Writer.lean`, C34).
-/
namespace TLVerif.Codec
open TLVerif.Prim

def AllDigits (cs : List Char) : Prop := ∀ c ∈ cs, isDigit c = true

/-- `int = zero / ( digit1-9 *DIGIT )` -/
inductive IsIntPart : List Char → Prop
  | zero : IsIntPart ['0']
  | nz (c : Char) (cs : List Char) : isDigit c = true → c ≠ '0' → AllDigits cs → IsIntPart (c :: cs)

/-- `[ frac ]`, `frac = decimal-point 1*DIGIT` -/
inductive IsFrac : List Char → Prop
  | none : IsFrac []
  | some (cs : List Char) : cs ≠ [] → AllDigits cs → IsFrac ('.' :: cs)

/-- `[ exp ]`, `exp = e [ minus / plus ] 1*DIGIT` -/
inductive IsExp : List Char → Prop
  | none : IsExp []
  | some (e : Char) (sign cs : List Char) : (e = 'e' ∨ e = 'E') → (sign = [] ∨ sign = ['+'] ∨ sign = ['-']) →
      cs ≠ [] → AllDigits cs → IsExp (e :: (sign ++ cs))

/-- `number = [ minus ] int [ frac ] [ exp ]` -/
inductive IsNumber : List Char → Prop
  | mk (minus ip fr ex : List Char) : (minus = [] ∨ minus = ['-']) → IsIntPart ip → IsFrac fr → IsExp ex →
      IsNumber (minus ++ (ip ++ (fr ++ ex)))

def isHexC (c : Char) : Bool := isDigit c || ('a' ≤ c && c ≤ 'f') || ('A' ≤ c && c ≤ 'F')

/-- `*char` between the quotation marks -/
inductive IsStrBody : List Char → Prop
  | nil : IsStrBody []
  | plain (c : Char) (r : List Char) : 0x20 ≤ c.toNat → c ≠ '"' → c ≠ '\\' → IsStrBody r → IsStrBody (c :: r)
  | esc (c : Char) (r : List Char) : c ∈ ['"', '\\', '/', 'b', 'f', 'n', 'r', 't'] → IsStrBody r → IsStrBody ('\\' :: c :: r)
  | uni (a b c d : Char) (r : List Char) : isHexC a = true → isHexC b = true → isHexC c = true → isHexC d = true →
      IsStrBody r → IsStrBody ('\\' :: 'u' :: a :: b :: c :: d :: r)

def IsWs (cs : List Char) : Prop := ∀ c ∈ cs, c = ' ' ∨ c = '\t' ∨ c = '\n' ∨ c = '\r'

mutual
  /-- `value` -/
  inductive IsValue : List Char → Prop
    | null : IsValue ['n', 'u', 'l', 'l']
    | tru : IsValue ['t', 'r', 'u', 'e']
    | fls : IsValue ['f', 'a', 'l', 's', 'e']
    | num (t : List Char) : IsNumber t → IsValue t
    | str (b : List Char) : IsStrBody b → IsValue ('"' :: (b ++ ['"']))
    | arrEmpty (w : List Char) : IsWs w → IsValue ('[' :: (w ++ [']']))
    | arr (es : List Char) : IsElems es → IsValue ('[' :: (es ++ [']']))
    | objEmpty (w : List Char) : IsWs w → IsValue ('{' :: (w ++ ['}']))
    | obj (ms : List Char) : IsMembers ms → IsValue ('{' :: (ms ++ ['}']))
  /-- `ws value ws` -/
  inductive IsElement : List Char → Prop
    | mk (w1 v w2 : List Char) : IsWs w1 → IsValue v → IsWs w2 → IsElement (w1 ++ (v ++ w2))
  /-- `element *( "," element )` -/
  inductive IsElems : List Char → Prop
    | one (e : List Char) : IsElement e → IsElems e
    | cons (e r : List Char) : IsElement e → IsElems r → IsElems (e ++ ',' :: r)
  /-- `ws string ws ":" element` -/
  inductive IsMember : List Char → Prop
    | mk (w1 k w2 e : List Char) : IsWs w1 → IsStrBody k → IsWs w2 → IsElement e →
        IsMember (w1 ++ ('"' :: (k ++ '"' :: (w2 ++ ':' :: e))))
  inductive IsMembers : List Char → Prop
    | one (m : List Char) : IsMember m → IsMembers m
    | cons (m r : List Char) : IsMember m → IsMembers r → IsMembers (m ++ ',' :: r)
end

/-- `JSON-text = ws value ws` -/
def IsJsonText (cs : List Char) : Prop := IsElement cs

theorem isWs_nil : IsWs [] := by intro c h; cases h

theorem IsElement.ofValue {v : List Char} (h : IsValue v) : IsElement v := by
  have := IsElement.mk [] v [] isWs_nil h isWs_nil
  simpa using this

theorem isDigit_digitChar (d : Nat) : isDigit (digitChar d) = true := by
  unfold digitChar
  split <;> decide

theorem digitChar_ne_zero (d : Nat) (h : d % 10 ≠ 0) : digitChar d ≠ '0' := by
  unfold digitChar
  split <;> first | contradiction | decide

theorem allDigits_map (ds : List Nat) : AllDigits (ds.map digitChar) :=
  List.forall_mem_map.mpr fun d _ => isDigit_digitChar d

theorem dropZeros_head (ds : List Nat) (d : Nat) (r : List Nat) : dropZeros ds = d :: r → d % 10 ≠ 0 := by
  fun_induction dropZeros ds
  all_goals intro h
  · cases h
  · exact ‹_ → d % 10 ≠ 0› h
  · cases h
    simpa using ‹¬(d % 10 == 0) = true›

theorem intPartText_isIntPart (ds : List Nat) : IsIntPart (intPartText ds) := by
  rw [intPartText]
  cases hds : dropZeros ds with
  | nil => exact .zero
  | cons d r => exact .nz _ _ (isDigit_digitChar d) (digitChar_ne_zero d (dropZeros_head ds d r hds)) (allDigits_map r)

theorem isNumber_of_shape (neg : Bool) (ip fr : List Char) (hi : IsIntPart ip) (hf : IsFrac fr) :
    IsNumber ((if neg then ['-'] else []) ++ (ip ++ fr)) := by
  have := IsNumber.mk (if neg then ['-'] else []) ip fr [] (by cases neg <;> simp) hi hf .none
  simpa using this

theorem isNumber_int {ip : List Char} (h : IsIntPart ip) : IsNumber ip := by
  simpa using isNumber_of_shape false ip [] h .none

theorem isNumber_negInt {ip : List Char} (h : IsIntPart ip) : IsNumber ('-' :: ip) := by
  simpa using isNumber_of_shape true ip [] h .none

theorem natText_isNumber (n : Nat) : IsNumber (natText n) := isNumber_int (intPartText_isIntPart _)

theorem intText_isNumber (bits n : Nat) : IsNumber (intText bits n) := by
  unfold intText
  split
  · exact natText_isNumber _
  · exact isNumber_negInt (intPartText_isIntPart _)

theorem allDigits_append {a b : List Char} (ha : AllDigits a) (hb : AllDigits b) : AllDigits (a ++ b) :=
  List.forall_mem_append.mpr ⟨ha, hb⟩

theorem allDigits_replicate_zero (n : Nat) : AllDigits (List.replicate n '0') :=
  List.forall_mem_replicate.mpr (.inr rfl)

theorem layoutF_shape (ds : List Nat) (dp : Int) :
    ∃ ip fr, layoutF ds dp = ip ++ fr ∧ IsIntPart ip ∧ IsFrac fr := by
  fun_cases layoutF ds dp
  · exact ⟨['0'], [], rfl, .zero, .none⟩
  · refine ⟨['0'], '.' :: (List.replicate dp.natAbs '0' ++ ds.map digitChar), rfl, .zero, .some _ ?_ ?_⟩
    · intro h
      exact ‹¬ds.isEmpty = true› (by simpa using (List.append_eq_nil_iff.mp h).2)
    · exact allDigits_append (allDigits_replicate_zero _) (allDigits_map _)
  · exact ⟨_, [], (List.append_nil _).symm, intPartText_isIntPart _, .none⟩
  · refine ⟨_, _, rfl, intPartText_isIntPart _, .some _ ?_ (allDigits_map _)⟩
    intro h
    have h2 : (ds.drop dp.toNat).length = 0 := by rw [List.map_eq_nil_iff.mp h]; rfl
    rw [List.length_drop] at h2
    omega

theorem floatText_isNumber (f : FloatFmt) (bits : Nat) : IsNumber (floatText f bits) := by
  fun_cases floatText f bits
  next neg _ _ _ ds dp _ =>
    obtain ⟨ip, fr, h, hi, hf⟩ := layoutF_shape ds dp
    rw [h]
    exact isNumber_of_shape neg ip fr hi hf
  · exact isNumber_int .zero

mutual
  def Json.Wf : Json → Prop
    | .num t => IsNumber t
    | .arr es => WfList es
    | .obj kvs => WfMembers kvs
    | _ => True
  def WfList : List Json → Prop
    | [] => True
    | j :: js => j.Wf ∧ WfList js
  def WfMembers : List (Bytes × Json) → Prop
    | [] => True
    | (_, j) :: r => j.Wf ∧ WfMembers r
end

structure EscOK (esc : Bytes → List Char) : Prop where
  body : ∀ b, IsStrBody (esc b)

theorem printMember_isMember {esc : Bytes → List Char} (he : EscOK esc) (k : Bytes) (pj : List Char) (hv : IsValue pj) :
    IsMember ('"' :: (esc k ++ '"' :: ':' :: pj)) := by
  have := IsMember.mk [] (esc k) [] pj isWs_nil (he.body k) isWs_nil (IsElement.ofValue hv)
  simpa using this

mutual
  theorem printJson_valid {esc : Bytes → List Char} (he : EscOK esc) : ∀ j : Json, j.Wf → IsValue (printJson esc j)
    | .null, _ => by simp [printJson]; exact .null
    | .bool true, _ => by simp [printJson]; exact .tru
    | .bool false, _ => by simp [printJson]; exact .fls
    | .num t, h => by
      simp only [printJson]
      exact .num t h
    | .str b, _ => by
      simp only [printJson]
      exact .str _ (he.body b)
    | .arr es, h => by
      simp only [printJson]
      cases es with
      | nil => simp only [printElems]; exact .arrEmpty [] isWs_nil
      | cons e r => exact .arr _ (printElems_valid he (e :: r) (by simp) h)
    | .obj ms, h => by
      simp only [printJson]
      cases ms with
      | nil => simp only [printMembers]; exact .objEmpty [] isWs_nil
      | cons m r => exact .obj _ (printMembers_valid he (m :: r) (by simp) h)
  theorem printElems_valid {esc : Bytes → List Char} (he : EscOK esc) :
      ∀ (es : List Json), es ≠ [] → WfList es → IsElems (printElems esc es)
    | [], hne, _ => absurd rfl hne
    | [e], _, h => by
      simp only [printElems]
      exact .one _ (IsElement.ofValue (printJson_valid he e h.1))
    | e :: e2 :: es, _, h => by
      simp only [printElems]
      exact .cons _ _ (IsElement.ofValue (printJson_valid he e h.1)) (printElems_valid he (e2 :: es) (by simp) h.2)
  theorem printMembers_valid {esc : Bytes → List Char} (he : EscOK esc) :
      ∀ (ms : List (Bytes × Json)), ms ≠ [] → WfMembers ms → IsMembers (printMembers esc ms)
    | [], hne, _ => absurd rfl hne
    | [(k, j)], _, h => by
      simp only [printMembers]
      exact .one _ (printMember_isMember he k _ (printJson_valid he j h.1))
    | (k, j) :: m2 :: ms, _, h => by
      simp only [printMembers]
      have hm := printMember_isMember he k _ (printJson_valid he j h.1)
      have := IsMembers.cons _ _ hm (printMembers_valid he (m2 :: ms) (by simp) h.2)
      simpa using this
end

end TLVerif.Codec
