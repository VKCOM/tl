import TLVerif.Codec.TL2Lemmas
import TLVerif.Codec.TL1Lemmas
/-!
On the covered values the writer succeeds and the reader gives back what it wrote
(`good_roundtrip`; its two halves are `good_enc_ok` and `tl2_roundtrip_gen`).  The struct body is treated once for
arbitrary field codecs that round trip (`FieldCodecs`), then every kind of type has its own lemma (`prim_inverted`,
`struct_inverted`, `union_inverted`, `array_inverted`, `dict_inverted`) taking the statement for less fuel as hypothesis.

`Good d fuel ty zie v` describes the values the theorem covers (explicit, syntax-directed):
numbers in range, struct values shaped like the type with absent
optional fields `none`, presence-only (`bit`) fields holding their canonical value, dictionaries normalised,
array lengths below 2^63, every encoded object shorter than 2^63 bytes (Go `int`), **no `bit` reached through an
alias, a `Maybe` or an array** (through an alias or a `Maybe` the generated code itself does not round trip, see
`Props/C03.lean`; arrays of `bit` the model would round-trip, `Good` leaves them out all the same), no field whose type
is an empty alias or union element, no optional field of an empty struct type, and no conditional field without a TL2 bit
(`FieldSpec`).
-/
namespace TLVerif.Codec
open TLVerif.Prim

theorem fieldBit_lt (j : Nat) (p : Bool) : (if p then 2 ^ j else 0) < 2 ^ (j + 1) := by
  have : 0 < 2 ^ j := Nat.pow_pos (by decide)
  cases p <;> simp [Nat.pow_succ] <;> omega

theorem testBit_low_add (j q : Nat) (p : Bool) :
    testBit ((if p then 2 ^ j else 0) + 2 ^ (j + 1) * q) j = p := by
  rw [testBit_eq_nat, Nat.add_comm, Nat.testBit_two_pow_mul_add _ (fieldBit_lt j p), if_pos (Nat.lt_succ_self j)]
  cases p
  · exact Nat.zero_testBit j
  · exact Nat.testBit_two_pow_self

theorem testBit_high_add (j e q : Nat) (p : Bool) :
    testBit ((if p then 2 ^ j else 0) + 2 ^ (j + 1) * q) (j + 1 + e) = testBit (2 ^ (j + 1) * q) (j + 1 + e) := by
  rw [testBit_eq_nat, testBit_eq_nat, Nat.add_comm, Nat.testBit_two_pow_mul_add _ (fieldBit_lt j p), if_neg (by omega),
    Nat.testBit_two_pow_mul]
  simp

theorem testBit_byteOf (m k : Nat) (hk : k < 8) : testBit (byteOf m).toNat k = testBit m k := by
  rw [testBit_eq_nat, testBit_eq_nat, byteOf_toNat, show 256 = 2 ^ 8 from rfl, Nat.testBit_mod_two_pow, decide_eq_true hk]
  rfl

theorem succ_mod8 {j : Nat} (h : (j + 1) % 8 ≠ 0) : (j + 1) % 8 = j % 8 + 1 := by omega

/-- Field `i` has bit `(i + 1) % 8` of its mask byte (bit 0 of the first byte says that a variant index follows).  So what
the fields from `i` on add to the open mask byte lies above bit `i % 8`; when field `i` opens a new byte that is nothing. -/
theorem bodyLoop_div (rs : List (Option Bytes)) (i : Nat) : ∃ q, (bodyLoop i rs).1 = 2 ^ (i % 8 + 1) * q := by
  fun_induction bodyLoop i rs with
  | case1 => exact ⟨0, rfl⟩
  | case2 => exact ⟨0, rfl⟩
  | case3 i r rs m tail hm m' t' hb ih =>
    simp only [hm] at ih
    obtain ⟨q, rfl⟩ := ih
    show ∃ q', fieldBit i r.isSome + _ = 2 ^ (i % 8 + 1) * q'
    rw [fieldBit, succ_mod8 (by simpa using hb), Nat.pow_succ (m := i % 8 + 1)]
    refine ⟨(if r.isSome then 1 else 0) + 2 * q, ?_⟩
    cases r.isSome <;> simp [Nat.mul_add, Nat.mul_assoc]

/-- what the struct-level lemmas need of the codecs of the field types (the induction hypothesis of the main theorem);
the conclusion of `rt` is `ReadsBack (rd ty c) x (z ty) r` written out, and `ReadsBack.present` is applied to it as it stands -/
structure FieldCodecs (good : Nat → Bool → Val → Prop) (enc : Enc) (rd : Rd2) (z : Nat → Val) : Prop where
  rt : ∀ ty zie c x r, good ty zie x → enc ty zie x = .ok r →
        (∀ b, r = some b → b ≠ [] ∧ ∀ rest, rd ty c (b ++ rest) = .ok (x, rest)) ∧ (r = none → x = z ty)
  present : ∀ ty x r, enc ty false x = .ok r → r.isSome = true

/-- a covered field with a covered value: a conditional field has a TL2 bit, a `true`-typed field is a plain one (so a field
whose type is an empty alias or union element is not covered), and the value fits the field's form -/
def FieldSpec (good : Nat → Bool → Val → Prop) (z : Nat → Val) (plainTrue isTrue : Nat → Bool) (f : Field) (v : Option Val) : Prop :=
  (f.mask.isSome = true → f.tl2bit.isSome = true) ∧ (isTrue f.ty = true → plainTrue f.ty = true) ∧
  (if f.omitted then v = none
   else if f.isBit then f.tl2bit.isSome = true ∧ (v = none ∨ v = some (z f.ty))
   else if plainTrue f.ty then f.tl2bit.isSome = false ∧ v = some (z f.ty) ∧ good f.ty true (z f.ty)
   else if f.tl2bit.isSome then (match v with | none => True | some x => good f.ty false x)
   else (match v with | some x => good f.ty true x | none => False))

def GoodFields (good : Nat → Bool → Val → Prop) (z : Nat → Val) (plainTrue isTrue : Nat → Bool) :
    List Field → List (Option Val) → Prop
  | [], [] => True
  | f :: fs, v :: vs => FieldSpec good z plainTrue isTrue f v ∧ GoodFields good z plainTrue isTrue fs vs
  | _, _ => False

section body
variable {good : Nat → Bool → Val → Prop} {enc : Enc} {rd : Rd2} {z : Nat → Val}
variable {skip : Nat → Bool → Bytes → Except CErr Bytes} {plainTrue isTrue : Nat → Bool}

/-- The five kinds of field `FieldSpec` allows: omitted; presence-only (`bit`); of an empty struct type without presence
bit (never written, always the zero value); optional; plain. -/
theorem FieldSpec.cases {f : Field} {v : Option Val} (hs : FieldSpec good z plainTrue isTrue f v) :
    (f.omitted = true ∧ v = none) ∨
    (f.omitted = false ∧ f.isBit = true ∧ f.tl2bit.isSome = true ∧ (v = none ∨ v = some (z f.ty))) ∨
    (f.omitted = false ∧ f.isBit = false ∧ plainTrue f.ty = true ∧ f.tl2bit.isSome = false ∧ f.mask.isSome = false ∧
      v = some (z f.ty) ∧ good f.ty true (z f.ty)) ∨
    (f.omitted = false ∧ f.isBit = false ∧ isTrue f.ty = false ∧ f.tl2bit.isSome = true ∧
      ∀ x, v = some x → good f.ty false x) ∨
    (f.omitted = false ∧ f.isBit = false ∧ isTrue f.ty = false ∧ f.tl2bit.isSome = false ∧ f.mask.isSome = false ∧
      ∃ x, v = some x ∧ good f.ty true x) := by
  obtain ⟨hmask, htrue, hs⟩ := hs
  have hm : f.tl2bit.isSome = false → f.mask.isSome = false := fun h =>
    Bool.eq_false_iff.2 fun hh => by rw [hmask hh] at h; cases h
  have hnt : plainTrue f.ty = false → isTrue f.ty = false := fun h =>
    Bool.eq_false_iff.2 fun hh => by rw [htrue hh] at h; cases h
  cases ho : f.omitted <;> simp only [ho, Bool.false_eq_true, if_false, if_true] at hs
  · cases hb : f.isBit <;> simp only [hb, Bool.false_eq_true, if_false, if_true] at hs
    · cases hp : plainTrue f.ty <;> simp only [hp, Bool.false_eq_true, if_false, if_true] at hs
      · cases htb : f.tl2bit.isSome <;> simp only [htb, Bool.false_eq_true, if_false, if_true] at hs
        · refine .inr (.inr (.inr (.inr ⟨rfl, rfl, hnt hp, rfl, hm htb, ?_⟩)))
          cases v with
          | none => exact hs.elim
          | some x => exact ⟨x, rfl, hs⟩
        · refine .inr (.inr (.inr (.inl ⟨rfl, rfl, hnt hp, rfl, fun x hx => ?_⟩)))
          subst hx; exact hs
      · exact .inr (.inr (.inl ⟨rfl, rfl, rfl, hs.1, hm hs.1, hs.2⟩))
    · exact .inr (.inl ⟨rfl, rfl, hs⟩)
  · exact .inl ⟨rfl, hs⟩

theorem readField_absent (f : Field) (hb : f.isBit = true → (fieldOptional f || f.omitted) = true) (cur : Bytes) :
    readField rd skip z isTrue f false cur = .ok (if fieldOptional f || f.omitted then none else some (z f.ty), cur) := by
  unfold readField
  cases hbit : f.isBit
  · cases ho : f.omitted <;> cases fieldOptional f <;> cases isTrue f.ty <;> rfl
  · rw [hb hbit]; rfl

/-- the reader's current mask byte agrees with the mask bits the writer accumulated from field `i` on -/
def BlockAgree (i : Nat) (block : UInt8) (m : Nat) : Prop :=
  (i + 1) % 8 ≠ 0 → ∀ k, (i + 1) % 8 ≤ k → k < 8 → testBit block.toNat k = testBit m k

theorem nextBlock_step (i : Nat) (block : UInt8) (r : Option Bytes) (rs : List (Option Bytes))
    (hA : BlockAgree i block (bodyLoop i (r :: rs)).1) :
    ∃ block1, nextBlock i block (bodyLoop i (r :: rs)).2 = (block1, optBytes r ++ (bodyLoop (i + 1) rs).2) ∧
      testBit block1.toNat ((i + 1) % 8) = r.isSome ∧ BlockAgree (i + 1) block1 (bodyLoop (i + 1) rs).1 := by
  have hnb : ∃ block1, nextBlock i block (bodyLoop i (r :: rs)).2 = (block1, optBytes r ++ (bodyLoop (i + 1) rs).2) ∧
      ∀ k, (i + 1) % 8 ≤ k → k < 8 →
        testBit block1.toNat k = testBit (fieldBit i r.isSome + (bodyLoop (i + 1) rs).1) k := by
    unfold nextBlock
    rw [bodyLoop_cons] at hA ⊢
    by_cases hb : ((i + 1) % 8 == 0) = true
    · rw [if_pos hb, if_pos hb]
      by_cases hc : (fieldBit i r.isSome + (bodyLoop (i + 1) rs).1 == 0 &&
          (optBytes r ++ (bodyLoop (i + 1) rs).2).isEmpty) = true
      · rw [if_pos hc]
        simp only [Bool.and_eq_true, beq_iff_eq, List.isEmpty_iff] at hc
        exact ⟨0, by simp only [hc.2], fun k _ _ => by rw [hc.1]; rfl⟩
      · rw [if_neg hc]
        exact ⟨_, rfl, fun k _ hk => testBit_byteOf _ k hk⟩
    · rw [if_neg hb, if_neg hb]
      rw [if_neg hb] at hA
      exact ⟨block, rfl, hA (by simpa using hb)⟩
  obtain ⟨block1, hnb, hbits⟩ := hnb
  obtain ⟨q, hq⟩ := bodyLoop_div rs (i + 1)
  simp only [hq, fieldBit] at hbits
  refine ⟨block1, hnb, ?_, fun hne k h1 h2 => ?_⟩
  · rw [hbits _ (Nat.le_refl _) (Nat.mod_lt _ (by decide))]
    exact testBit_low_add _ _ _
  · rw [succ_mod8 hne] at h1
    obtain ⟨e, rfl⟩ := Nat.exists_eq_add_of_le h1
    rw [hbits _ (Nat.le_trans (Nat.le_succ _) (Nat.le_add_right _ e)) h2, hq]
    exact testBit_high_add _ _ _ _

theorem readHead_body (ui : Nat) (hui : ui < 2 ^ 63) (rs : List (Option Bytes)) (hne : bodyTL2 ui rs ≠ []) :
    ∃ block, readHead (bodyTL2 ui rs) = .ok (block, ui, (bodyLoop 0 rs).2) ∧ (block.toNat % 2 == 1) = (ui != 0) ∧
      BlockAgree 0 block (bodyLoop 0 rs).1 := by
  obtain ⟨q, hq⟩ := bodyLoop_div rs 0
  have hq' : (bodyLoop 0 rs).1 = 2 * q := hq
  rw [bodyTL2_eq] at hne ⊢
  by_cases hu : (ui == 0) = true
  · have hu0 : ui = 0 := by simpa using hu
    rw [if_pos hu] at hne ⊢
    have hc : ¬ ((bodyLoop 0 rs).1 == 0 && (bodyLoop 0 rs).2.isEmpty) = true := fun hc => hne (if_pos hc)
    rw [if_neg hc]
    have hodd : ((byteOf (bodyLoop 0 rs).1).toNat % 2 == 1) = false := by
      rw [byteOf_toNat, hq', Nat.mod_mod_of_dvd _ (by decide), Nat.mul_mod_right]; rfl
    refine ⟨_, ?_, by rw [hodd, hu0]; rfl, fun _ k _ hk => testBit_byteOf _ k hk⟩
    simp only [readHead, readByte, hodd, hu0]
    rfl
  · rw [if_neg hu]
    have hodd : ((byteOf (1 + (bodyLoop 0 rs).1)).toNat % 2 == 1) = true := by
      rw [byteOf_toNat, hq', Nat.mod_mod_of_dvd _ (by decide), Nat.add_mul_mod_self_left]; rfl
    refine ⟨_, ?_, by rw [hodd]; simpa using hu, fun _ k h1 hk => ?_⟩
    · simp only [readHead, readByte, hodd, if_true, parseSize_write ui _ hui]
    · obtain ⟨e, rfl⟩ := Nat.exists_eq_add_of_le h1
      rw [testBit_byteOf _ _ hk, hq]
      exact testBit_high_add 0 e q true

/-- a body with a single field slot: the value of a `Maybe`, a function result -/
theorem readHead_single (ui : Nat) (hui : ui < 2 ^ 63) (r : Option Bytes) (hne : bodyTL2 ui [r] ≠ []) :
    ∃ block, readHead (bodyTL2 ui [r]) = .ok (block, ui, optBytes r) ∧ testBit block.toNat 1 = r.isSome := by
  obtain ⟨block, hh, _, hA⟩ := readHead_body ui hui [r] hne
  refine ⟨block, ?_, ?_⟩
  · rw [hh]; cases r <;> simp [bodyLoop, optBytes]
  · rw [hA (by decide) 1 (by decide) (by decide)]; cases r <;> simp [bodyLoop, fieldBit, testBit]

theorem body_empty (ui : Nat) (rs : List (Option Bytes)) (h : bodyTL2 ui rs = []) :
    ui = 0 ∧ rs.any Option.isSome = false := by
  rw [bodyTL2_eq] at h
  by_cases hu : (ui == 0) = true
  · rw [if_pos hu] at h
    refine ⟨by simpa using hu, ?_⟩
    rcases bodyLoop_used rs 0 with ⟨ha, _⟩ | ⟨_, hc, _⟩
    · exact ha
    · rw [hc] at h; cases h
  · rw [if_neg hu] at h; cases h

section codecs
variable (H : FieldCodecs good enc rd z)
  (HT : ∀ ty r, plainTrue ty = true → enc ty true (z ty) = .ok r → r = none)
  (Hpt : ∀ ty, plainTrue ty = true → isTrue ty = true)
include H HT Hpt

theorem field_roundtrip (f : Field) (v : Option Val) (r : Option Bytes)
    (hs : FieldSpec good z plainTrue isTrue f v) (he : encField enc f v = .ok r) (tail : Bytes) :
    readField rd skip z isTrue f r.isSome (optBytes r ++ tail) = .ok (v, tail) := by
  unfold encField at he
  unfold readField
  rcases hs.cases with ⟨ho, hv⟩ | ⟨ho, hb, htb, hv⟩ | ⟨ho, hb, hp, htb, hm, hv, _⟩ | ⟨ho, hb, hnt, htb, hv⟩ |
    ⟨ho, hb, hnt, htb, hm, x, hv, hx⟩
  · rw [if_pos ho] at he
    cases he; subst hv
    cases f.isBit <;> simp [ho, optBytes]
  · simp only [ho, htb, Bool.false_eq_true, if_false, if_true] at he
    rcases hv with hv | hv <;> subst hv
    · cases he; simp [hb, optBytes]
    · simp only [hb, if_true] at he; cases he; simp [hb, htb, optBytes]
  · subst hv
    simp only [ho, htb, Bool.false_eq_true, if_false] at he
    cases HT _ _ hp he
    simp [hb, ho, Hpt _ hp, optBytes, fieldOptional, htb, hm]
  · simp only [ho, htb, Bool.false_eq_true, if_false, if_true] at he
    cases v with
    | none => cases he; simp [hb, ho, hnt, optBytes, fieldOptional, htb]
    | some x =>
      simp only [hb, Bool.false_eq_true, if_false] at he
      have hps := H.present _ _ _ he
      have := (ReadsBack.present (H.rt _ _ f.mask.isNone _ _ (hv x rfl) he) hps tail).2
      simp [hb, ho, hnt, hps, this]
  · subst hv
    simp only [ho, htb, Bool.false_eq_true, if_false] at he
    obtain ⟨h1, h2⟩ := H.rt _ _ f.mask.isNone _ _ hx he
    cases r with
    | none => cases h2 rfl; simp [hb, ho, hnt, optBytes, fieldOptional, htb, hm]
    | some b => simp [hb, ho, hnt, optBytes, (h1 b rfl).2 tail]

/-- `ss` is what a newer writer appended to the body, `gs` the fields a newer reader knows in addition: the two field-loop
theorems of C13 are the instances `gs = []` and `ss = []`, the round trip is both.  The first conjunct is for the body that
comes out empty (left out under `optimizeEmpty`, or the byte `00`): the reader answers with the `Reset` values. -/
theorem fields_roundtrip_append :
    ∀ (fs : List Field) (vs : List (Option Val)) (rs : List (Option Bytes)),
      GoodFields good z plainTrue isTrue fs vs → encFieldsWith enc fs vs = .ok rs →
      (rs.any Option.isSome = false → vs = zeroFieldsWith z fs) ∧
      ∀ (skip : Nat → Bool → Bytes → Except CErr Bytes) (ss : List (Option Bytes)) (gs : List Field) (ws : List (Option Val)),
        (∀ (i : Nat) (block : UInt8), BlockAgree i block (bodyLoop i ss).1 →
          readFields2With rd skip z isTrue i block gs (bodyLoop i ss).2 = .ok ws) →
        ∀ (i : Nat) (block : UInt8), BlockAgree i block (bodyLoop i (rs ++ ss)).1 →
          readFields2With rd skip z isTrue i block (fs ++ gs) (bodyLoop i (rs ++ ss)).2 = .ok (vs ++ ws) := by
  intro fs vs
  fun_induction GoodFields good z plainTrue isTrue fs vs with
  | case1 => intro rs _ he; cases he; exact ⟨fun _ => rfl, fun _ _ _ _ base => base⟩
  | case2 f fs v vs ih =>
    intro rs hg he
    obtain ⟨r, rs', hf, hfs, rfl⟩ := encFieldsWith_cons he
    refine ⟨fun ha => ?_, fun skip ss gs ws base i block hA => ?_⟩
    · simp only [List.any_cons, Bool.or_eq_false_iff] at ha
      cases r with
      | some _ => cases ha.1
      | none =>
        -- told that the field is absent, the reader produces `v`, and it produces what `Reset` gives
        have hb : f.isBit = true → (fieldOptional f || f.omitted) = true := by
          intro hb
          rcases hg.1.cases with ⟨ho, _⟩ | ⟨_, _, htb, _⟩ | ⟨_, hb', _⟩ | ⟨_, hb', _⟩ | ⟨_, hb', _⟩
          · rw [ho, Bool.or_true]
          · simp [fieldOptional, htb]
          all_goals rw [hb] at hb'; cases hb'
        have h1 := field_roundtrip (skip := fun _ _ bs => .ok bs) H HT Hpt f v none hg.1 hf []
        rw [show (none : Option Bytes).isSome = false from rfl, readField_absent f hb] at h1
        cases h1
        rw [(ih rs' hg.2 hfs).1 ha.2]; rfl
    · obtain ⟨block1, hnb, hbit, hA'⟩ := nextBlock_step i block r (rs' ++ ss) hA
      simp only [List.cons_append, readFields2With]
      rw [hnb]
      simp only []
      rw [hbit, field_roundtrip H HT Hpt f v r hg.1 hf]
      simp only []
      rw [(ih rs' hg.2 hfs).2 skip ss gs ws base (i + 1) block1 hA']
  | case3 => exact fun _ => False.elim

/-- `all` is what a writer that knows more fields than `fs` emitted (`C13.struct_unknown_tail_skipped`); `all = rs` for the round trip -/
theorem body_roundtrip_ext (ui : Nat) (hui : ui < 2 ^ 63) (fs : List Field) (vs : List (Option Val)) (rs all : List (Option Bytes))
    (hg : GoodFields good z plainTrue isTrue fs vs) (he : encFieldsWith enc fs vs = .ok rs) (hp : rs <+: all)
    (hne : bodyTL2 ui all ≠ []) :
    ∃ block cur1, readHead (bodyTL2 ui all) = .ok (block, ui, cur1) ∧ (block.toNat % 2 == 1) = (ui != 0) ∧
      readFields2With rd skip z isTrue 0 block fs cur1 = .ok vs := by
  obtain ⟨ss, rfl⟩ := hp
  obtain ⟨block, hh, hodd, hA⟩ := readHead_body ui hui (rs ++ ss) hne
  have := (fields_roundtrip_append H HT Hpt fs vs rs hg he).2 skip ss [] [] (fun _ _ _ => rfl) 0 block hA
  rw [List.append_nil, List.append_nil] at this
  exact ⟨block, _, hh, hodd, this⟩

theorem struct_roundtrip (ui : Nat) (hui : ui < 2 ^ 63) (fs : List Field) (vs : List (Option Val)) (rs : List (Option Bytes)) (zie : Bool)
    (hg : GoodFields good z plainTrue isTrue fs vs) (he : encFieldsWith enc fs vs = .ok rs)
    (hlen : (optBytes (objTL2 zie (bodyTL2 ui rs))).length < 2 ^ 63) :
    ReadsBack (readStructObj rd skip z isTrue fs ui) vs (zeroFieldsWith z fs) (objTL2 zie (bodyTL2 ui rs)) := by
  have hz : bodyTL2 ui rs = [] → vs = zeroFieldsWith z fs := fun hb =>
    (fields_roundtrip_append H HT Hpt fs vs rs hg he).1 (body_empty ui rs hb).2
  refine readsBack_obj zie _ hlen hz fun bs rest hs => ?_
  unfold readStructObj
  rw [hs]
  by_cases hbe : bodyTL2 ui rs = []
  · simp only [hbe, List.isEmpty_nil, if_true, ← hz hbe]
  · obtain ⟨block, cur1, hh, _, hfs⟩ := body_roundtrip_ext (skip := skip) H HT Hpt ui hui fs vs rs rs hg he
      (List.prefix_refl rs) hbe
    simp [hbe, hh, hfs]

end codecs

end body

/-- every arm of `encTL2` either answers `.ok (some …)` as written, answers `objTL2 false _`, or forwards the call -/
theorem enc_false_some (d : Desc) : ∀ (fuel ty : Nat) (v : Val) (r : Option Bytes),
    encTL2 d fuel ty false v = .ok r → r.isSome = true := by
  intro fuel
  induction fuel with
  | zero => intro ty v r h; cases h
  | succ fuel ih =>
    intro ty v r h
    unfold encTL2 at h
    split at h
    · cases h
    · -- primitive: `encPrim` omits a value only under `zie`
      unfold encPrim at h
      split at h <;> cases h
      rfl
    · split at h
      · -- alias / unwrap: forwarded to field 0
        split at h
        · exact ih _ _ _ h
        · cases h
      · -- a struct proper: an object around the body
        split at h
        · split at h <;> cases h
          exact objTL2_false_some _
        · cases h
    · -- union
      split at h
      · split at h
        · split at h
          · -- `Maybe` holding a value: an object around the element
            split at h
            · split at h
              · split at h <;> cases h
                exact objTL2_false_some _
              · cases h
            · cases h
          · -- any other variant: forwarded
            exact ih _ _ _ h
        · cases h
      · cases h
    · -- array
      split at h
      · split at h
        · cases h    -- a tuple of the wrong length
        · split at h
          · cases h; rfl    -- empty: `some [0]`
          · dsimp only at h
            split at h <;> cases h    -- content fails, or `some (size ++ body)`
            rfl
      · cases h
    · -- dictionary
      split at h
      · split at h
        · cases h; rfl    -- empty: `some [0]`
        · split at h <;> cases h
          rfl
      · cases h

/-- primitive values covered by the round-trip theorem: numbers in range (floats are raw bit patterns, every pattern is
covered, `-0.0` and NaNs included); `bit` never occurs as a value of its own.  The flag `zie` (the value stands in
an empty-test position) does not restrict the value: `-0.0` is covered there too. -/
def goodPrim : PrimK → Bool → Val → Bool
  | .u32, _, .nat n => decide (n < 2 ^ 32)
  | .i32, _, .nat n => decide (n < 2 ^ 32)
  | .f32, _, .nat n => decide (n < 2 ^ 32)
  | .u64, _, .nat n => decide (n < 2 ^ 64)
  | .i64, _, .nat n => decide (n < 2 ^ 64)
  | .f64, _, .nat n => decide (n < 2 ^ 64)
  | .byte, _, .nat n => decide (n < 256)
  | .str, _, .str _ => true
  | .bool _ _, _, .bool _ => true
  | _, _, _ => false

theorem goodPrim_spec {k : PrimK} {zie : Bool} {v : Val} (hg : goodPrim k zie v = true) :
    ∃ b, primTL2 k v = .ok b ∧ b ≠ [] ∧ (b.length < 2 ^ 63 → ∀ c rest, readPrim2 k c (b ++ rest) = .ok (v, rest)) ∧
      (primEmpty k v = true → v = zeroPrim k) := by
  unfold goodPrim at hg
  -- the alternatives of `goodPrim` in its order: three 32-bit kinds, three 64-bit kinds, byte, string, bool
  split at hg <;> simp only [decide_eq_true_eq, Bool.false_eq_true, Nat.reducePow] at hg
  case h_1 n | h_2 n | h_3 n =>
    refine ⟨_, rfl, List.cons_ne_nil _ _, fun _ c rest => ?_, fun h => ?_⟩
    · simp only [readPrim2, readU32_u32le_lt hg, Except.map]
    · simp only [primEmpty, beq_iff_eq] at h; subst h; rfl
  case h_4 n | h_5 n | h_6 n =>
    refine ⟨_, rfl, List.cons_ne_nil _ _, fun _ c rest => ?_, fun h => ?_⟩
    · simp only [readPrim2, readU64_u64le, Nat.mod_eq_of_lt hg, Except.map]
    · simp only [primEmpty, beq_iff_eq] at h; subst h; rfl
  case h_7 n =>
    refine ⟨_, rfl, List.cons_ne_nil _ _, fun _ c rest => ?_, fun h => ?_⟩
    · simp only [readPrim2, List.cons_append, List.nil_append, readByte, Except.map, byteOf_toNat, Nat.mod_eq_of_lt hg]
    · simp only [primEmpty, beq_iff_eq] at h; subst h; rfl
  case h_8 s =>
    refine ⟨_, rfl, tl2WriteSize_append_ne_nil _ _, fun hl c rest => ?_, fun h => ?_⟩
    · simp only [stringWriteTL2, List.length_append] at hl
      simp only [readPrim2]
      rw [string_tl2_roundtrip s rest (by omega)]; rfl
    · simp only [primEmpty, List.isEmpty_iff] at h; subst h; rfl
  case h_9 b0 =>
    refine ⟨_, rfl, List.cons_ne_nil _ _, fun _ c rest => ?_, fun h => ?_⟩
    · cases b0 <;> rfl
    · simp only [primEmpty, Bool.not_eq_true'] at h; subst h; rfl

theorem prim_roundtrip (k : PrimK) (zie c : Bool) (v : Val) (r : Option Bytes)
    (hg : goodPrim k zie v = true) (he : encPrim k zie v = .ok r) (hlen : (optBytes r).length < 2 ^ 63) :
    ReadsBack (readPrim2 k c) v (zeroPrim k) r := by
  obtain ⟨b, hp, hne, hrd, hz⟩ := goodPrim_spec hg
  rw [encPrim_eq hp] at he
  cases he
  by_cases hc : (zie && primEmpty k v) = true
  · rw [if_pos hc]
    exact ⟨nofun, fun _ => hz (Bool.and_eq_true_iff.mp hc).2⟩
  · rw [if_neg hc] at hlen ⊢
    exact ⟨fun b' hb' => by cases hb'; exact ⟨hne, hrd hlen c⟩, nofun⟩

/-- a struct type without fields that is written as a plain (never present) field: `true`, `x.empty = ;` -/
def isPlainTrue (d : Desc) (ty : Nat) : Bool :=
  match d.get? ty with
  | some (.struct s) => s.fields.isEmpty && !s.isUnionElement && !(s.isAlias || s.isUnwrap)
  | _ => false

/-- the values covered by the round-trip theorem (see the header of this file) -/
def Good (d : Desc) : Nat → Nat → Bool → Val → Prop
  | 0, _, _, _ => False
  | fuel + 1, ty, zie, v =>
    (∀ r, encTL2 d (fuel + 1) ty zie v = .ok r → (optBytes r).length < 2 ^ 63) ∧
    (match d.get? ty with
    | none => False
    | some (.prim k) => goodPrim k zie v = true
    | some (.struct s) =>
      if (s.isAlias || s.isUnwrap) && !s.isUnionElement then
        match s.fields, v with
        | [f], .struct [some x] => (fieldOptional f || f.omitted) = false ∧ Good d fuel f.ty zie x
        | _, _ => False
      else
        structUI s < 2 ^ 63 ∧
        (match v with
        | .struct vs => GoodFields (Good d fuel) (zeroVal d fuel) (isPlainTrue d) (isTrueTy d) s.fields vs
        | _ => False)
    | some (.union u) =>
      match v with
      | .union i x =>
        match u.variants[i]? with
        | some (vi, _) =>
          (match d.get? vi with
           | some (.struct vs) => vs.isUnionElement = true ∧ vs.unionIndex = i ∧ (u.isMaybe = true → i = 0 → vs.fields = [])
           | _ => False) ∧
          (if u.isMaybe && i != 0 then
            i < 2 ^ 63 ∧
            (match d.get? vi, x with
            | some (.struct vs), .struct [some y] => (match vs.fields with | [f] => Good d fuel f.ty true y | _ => False)
            | _, _ => False)
          else Good d fuel vi zie x)
        | none => False
      | _ => False
    | some (.array a) =>
      match v with
      | .arr es =>
        es.length < 2 ^ 63 ∧ ((a.isTuple && !a.dynamic) = true → es.length = a.count) ∧ isBitTy d a.elem.ty = false ∧
          ∀ e ∈ es, Good d fuel a.elem.ty false e
      | _ => False
    | some (.dict a) =>
      match v with
      | .arr es =>
        es.length < 2 ^ 63 ∧ (∃ k, dictKeyPrim d a = some k ∧ dictNormalize k es = es) ∧
          ∀ e ∈ es, Good d fuel a.elem.ty false e
      | _ => False)

theorem isPlainTrue_isTrue (d : Desc) (ty : Nat) (h : isPlainTrue d ty = true) : isTrueTy d ty = true := by
  unfold isPlainTrue at h; unfold isTrueTy
  split at h
  · rename_i s hs
    rw [hs]; simp only [Bool.and_eq_true] at h; exact h.1.1
  · cases h

theorem plainTrue_enc (d : Desc) (fuel ty : Nat) (r : Option Bytes) (hp : isPlainTrue d ty = true)
    (he : encTL2 d fuel ty true (zeroVal d fuel ty) = .ok r) : r = none := by
  cases fuel with
  | zero => cases he
  | succ fuel =>
    unfold isPlainTrue at hp
    split at hp
    · rename_i s hs
      simp only [Bool.and_eq_true, List.isEmpty_iff, Bool.not_eq_true'] at hp
      obtain ⟨⟨hf, hu⟩, ha⟩ := hp
      unfold encTL2 zeroVal at he
      rw [hs] at he
      simp only [ha, hf, Bool.false_and, Bool.false_eq_true, if_false, zeroFieldsWith, encFieldsWith, structUI, hu] at he
      cases he; rfl
    · cases hp

section total
variable {good : Nat → Bool → Val → Prop} {enc : Enc} {z : Nat → Val} {plainTrue isTrue : Nat → Bool}

theorem encField_ok (E : ∀ ty zie x, good ty zie x → ∃ r, enc ty zie x = .ok r)
    (f : Field) (v : Option Val) (hs : FieldSpec good z plainTrue isTrue f v) :
    ∃ r, encField enc f v = .ok r := by
  unfold encField
  rcases hs.cases with ⟨ho, _⟩ | ⟨ho, hb, htb, hv⟩ | ⟨ho, _, _, htb, _, hv, hgz⟩ | ⟨ho, hb, _, htb, hv⟩ |
    ⟨ho, _, _, htb, _, x, hv, hx⟩
  · rw [if_pos ho]; exact ⟨_, rfl⟩
  · simp only [ho, htb, hb, Bool.false_eq_true, if_false, if_true]
    rcases hv with rfl | rfl <;> exact ⟨_, rfl⟩
  · subst hv
    simp only [ho, htb, Bool.false_eq_true, if_false]
    exact E _ _ _ hgz
  · simp only [ho, htb, hb, Bool.false_eq_true, if_false, if_true]
    cases v with
    | none => exact ⟨_, rfl⟩
    | some x => exact E _ _ _ (hv x rfl)
  · subst hv
    simp only [ho, htb, Bool.false_eq_true, if_false]
    exact E _ _ _ hx

theorem encFields_ok (E : ∀ ty zie x, good ty zie x → ∃ r, enc ty zie x = .ok r) :
    ∀ (fs : List Field) (vs : List (Option Val)), GoodFields good z plainTrue isTrue fs vs →
      ∃ rs, encFieldsWith enc fs vs = .ok rs := by
  intro fs vs
  fun_induction GoodFields good z plainTrue isTrue fs vs with
  | case1 => exact fun _ => ⟨_, rfl⟩
  | case2 f fs v vs ih =>
    intro hg
    obtain ⟨r, hr⟩ := encField_ok E f v hg.1
    obtain ⟨rs, hrs⟩ := ih hg.2
    exact ⟨r :: rs, by simp only [encFieldsWith, hr, hrs]⟩
  | case3 => exact False.elim

end total

/-- `FieldCodecs.rt` at the model's own codecs (the conclusion is again `ReadsBack` written out) -/
def RT (d : Desc) (fuel : Nat) : Prop :=
  ∀ ty zie c v r, Good d fuel ty zie v → encTL2 d fuel ty zie v = .ok r →
    (∀ b, r = some b → b ≠ [] ∧ ∀ rest, readTL2 d fuel ty c (b ++ rest) = .ok (v, rest)) ∧
    (r = none → v = zeroVal d fuel ty)

/-- what each per-kind lemma proves of one covered value: `RT` and `good_enc_ok` at once -/
def Inverted (d : Desc) (fuel ty : Nat) (zie c : Bool) (v : Val) : Prop :=
  ∃ r, encTL2 d fuel ty zie v = .ok r ∧ ReadsBack (readTL2 d fuel ty c) v (zeroVal d fuel ty) r

theorem prim_inverted {d : Desc} {fuel ty : Nat} {k : PrimK} (hty : d.get? ty = some (.prim k)) (zie c : Bool) (v : Val)
    (hg : Good d (fuel + 1) ty zie v) : Inverted d (fuel + 1) ty zie c v := by
  unfold Good at hg
  rw [hty] at hg
  obtain ⟨b, hp, _⟩ := goodPrim_spec hg.2
  have he := encPrim_eq hp zie
  have he' : encTL2 d (fuel + 1) ty zie v = .ok (if zie && primEmpty k v then none else some b) := by
    simp only [encTL2, hty, he]
  refine ⟨_, he', ?_⟩
  rw [zeroVal_prim fuel hty]
  exact (prim_roundtrip k zie c v _ hg.2 he (hg.1 _ he')).imp (fun bs rest h => by simp only [readTL2, hty, h]) id

theorem inverted_codecs {d : Desc} {m : Nat} (h : ∀ ty zie c v, Good d m ty zie v → Inverted d m ty zie c v) :
    FieldCodecs (Good d m) (encTL2 d m) (readTL2 d m) (zeroVal d m) ∧
      ∀ ty zie x, Good d m ty zie x → ∃ r, encTL2 d m ty zie x = .ok r :=
  ⟨⟨fun ty zie c v r hg he => by
      obtain ⟨r', he', hp⟩ := h ty zie c v hg
      cases he.symm.trans he'
      exact hp, enc_false_some d m⟩,
    fun ty zie x hg => (h ty zie false x hg).imp fun _ h => h.1⟩

section kinds
variable {d : Desc} {fuel ty : Nat} (IH : ∀ m, m ≤ fuel → ∀ ty zie c v, Good d m ty zie v → Inverted d m ty zie c v)
include IH

theorem struct_inverted {s : StructD} (hty : d.get? ty = some (.struct s)) (zie c : Bool) (v : Val)
    (hg : Good d (fuel + 1) ty zie v) : Inverted d (fuel + 1) ty zie c v := by
  unfold Good at hg
  rw [hty] at hg
  obtain ⟨hlen, hg⟩ := hg
  by_cases hal : ((s.isAlias || s.isUnwrap) && !s.isUnionElement) = true
  · simp only [hal, if_true] at hg
    split at hg
    · rename_i f x hfs
      obtain ⟨r, he, hrb⟩ := IH fuel (Nat.le_refl fuel) f.ty zie (s.isUnwrap && c) x hg.2
      refine ⟨r, by simp only [encTL2, hty, hal, hfs, he, if_true], ?_⟩
      refine hrb.imp (fun bs rest h => by simp only [readTL2, hty, hal, hfs, h, if_true]) fun hz => ?_
      rw [zeroVal_struct fuel hty, hfs, hz]
      simp [zeroFieldsWith, hg.1]
    · exact hg.elim
  · simp only [hal, Bool.false_eq_true, if_false] at hg
    obtain ⟨hui, hg⟩ := hg
    cases v with
    | struct vs =>
      obtain ⟨HC, E⟩ := inverted_codecs (IH fuel (Nat.le_refl fuel))
      obtain ⟨rs, hf⟩ := encFields_ok E s.fields vs hg
      have he : encTL2 d (fuel + 1) ty zie (.struct vs) = .ok (objTL2 zie (bodyTL2 (structUI s) rs)) := by
        simp only [encTL2, hty, hal, hf, Bool.false_eq_true, if_false]
      refine ⟨_, he, ?_⟩
      rw [zeroVal_struct fuel hty]
      exact (struct_roundtrip (skip := skipTL2 d fuel) HC (plainTrue_enc d fuel) (isPlainTrue_isTrue d) (structUI s) hui
        s.fields vs rs zie hg hf (hlen _ he)).imp
        (fun bs rest h => by simp only [readTL2, hty, hal, h, Bool.false_eq_true, if_false]) (fun h => by rw [h])
    | _ => exact hg.elim

theorem union_inverted {u : UnionD} (hty : d.get? ty = some (.union u)) (zie c : Bool) (v : Val)
    (hg : Good d (fuel + 1) ty zie v) : Inverted d (fuel + 1) ty zie c v := by
  unfold Good at hg
  rw [hty] at hg
  obtain ⟨hlen, hg⟩ := hg
  cases v with
  | union i x =>
    dsimp only at hg
    split at hg
    · rename_i vi nm hv
      obtain ⟨hvar, hg⟩ := hg
      split at hvar
      · rename_i vs hvi
        obtain ⟨hue, hidx, hmb0⟩ := hvar
        by_cases hm : (u.isMaybe && i != 0) = true
        · -- Maybe holding a value: size, mask byte (bit 1 = value written), index, value
          simp only [hm, if_true, hvi] at hg
          obtain ⟨hi63, hg⟩ := hg
          split at hg
          · rename_i vs' y heq
            cases heq
            split at hg
            · rename_i f hf
              obtain ⟨r, hey, h1, h2⟩ := IH fuel (Nat.le_refl fuel) f.ty true false y hg
              have he : encTL2 d (fuel + 1) ty zie (.union i (.struct [some y])) = .ok (objTL2 zie (bodyTL2 i [r])) := by
                simp only [encTL2, hty, hv, hm, hvi, hf, hey, if_true]
              simp only [Bool.and_eq_true, bne_iff_ne, ne_eq] at hm
              have hbne : bodyTL2 i [r] ≠ [] := fun h => hm.2 (body_empty i _ h).1
              refine ⟨_, he, readsBack_obj zie _ (hlen _ he) (fun h => absurd h hbne) fun bs rest hs => ?_⟩
              obtain ⟨block, hh, hbit⟩ := readHead_single i hi63 r hbne
              have hi0 : (i == 0) = false := by simpa using hm.2
              simp only [readTL2, hty, hs, List.isEmpty_eq_false_iff.mpr hbne, hh, hv, hvi, hm.1, hi0, hf, hbit, Bool.false_eq_true,
                if_false, if_true]
              cases r with
              | none => simp only [Option.isSome_none, Bool.false_eq_true, if_false]; rw [h2 rfl]
              | some b =>
                have := (h1 b rfl).2 []
                rw [List.append_nil] at this
                simp only [Option.isSome_some, if_true, optBytes, this]
            · exact hg.elim
          · exact hg.elim
        · -- ordinary variant: the variant struct is written as an object with its index
          simp only [hm, Bool.false_eq_true, if_false] at hg
          cases fuel with
          | zero => exact hg.elim
          | succ fuel =>
            obtain ⟨HC, E⟩ := inverted_codecs (IH fuel (Nat.le_succ fuel))
            unfold Good at hg
            have hal : ((vs.isAlias || vs.isUnwrap) && !vs.isUnionElement) = false := by rw [hue]; simp
            have hsu : structUI vs = i := by unfold structUI; rw [hue]; exact hidx
            simp only [hvi, hal, hsu, Bool.false_eq_true, if_false] at hg
            obtain ⟨_, hi63, hg⟩ := hg
            cases x with
            | struct xs =>
              obtain ⟨rs, hf⟩ := encFields_ok E vs.fields xs hg
              have he : encTL2 d (fuel + 1 + 1) ty zie (.union i (.struct xs)) = .ok (objTL2 zie (bodyTL2 i rs)) := by
                rw [encTL2]
                simp only [hty, hv, hm, Bool.false_eq_true, if_false]
                rw [encTL2]
                simp only [hvi, hal, hf, hsu, Bool.false_eq_true, if_false]
              -- an empty body is the first variant with all fields absent: the zero value of the union
              have hz : bodyTL2 i rs = [] → Val.union i (.struct xs) = zeroVal d (fuel + 1 + 1) ty := by
                intro hbe
                obtain ⟨hi0, ha⟩ := body_empty i rs hbe
                subst hi0
                rw [zeroVal_union _ hty hv, zeroVal_struct _ hvi, (fields_roundtrip_append HC (plainTrue_enc d fuel)
                  (isPlainTrue_isTrue d) vs.fields xs rs hg hf).1 ha]
              refine ⟨_, he, readsBack_obj zie _ (hlen _ he) hz fun bs rest hs => ?_⟩
              rw [readTL2]
              by_cases hbe : bodyTL2 i rs = []
              · simp only [hty, hs, hbe, List.isEmpty_nil, if_true, hz hbe]
              · obtain ⟨block, cur1, hh, _, hfs⟩ := body_roundtrip_ext (skip := skipTL2 d fuel) HC (plainTrue_enc d fuel)
                  (isPlainTrue_isTrue d) i hi63 vs.fields xs rs rs hg hf (List.prefix_refl rs) hbe
                -- a Maybe's first variant has no fields, so its body would be empty
                have hnm : u.isMaybe = false := Bool.eq_false_iff.2 fun hmm => by
                  have hi0 : i = 0 := by simpa [hmm] using hm
                  rw [hmb0 hmm hi0] at hf
                  cases xs <;> cases hf
                  exact hbe (by rw [hi0]; rfl)
                simp only [hty, hs, List.isEmpty_eq_false_iff.mpr hbe, hh, hv, hvi, hnm, hfs, Bool.false_eq_true, if_false]
            | _ => exact hg.elim
      · exact hvar.elim
    · exact hg.elim
  | _ => exact hg.elim

/-- the conjuncts after the first are the steps of the array and dictionary readers on the sliced body: `cnt`, the length
test, the element loop -/
theorem elems_inverted {a : ArrayD} : ∀ es : List Val, (∀ e ∈ es, Good d fuel a.elem.ty false e) → es.length < 2 ^ 63 →
    ∃ cb, encElemsWith (encTL2 d fuel) a.elem.ty es = .ok cb ∧
      (if (arrBody es.length cb).isEmpty then .ok (0, arrBody es.length cb) else parseSize (arrBody es.length cb)) =
        .ok (es.length, cb) ∧
      ¬ es.length > cb.length ∧ readElems2With (readTL2 d fuel) a.elem.ty es.length cb = .ok (es, []) := by
  intro es
  induction es with
  | nil => intro _ _; exact ⟨[], rfl, rfl, Nat.lt_irrefl _, rfl⟩
  | cons e es ih =>
    intro hg hn63
    obtain ⟨r, h1, hrb⟩ := IH fuel (Nat.le_refl _) a.elem.ty false false e (hg e (List.mem_cons_self ..))
    obtain ⟨cb, h2, _, hl, hrs⟩ := ih (fun e' he' => hg e' (List.mem_cons_of_mem _ he')) (Nat.lt_of_succ_lt hn63)
    obtain ⟨hne, hrd⟩ := hrb.present (enc_false_some d fuel _ _ _ h1) cb
    refine ⟨optBytes r ++ cb, by simp only [encElemsWith, h1, h2], arrBody_count hn63, ?_, ?_⟩
    · have : 0 < (optBytes r).length := List.length_pos_iff.mpr hne
      simp only [List.length_cons, List.length_append]
      omega
    · simp only [List.length_cons, readElems2With, hrd, hrs]

theorem array_inverted {a : ArrayD} (hty : d.get? ty = some (.array a)) (zie c : Bool) (v : Val)
    (hg : Good d (fuel + 1) ty zie v) : Inverted d (fuel + 1) ty zie c v := by
  unfold Good at hg
  rw [hty] at hg
  obtain ⟨hlen, hg⟩ := hg
  cases v with
  | arr es =>
    obtain ⟨hn63, hfix, hnb, hge⟩ := hg
    obtain ⟨cb, hce, hcnt, hle, hrd⟩ := elems_inverted IH es hge hn63
    have hc1 : (a.isTuple && !a.dynamic && decide (es.length ≠ a.count)) = false := by
      cases hfx : (a.isTuple && !a.dynamic) with
      | false => rfl
      | true => simp [hfix hfx]
    have he : encTL2 d (fuel + 1) ty zie (.arr es) = .ok (objTL2 zie (arrBody es.length cb)) := by
      simp only [encTL2, hty, hc1, hnb, hce, Bool.false_eq_true, if_false, objTL2_arrBody]
    refine ⟨_, he, readsBack_obj zie _ (hlen _ he) (fun hb => ?_) fun bs rest hs => ?_⟩
    · -- no element: also a fixed-size array then has size 0
      have h0 := List.length_eq_zero_iff.mp (arrBody_nil hb)
      rw [zeroVal_array fuel hty, h0]
      split
      · rename_i hfx; rw [← hfix hfx, h0]; rfl
      · rfl
    · simp only [readTL2, hty, hs, hcnt, hnb, Bool.false_eq_true, if_false]
      cases hfx : (a.isTuple && !a.dynamic) with
      | true => simp only [if_true, ← hfix hfx, Nat.min_self, hrd, padTo_self _ _ _ rfl]
      | false => simp only [Bool.false_eq_true, if_false, hle, hrd]
  | _ => exact hg.elim

theorem dict_inverted {a : ArrayD} (hty : d.get? ty = some (.dict a)) (zie c : Bool) (v : Val)
    (hg : Good d (fuel + 1) ty zie v) : Inverted d (fuel + 1) ty zie c v := by
  unfold Good at hg
  rw [hty] at hg
  obtain ⟨hlen, hg⟩ := hg
  cases v with
  | arr es =>
    obtain ⟨hn63, ⟨k, hk, hnorm⟩, hge⟩ := hg
    obtain ⟨cb, hce, hcnt, hle, hrd⟩ := elems_inverted IH es hge hn63
    have he : encTL2 d (fuel + 1) ty zie (.arr es) = .ok (objTL2 zie (arrBody es.length cb)) := by
      simp only [encTL2, hty, hce, objTL2_arrBody]
    refine ⟨_, he, readsBack_obj zie _ (hlen _ he) (fun hb => ?_) fun bs rest hs => ?_⟩
    · rw [zeroVal_dict fuel hty, List.length_eq_zero_iff.mp (arrBody_nil hb)]
    · simp only [readTL2, hty, hs, hcnt, hle, hk, hrd, hnorm, if_false]
  | _ => exact hg.elim

end kinds

theorem good_roundtrip (d : Desc) : ∀ fuel ty zie c v, Good d fuel ty zie v → Inverted d fuel ty zie c v := by
  intro fuel
  induction fuel using Nat.strongRecOn with
  | _ fuel ih =>
    intro ty zie c v hg
    cases fuel with
    | zero => exact hg.elim
    | succ fuel =>
      have IH := fun m (hm : m ≤ fuel) => ih m (Nat.lt_succ_of_le hm)
      cases hty : d.get? ty with
      | none => unfold Good at hg; rw [hty] at hg; exact hg.2.elim
      | some inst =>
        cases inst with
        | prim k => exact prim_inverted hty zie c v hg
        | struct s => exact struct_inverted IH hty zie c v hg
        | union u => exact union_inverted IH hty zie c v hg
        | array a => exact array_inverted IH hty zie c v hg
        | dict a => exact dict_inverted IH hty zie c v hg

theorem tl2_roundtrip_gen (d : Desc) : ∀ fuel, RT d fuel :=
  fun fuel => (inverted_codecs (good_roundtrip d fuel)).1.rt

theorem good_enc_ok (d : Desc) : ∀ (fuel ty : Nat) (zie : Bool) (v : Val),
    Good d fuel ty zie v → ∃ r, encTL2 d fuel ty zie v = .ok r :=
  fun fuel => (inverted_codecs (good_roundtrip d fuel)).2

end TLVerif.Codec
