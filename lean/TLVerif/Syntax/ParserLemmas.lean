import TLVerif.Syntax.LexerLemmas
import TLVerif.Syntax.PError
/-! Every `_good` lemma assumes `Inv text ts`: `ToksOK` from the lexer (against the panics of `val[1:]`,
`splitIdenNSFromToken` and the comment slices) and `EndsEof` (against those of `skipWS` and `front()`).
`Lt ts`, `SomeLt ts`, `NoP` ("nothing"), `IsSomeP`, `ArithP` are the post-condition argument `P` of `Res.Good`; the first three say
when the rest is shorter than the input: always, where a value is returned, not said (`rwsOpen_good` has one of its own,
`SomeLt` for a `Bool`).  Inside a function with input `ts` the same is kept of every intermediate iterator `r` by
`At text ts k r`: `r` is `ts` with at least `k` tokens consumed.
Only `k > 0` is ever read (`At.lt`, `At.le_of`: the model's length guards, the bound for the induction hypothesis and the
final post-condition).  `k` goes up at a token consumed (`At.tail`), after a callee with `Lt` (`Res.Good.elim_lt`) and
after one with `SomeLt` that returned a value (`Res.Good.elim_some`); after any other callee it stays (`Res.Good.elim`,
which hands on the callee's `P`).  A call in tail position is not taken apart: its result is carried along the suffix
to the caller's input and post-condition by `Res.Good.mono` and its instances `.lt`, `.noP`, `.arithP`.
`WSPre cs ts`: `cs` is `ts` behind white-space tokens.  `parseField` and `parseCombinator*` carry it for their `commentStart`:
`parseCommentBefore` panics on a token between `commentStart` and the position that is not white space, and `sliceBetween`
needs the two offsets in order. -/
namespace TLVerif.Syntax

def EndsEof (ts : List Token) : Prop := ∃ pre e, ts = pre ++ [e] ∧ e.ty = .eof

theorem EndsEof.ne_nil {ts : List Token} (h : EndsEof ts) : ts ≠ [] := by
  obtain ⟨pre, e, rfl, _⟩ := h; simp

theorem EndsEof.suffix {ts rest : List Token} (h : EndsEof ts) (hs : rest <:+ ts) (hne : rest ≠ []) : EndsEof rest := by
  obtain ⟨pre, e, rfl, he⟩ := h
  obtain ⟨p, hp⟩ := hs
  -- `rest` ends with its last token, which is then the last token of the whole
  rw [← List.dropLast_concat_getLast hne, ← List.append_assoc] at hp
  exact ⟨_, _, (List.dropLast_concat_getLast hne).symm, List.singleton_inj.mp (List.append_inj_right' hp rfl) ▸ he⟩

theorem EndsEof.tail {t : Token} {r : List Token} (h : EndsEof (t :: r)) (hne : t.ty ≠ .eof) : EndsEof r := by
  obtain ⟨pre, e, heq, he⟩ := h
  cases pre with
  | nil => cases heq; exact absurd he hne
  | cons p pre => cases heq; exact ⟨pre, e, rfl, he⟩

def WSPre (a b : List Token) : Prop := ∃ ws, a = ws ++ b ∧ ∀ t ∈ ws, t.ty.isWS = true

theorem WSPre.refl (a : List Token) : WSPre a a := ⟨[], by simp, by simp⟩

theorem WSPre.trans {a b c : List Token} (h1 : WSPre a b) (h2 : WSPre b c) : WSPre a c := by
  obtain ⟨w1, rfl, hw1⟩ := h1
  obtain ⟨w2, rfl, hw2⟩ := h2
  exact ⟨w1 ++ w2, by simp, List.forall_mem_append.mpr ⟨hw1, hw2⟩⟩

theorem WSPre.cons {t : Token} {a b : List Token} (h : WSPre a b) (ht : t.ty.isWS = true) : WSPre (t :: a) b := by
  obtain ⟨ws, rfl, hws⟩ := h
  exact ⟨t :: ws, rfl, List.forall_mem_cons.mpr ⟨ht, hws⟩⟩

theorem WSPre.suffix {a b : List Token} (h : WSPre a b) : b <:+ a := by
  obtain ⟨ws, rfl, _⟩ := h; exact List.suffix_append _ _

theorem isWS_ne_eof {ty : TT} (h : ty.isWS = true) : ty ≠ .eof := by
  intro he; subst he; simp [TT.isWS] at h

theorem skipWS_spec (ts : List Token) :
    (∀ t r, skipWS ts = some (t, r) → t.ty.isWS = false ∧ WSPre ts (t :: r)) ∧
    (skipWS ts = none → ∀ t ∈ ts, t.ty.isWS = true) := by
  fun_induction skipWS ts with
  | case1 => exact ⟨nofun, fun _ _ h => nomatch h⟩
  | case2 x xs hws ih =>
    exact ⟨fun t r h => ⟨(ih.1 t r h).1, (ih.1 t r h).2.cons hws⟩, fun h t ht => (List.mem_cons.mp ht).elim (· ▸ hws) (ih.2 h t)⟩
  | case3 x xs hws => exact ⟨fun t r h => by cases h; exact ⟨by simpa using hws, WSPre.refl _⟩, nofun⟩

theorem expectOrPanic_hit {t : Token} {r : List Token} {ty : TT} (hws : t.ty.isWS = false) (h : (t.ty == ty) = true) :
    expectOrPanic (t :: r) ty = some r := by
  simp [expectOrPanic, expect, checkToken, skipWS, hws, h]

def Res.Good {α : Type} (ts : List Token) (outer : Pos) (P : α → List Token → Prop) : Res α → Prop
  | .ok a rest => EndsEof rest ∧ rest <:+ ts ∧ P a rest
  | .err e => e.tok ∈ ts ∧ e.outer = outer
  | .panic => False
  | .diverge => False

theorem Res.Good.mono {α : Type} {ts ts' : List Token} {outer : Pos} {P P' : α → List Token → Prop} {X : Res α}
    (hg : X.Good ts' outer P') (hs : ts' <:+ ts) (hP : ∀ a rest, rest <:+ ts' → P' a rest → P a rest) :
    X.Good ts outer P := by
  cases X with
  | ok a rest => exact ⟨hg.1, hg.2.1.trans hs, hP a rest hg.2.1 hg.2.2⟩
  | err e => exact ⟨hs.subset hg.1, hg.2⟩
  | panic | diverge => exact False.elim hg

def Lt (ts : List Token) {α : Type} : α → List Token → Prop := fun _ rest => rest.length < ts.length

theorem Res.Good.lt {α : Type} {ts ts' : List Token} {outer : Pos} {X : Res α} (hg : X.Good ts' outer (Lt ts'))
    (hs : ts' <:+ ts) : X.Good ts outer (Lt ts) :=
  hg.mono hs fun _ _ _ h => Nat.lt_of_lt_of_le h hs.length_le

def SomeLt (ts : List Token) {α : Type} : Option α → List Token → Prop :=
  fun a rest => a.isSome = true → rest.length < ts.length

theorem SomeLt.intro {α : Type} {ts rest : List Token} {a : Option α} (h : rest.length < ts.length) : SomeLt ts a rest :=
  fun _ => h

theorem SomeLt.none {α : Type} {ts rest : List Token} : SomeLt ts (none : Option α) rest := fun h => nomatch h

def NoP {α : Type} : α → List Token → Prop := fun _ _ => True

theorem Res.Good.noP {α : Type} {ts ts' : List Token} {outer : Pos} {P : α → List Token → Prop} {X : Res α}
    (hg : X.Good ts' outer P) (hs : ts' <:+ ts) : X.Good ts outer NoP :=
  hg.mono hs fun _ _ _ _ => trivial

theorem suffix_cons_lt {t : Token} {r ts : List Token} (h : (t :: r) <:+ ts) : r.length < ts.length :=
  h.length_le  -- `(t :: r).length ≤ _`, the same by definition

theorem takeWhile_length_lt {α : Type} {p : α → Bool} {x : α} (hx : p x = false) {l : List α} (h : x ∈ l) :
    (l.takeWhile p).length < l.length :=
  -- a prefix as long as the list is the list, and every member of `takeWhile p l` passes `p`
  Nat.lt_of_le_of_ne (List.takeWhile_prefix p).length_le fun e => by
    have := List.all_eq_true.mp List.all_takeWhile x ((List.takeWhile_prefix p).eq_of_length e ▸ h)
    rw [hx] at this; cases this

theorem splitIden_some {s : Bytes} (h : cDot ∈ s) : ∃ n, splitIden s = some n := by
  unfold splitIden
  rw [if_pos (takeWhile_length_lt (by simp) h)]
  exact ⟨_, rfl⟩

structure Inv (text : Bytes) (ts : List Token) : Prop where
  eof : EndsEof ts
  ok : ToksOK text ts

theorem ToksOK.suffix {text : Bytes} {ts rest : List Token} (h : ToksOK text ts) (hs : rest <:+ ts) : ToksOK text rest :=
  ⟨fun t ht => h.wf t (hs.subset ht), fun t ht => h.inRange t (hs.subset ht), h.sorted.sublist hs.sublist⟩

theorem Inv.suffix {text : Bytes} {ts rest : List Token} (h : Inv text ts) (hs : rest <:+ ts) (he : EndsEof rest) : Inv text rest :=
  ⟨he, h.ok.suffix hs⟩

section
variable {text : Bytes} {outer : Pos} {ts ts' : List Token} {k : Nat}

/-- a position `r` reached inside the input `ts` of a parsing function, at least `k` tokens further on -/
structure At (text : Bytes) (ts : List Token) (k : Nat) (r : List Token) : Prop where
  inv : Inv text r
  suf : r <:+ ts
  adv : r.length + k ≤ ts.length

theorem Inv.at (h : Inv text ts) : At text ts 0 ts := ⟨h, List.suffix_rfl, Nat.le_refl _⟩

theorem At.lt (h : At text ts (k + 1) ts') : ts'.length < ts.length := by have := h.adv; omega

theorem At.le_of {n : Nat} (h : At text ts (k + 1) ts') (hn : ts.length ≤ n + 1) : ts'.length ≤ n :=
  Nat.le_of_lt_succ (Nat.lt_of_lt_of_le h.lt hn)

theorem At.weaken (h : At text ts (k + 1) ts') : At text ts k ts' := ⟨h.inv, h.suf, Nat.le_of_succ_le h.adv⟩

theorem At.to {r : List Token} (h : At text ts k ts') (hs : r <:+ ts') (he : EndsEof r) : At text ts k r :=
  ⟨h.inv.suffix hs he, hs.trans h.suf, Nat.le_trans (Nat.add_le_add_right hs.length_le k) h.adv⟩

/-- a position known to lie strictly behind `ts'` -/
theorem At.past {r : List Token} {k' : Nat} (h : At text ts k ts') (h' : At text ts k' r) (hl : r.length < ts'.length) :
    At text ts (k + 1) r :=
  ⟨h'.inv, h'.suf, by have := h.adv; omega⟩

theorem At.tail {t : Token} {r : List Token} {ty : TT} (h : At text ts k (t :: r)) (hb : (t.ty == ty) = true) (hty : ty ≠ .eof) :
    At text ts (k + 1) r :=
  h.past (h.to (List.suffix_cons t r) (h.inv.eof.tail (eq_of_beq hb ▸ hty))) (Nat.lt_succ_self _)

theorem At.mem {t : Token} {r : List Token} (h : At text ts k (t :: r)) : t ∈ ts := h.suf.subset (List.mem_cons_self ..)

theorem At.ok {α : Type} {P : α → List Token → Prop} {a : α} (h : At text ts k ts') (hp : P a ts') :
    (Res.ok a ts').Good ts outer P := ⟨h.inv.eof, h.suf, hp⟩

theorem needFront_ite {α : Type} (h : At text ts k ts') (x y : α) : (if !needFront ts' then x else y) = y := by
  cases ts' with
  | nil => exact absurd rfl h.inv.eof.ne_nil
  | cons _ _ => rfl

theorem errFront_good {α : Type} {P : α → List Token → Prop} (h : At text ts k ts') :
    (errFront ts' outer : Res α).Good ts outer P := by
  cases ts' with
  | nil => exact absurd rfl h.inv.eof.ne_nil
  | cons t r => exact ⟨h.mem, rfl⟩

theorem Res.Good.err {α : Type} {P : α → List Token → Prop} (e : PErr) (hm : e.tok ∈ ts) (ho : e.outer = outer) :
    (Res.err e : Res α).Good ts outer P := ⟨hm, ho⟩

/-! The parsing functions are chains of `skipWS`, `checkToken`, `expect` and calls of other parsing functions, each
followed by a `match` on the outcome.  The lemmas below do the case analysis on one such outcome, for a step made at
the position `ts'` inside a function whose own input is `ts`: the impossible outcomes are gone, and in the others the
new position keeps the `k` of `ts'`, one more where a token was consumed.  The cases are always taken in the order
error, miss (the token is not there, the callee returns `none`), hit, whatever the order of the model's `match`. -/

@[elab_as_elim] theorem skipWS_elim {motive : Option (Token × List Token) → Prop} (h : At text ts k ts')
    (c : ∀ t r, t.ty.isWS = false → At text ts k (t :: r) → WSPre ts' (t :: r) → motive (some (t, r))) : motive (skipWS ts') := by
  cases hs : skipWS ts' with
  | none =>
    obtain ⟨pre, e, rfl, he⟩ := h.inv.eof
    exact absurd he (isWS_ne_eof ((skipWS_spec _).2 hs e (by simp)))
  | some p =>
    obtain ⟨hws, hw⟩ := (skipWS_spec ts').1 p.1 p.2 hs
    exact c p.1 p.2 hws (h.to hw.suffix (h.inv.eof.suffix hw.suffix (List.cons_ne_nil _ _))) hw

@[elab_as_elim] theorem checkToken_elim {motive : Option (Bool × Token × List Token) → Prop} {ty : TT} (h : At text ts k ts')
    (c : ∀ t r, t.ty.isWS = false → At text ts k (t :: r) → WSPre ts' (t :: r) → motive (some (t.ty == ty, t, r))) :
    motive (checkToken ts' ty) := by
  unfold checkToken
  exact skipWS_elim h c

/-- `checkToken` for a class other than eof: on a hit the token is popped by the `expectOrPanic` that follows. -/
@[elab_as_elim] theorem checkToken_cases {motive : Option (Bool × Token × List Token) → Prop} {ty : TT}
    (h : At text ts k ts') (hty : ty ≠ .eof)
    (miss : ∀ t r, At text ts k (t :: r) → WSPre ts' (t :: r) → motive (some (false, t, r)))
    (hit : ∀ t r, t.ty = ty → t ∈ ts → expectOrPanic (t :: r) ty = some r → At text ts (k + 1) r → motive (some (true, t, r))) :
    motive (checkToken ts' ty) := by
  refine checkToken_elim h fun t r hws h' hw => ?_
  cases hb : (t.ty == ty) with
  | false => exact miss t r h' hw
  | true => exact hit t r (by simpa using hb) h'.mem (expectOrPanic_hit hws hb) (h'.tail hb hty)

@[elab_as_elim] theorem expect_elim {motive : Option (Bool × List Token) → Prop} {ty : TT} (h : At text ts k ts') (hty : ty ≠ .eof)
    (miss : ∀ it, At text ts k it → motive (some (false, it)))
    (hit : ∀ r, At text ts (k + 1) r → motive (some (true, r))) :
    motive (expect ts' ty) := by
  unfold expect
  exact checkToken_cases h hty (fun t r h' _ => miss _ h') fun t r _ _ _ h' => hit r h'

@[elab_as_elim] theorem expect_any {motive : Option (Bool × List Token) → Prop} {ty : TT} (h : At text ts k ts') (hty : ty ≠ .eof)
    (c : ∀ b it, At text ts k it → motive (some (b, it))) : motive (expect ts' ty) :=
  expect_elim h hty (c false) fun r h' => c true r h'.weaken

@[elab_as_elim] theorem Res.Good.elim {α : Type} {motive : Res α → Prop} {P : α → List Token → Prop} {X : Res α}
    (hX : X.Good ts' outer P) (h : At text ts k ts')
    (err : ∀ e, e.tok ∈ ts → e.outer = outer → motive (.err e))
    (ok : ∀ a rest, At text ts k rest → P a rest → motive (.ok a rest)) :
    motive X := by
  cases X with
  | ok a rest => exact ok a rest (h.to hX.2.1 hX.1) hX.2.2
  | err e => exact err e (h.suf.subset hX.1) hX.2
  | panic | diverge => exact False.elim hX

/-- a callee with `Lt`: it has consumed whenever it returns `ok` -/
@[elab_as_elim] theorem Res.Good.elim_lt {α : Type} {motive : Res α → Prop} {X : Res α}
    (hX : X.Good ts' outer (Lt ts')) (h : At text ts k ts')
    (err : ∀ e, e.tok ∈ ts → e.outer = outer → motive (.err e))
    (ok : ∀ a rest, At text ts (k + 1) rest → motive (.ok a rest)) :
    motive X :=
  hX.elim h err fun a rest h' hl => ok a rest (h.past h' hl)

/-- a callee with `SomeLt`: it has consumed where it returns a value, and `none` leaves `k` as it was -/
@[elab_as_elim] theorem Res.Good.elim_some {α : Type} {motive : Res (Option α) → Prop} {X : Res (Option α)}
    (hX : X.Good ts' outer (SomeLt ts')) (h : At text ts k ts')
    (err : ∀ e, e.tok ∈ ts → e.outer = outer → motive (.err e))
    (miss : ∀ rest, At text ts k rest → motive (.ok none rest))
    (hit : ∀ a rest, At text ts (k + 1) rest → motive (.ok (some a) rest)) :
    motive X :=
  hX.elim h err fun a rest h' hl =>
    match a with
    | none => miss rest h'
    | some a => hit a rest (h.past h' (hl rfl))

theorem parseNameAlts_good : ∀ (alts : List TT) {ts : List Token}, (∀ ty ∈ alts, ty ≠ .eof) → Inv text ts →
    (parseNameAlts outer alts ts).Good ts outer (Lt ts)
  | [], ts, _, h => by
    unfold parseNameAlts
    exact errFront_good h.at
  | ty :: more, ts, halts, h => by
    unfold parseNameAlts
    refine checkToken_cases h.at (halts ty (by simp)) (fun t r hr _ => ?_) fun t r hty hm hx hr => ?_
    · exact (parseNameAlts_good more (fun ty hty => halts ty (by simp [hty])) hr.inv).lt hr.suf
    · have hn : ∃ n, (if ty.isNS then splitIden t.val else some ⟨[], t.val⟩) = some n := by
        split
        · rename_i hns
          exact splitIden_some ((h.ok.wf t hm).1 (by rw [hty]; exact hns))
        · exact ⟨_, rfl⟩
      obtain ⟨n, hn⟩ := hn
      simp only [hn, hx]
      exact hr.ok hr.lt

theorem parseLCIdentNS_good (h : Inv text ts) : (parseLCIdentNS ts outer).Good ts outer (Lt ts) :=
  parseNameAlts_good _ (by simp) h
theorem parseUCIdentNS_good (h : Inv text ts) : (parseUCIdentNS ts outer).Good ts outer (Lt ts) :=
  parseNameAlts_good _ (by simp) h
theorem parseVarIdent_good (h : Inv text ts) : (parseVarIdent ts outer).Good ts outer (Lt ts) :=
  parseNameAlts_good _ (by simp) h
theorem parseTypeRefAsName_good (h : Inv text ts) : (parseTypeRefAsName ts outer).Good ts outer (Lt ts) :=
  parseNameAlts_good _ (by simp) h

theorem parseModifiers_good {ts : List Token} {acc : List Bytes} (h : Inv text ts) :
    (parseModifiers ts acc).Good ts outer NoP := by
  rw [parseModifiers]
  refine skipWS_elim h.at fun t0 r0 _ h0 _ => ?_
  dsimp only
  refine checkToken_cases h0 (by simp) (fun t r hr _ => hr.ok trivial) fun t r hty hm hx hr => ?_
  have hv := (h.ok.wf t hm).2.1 hty
  dsimp only
  cases hval : t.val with
  | nil => exact absurd hval hv
  | cons c nm =>
    have hlt := hr.lt  -- in the context for `decreasing_by`, here and in the other proofs by recursion
    simp only [hx, needFront_ite hr, if_pos hlt]
    exact (parseModifiers_good hr.inv).noP hr.suf
termination_by ts.length
decreasing_by all_goals assumption

theorem constructorName_good {t0 : Token} {r0 : List Token} {ab : Bool} (h : Inv text (t0 :: r0)) :
    (constructorName t0 r0 outer ab).Good (t0 :: r0) outer (Lt (t0 :: r0)) := by
  unfold constructorName
  cases ab with
  | false => simp only [Bool.false_eq_true, if_false]; exact parseLCIdentNS_good h
  | true =>
    simp only [if_true]
    refine checkToken_cases h.at (by simp) (fun t r hr _ => ?_) fun t r _ _ hx hr => ?_
    · exact (parseLCIdentNS_good hr.inv).lt hr.suf
    · simp only [hx]
      exact hr.ok hr.lt

theorem parseConstructor_good {ab : Bool} (h : Inv text ts) : (parseConstructor ts outer ab).Good ts outer (Lt ts) := by
  unfold parseConstructor
  refine skipWS_elim h.at fun t0 r0 _ h0 _ => ?_
  dsimp only
  refine (constructorName_good h0.inv).elim_lt h0 Res.Good.err fun name rest h1 => ?_
  simp only [needFront_ite h1]
  refine checkToken_cases h1 (by simp) (fun t r hr _ => hr.ok hr.lt) fun t r hty hm hx hr => ?_
  have hv := (h.ok.wf t hm).2.2 hty
  dsimp only
  cases hval : t.val with
  | nil => exact absurd hval hv
  | cons c digits =>
    dsimp only
    cases parseHex32 digits with
    | none => exact ⟨hm, rfl⟩
    | some v =>
      simp only [hx, needFront_ite hr]
      exact hr.ok hr.lt

theorem templateArgKind_good (h : Inv text ts) : (templateArgKind ts outer).Good ts outer (Lt ts) := by
  unfold templateArgKind
  refine checkToken_elim h.at fun t r hws hr _ => ?_
  dsimp only
  split
  · rename_i hcond
    have hb : (t.ty == TT.ucIdent) = true := by
      simp only [Bool.and_eq_true] at hcond; exact hcond.1
    rw [expectOrPanic_hit hws hb]
    exact (hr.tail hb (by simp)).ok (hr.tail hb (by simp)).lt
  · refine checkToken_cases hr (by simp) (fun t' _ hr _ => ⟨hr.mem, rfl⟩) fun t' r' _ _ hx hr' => ?_
    simp only [hx]
    exact hr'.ok hr'.lt

theorem parseTemplateArgument_good (h : Inv text ts) : (parseTemplateArgument ts outer).Good ts outer (SomeLt ts) := by
  unfold parseTemplateArgument
  refine skipWS_elim h.at fun t0 r0 _ h0 _ => ?_
  dsimp only
  refine expect_elim h0 (by simp) (fun _ _ => h.at.ok SomeLt.none) fun r1 h1 => ?_
  dsimp only
  refine (parseVarIdent_good h1.inv).elim h1 Res.Good.err fun fieldName r2 h2 _ => ?_
  dsimp only
  refine expect_elim h2 (by simp) (fun _ h => errFront_good h) fun r3 h3 => ?_
  dsimp only
  refine (templateArgKind_good h3.inv).elim h3 Res.Good.err fun isNat r4 h4 _ => ?_
  dsimp only
  refine expect_elim h4 (by simp) (fun _ h => errFront_good h) fun r5 h5 => ?_
  simp only [needFront_ite h5]
  exact h5.ok (SomeLt.intro h5.lt)

theorem parseTemplateArguments_good {ts : List Token} {acc : List TemplateArg} (h : Inv text ts) :
    (parseTemplateArguments ts outer acc).Good ts outer NoP := by
  rw [parseTemplateArguments]
  refine (parseTemplateArgument_good h).elim_some h.at Res.Good.err (fun _ _ => h.at.ok trivial) fun a rest hr => ?_
  have hlt := hr.lt
  simp only [if_pos hlt]
  exact (parseTemplateArguments_good hr.inv).noP hr.suf
termination_by ts.length
decreasing_by all_goals assumption

theorem typeDeclArgs_good {ts : List Token} {acc : List Bytes} (h : Inv text ts) :
    (typeDeclArgs ts outer acc).Good ts outer NoP := by
  rw [typeDeclArgs]
  refine skipWS_elim h.at fun t0 r0 _ h0 _ => ?_
  dsimp only
  refine (parseVarIdent_good h0.inv).elim_lt h0 (fun _ _ _ => h0.ok trivial) fun a rest hr => ?_
  have hlt := hr.lt
  simp only [needFront_ite hr, if_pos hlt]
  exact (typeDeclArgs_good hr.inv).noP hr.suf
termination_by ts.length
decreasing_by all_goals assumption

theorem parseTypeDeclaration_good (h : Inv text ts) : (parseTypeDeclaration ts outer).Good ts outer (Lt ts) := by
  unfold parseTypeDeclaration
  refine skipWS_elim h.at fun t0 r0 _ h0 _ => ?_
  dsimp only
  refine (parseUCIdentNS_good h0.inv).elim_lt h0 Res.Good.err fun name rest h1 => ?_
  simp only [needFront_ite h1]
  refine (typeDeclArgs_good h1.inv).elim h1 Res.Good.err fun args rest2 h2 _ => ?_
  simp only [needFront_ite h2]
  exact h2.ok h2.lt

def ArithP (ts : List Token) (force : Bool) : Option Arith → List Token → Prop :=
  fun a rest => (a.isSome = true → rest.length < ts.length) ∧ (force = true → a.isSome = true)

def IsSomeP {α : Type} : Option α → List Token → Prop := fun a _ => a.isSome = true

/-- the tail of `parseArithmetic`: the `+` loop entered after some tokens were consumed -/
theorem Res.Good.arithP {force : Bool} {X : Res (Option Arith)} (hg : X.Good ts' outer IsSomeP) (h : At text ts (k + 1) ts') :
    X.Good ts outer (ArithP ts force) :=
  hg.mono h.suf fun _ _ hr hsome => ⟨fun _ => Nat.lt_of_le_of_lt hr.length_le h.lt, fun _ => hsome⟩

mutual
theorem parseArithmetic_good {ts : List Token} {force : Bool} (h : Inv text ts) :
    (parseArithmetic ts outer force).Good ts outer (ArithP ts force) := by
  rw [parseArithmetic]
  refine expect_elim h.at (by simp) (fun it h1 => ?_) fun r1 h1 => ?_
  · dsimp only
    refine checkToken_cases h1 (by simp) (fun t _ hr _ => ?_) fun t r _ hm hx hr => ?_
    · cases force with
      | true => exact ⟨hr.mem, rfl⟩
      | false => exact h.at.ok (by simp [ArithP])
    · dsimp only
      cases parseU32 t.val with
      | none => exact ⟨hm, rfl⟩
      | some v =>
        have hlt := hr.lt
        simp only [hx, if_pos hlt]
        exact (arithPlusLoop_good hr.inv).arithP hr
  · have hl1 := h1.lt
    simp only [if_pos hl1]
    refine (parseArithmetic_good h1.inv).elim h1 Res.Good.err fun a r2 h2 hp2 => ?_
    cases a with
    | none => exact h.at.ok ⟨by simp, fun hf => by simpa using hp2.2 hf⟩
    | some a =>
      dsimp only
      refine expect_elim h2 (by simp) (fun _ h => errFront_good h) fun r3 h3 => ?_
      have hlt3 := h3.lt
      simp only [if_pos hlt3]
      exact (arithPlusLoop_good h3.inv).arithP h3
termination_by ts.length
decreasing_by all_goals assumption
theorem arithPlusLoop_good {ts : List Token} {res : Arith} (h : Inv text ts) :
    (arithPlusLoop ts outer res).Good ts outer IsSomeP := by
  rw [arithPlusLoop]
  refine expect_elim h.at (by simp) (fun it hr => hr.ok rfl) fun r1 h1 => ?_
  have hl1 := h1.lt
  simp only [if_pos hl1]
  refine (parseArithmetic_good h1.inv).elim h1 Res.Good.err fun a r2 h2 hp2 => ?_
  cases a with
  | none => exact absurd (hp2.2 rfl) (by simp)
  | some res2 =>
    dsimp only
    split
    · exact errFront_good h2
    · have hlt2 := h2.lt
      rw [if_pos hlt2]
      exact (arithPlusLoop_good h2.inv).mono h2.suf fun _ _ _ hp => hp
termination_by ts.length
decreasing_by all_goals assumption
end

theorem parseScaleFactorOpt_good (h : Inv text ts) : (parseScaleFactorOpt ts outer).Good ts outer NoP := by
  unfold parseScaleFactorOpt
  refine skipWS_elim h.at fun t0 r0 _ h0 _ => ?_
  dsimp only
  refine (parseVarIdent_good h0.inv).elim h0 (fun _ _ _ => ?_) fun n rest hr _ => ?_
  · refine (parseArithmetic_good h0.inv).elim h0 Res.Good.err fun a rest hr _ => ?_
    cases a with
    | none => exact h0.ok trivial
    | some a => exact hr.ok trivial
  · simp only [needFront_ite hr]
    exact hr.ok trivial

theorem parseFieldMask_good (h : Inv text ts) : (parseFieldMask ts outer).Good ts outer NoP := by
  unfold parseFieldMask
  have hnone : (Res.ok (none : Option FieldMask) ts).Good ts outer NoP := h.at.ok trivial
  refine skipWS_elim h.at fun t0 r0 _ h0 _ => ?_
  dsimp only
  refine (parseVarIdent_good h0.inv).elim h0 (fun _ _ _ => hnone) fun name r1 h1 _ => ?_
  simp only [needFront_ite h1]
  refine expect_elim h1 (by simp) (fun _ _ => hnone) fun r2 h2 => ?_
  dsimp only
  refine skipWS_elim h2 fun t3 r3 _ h3 _ => ?_
  dsimp only
  refine checkToken_cases h3 (by simp) (fun t _ hr _ => ⟨hr.mem, rfl⟩) fun t r _ hm hx h4 => ?_
  dsimp only
  cases parseU32 t.val with
  | none => exact ⟨hm, rfl⟩
  | some bit =>
    simp only [hx, needFront_ite h4]
    exact expect_elim h4 (by simp) (fun _ h => errFront_good h) fun r5 h5 => h5.ok trivial

@[elab_as_elim] theorem parseFieldName_elim {motive : Option (Bytes × List Token) → Prop} (h : At text ts k ts')
    (c : ∀ name r, At text ts k r → motive (some (name, r))) : motive (parseFieldName ts' outer) := by
  unfold parseFieldName
  refine (parseVarIdent_good h.inv).elim h (fun _ _ _ => c _ _ h) fun name r1 h1 _ => ?_
  simp only [needFront_ite h1]
  exact expect_elim h1 (by simp) (fun _ _ => c _ _ h) fun r2 h2 => c _ _ h2.weaken

theorem rwsOpen_good {scale : Option ScaleFactor} (h : Inv text ts) :
    (rwsOpen scale ts outer).Good ts outer (fun b rest => b = true → rest.length < ts.length) := by
  unfold rwsOpen
  cases scale with
  | some sc =>
    refine expect_elim h.at (by simp) (fun it hr => hr.ok nofun) fun r1 h1 => ?_
    dsimp only
    exact expect_elim h1 (by simp) (fun _ h => errFront_good h) fun r2 h2 => h2.ok fun _ => h2.lt
  | none =>
    dsimp only
    exact expect_elim h.at (by simp) (fun it hr => hr.ok nofun) fun r1 h1 => h1.ok fun _ => h1.lt

end

theorem skipToNewline_ok {ts : List Token} (h : EndsEof ts) :
    EndsEof (skipToNewline ts).2 ∧ WSPre ts (skipToNewline ts).2 := by
  fun_induction skipToNewline ts with
  | case1 => exact absurd rfl h.ne_nil
  | case2 t rest hty ih =>  -- a comment
    have := ih (h.tail (by rw [hty]; simp))
    exact ⟨this.1, this.2.cons (by simp [hty, TT.isWS])⟩
  | case5 t rest c hty hc ih =>  -- a space or tab
    have := ih (h.tail (by rw [hty]; simp))
    exact ⟨this.1, this.2.cons (by simpa [hty, TT.isWS, cSpace, cTab] using hc)⟩
  | case3 | case4 | case6 | case7 => exact ⟨h, .refl _⟩  -- stops at this token

theorem sliceBetween_ok {text : Bytes} {b e : List Token} (hb : ToksOK text b) (hpre : WSPre b e) (hne : e ≠ []) :
    ∃ c, sliceBetween text b e = some c := by
  obtain ⟨ws, rfl, _⟩ := hpre
  cases e with
  | nil => exact absurd rfl hne
  | cons te e' =>
    have hte := hb.inRange te (by simp)
    cases ws with
    | nil =>
      simp only [List.nil_append, sliceBetween, sliceText]
      rw [if_pos (by simp; omega)]; exact ⟨_, rfl⟩
    | cons tb ws' =>
      have hs := hb.sorted
      simp only [List.cons_append, List.pairwise_cons] at hs
      have := hs.1 te (by simp)
      simp only [List.cons_append, sliceBetween, sliceText]
      rw [if_pos (by simp; omega)]; exact ⟨_, rfl⟩

theorem wspre_cons_of_longer {tok : Token} {it' e : List Token} (h : WSPre (tok :: it') e) (hl : (tok :: it').length > e.length) :
    tok.ty.isWS = true ∧ WSPre it' e := by
  obtain ⟨ws, heq, hws⟩ := h
  cases ws with
  | nil => simp at heq; rw [heq] at hl; simp at hl
  | cons w ws' =>
    simp only [List.cons_append, List.cons.injEq] at heq
    obtain ⟨rfl, rfl⟩ := heq
    exact ⟨(List.forall_mem_cons.mp hws).1, ws', rfl, (List.forall_mem_cons.mp hws).2⟩

theorem commentBeforeLoop_ok {cs e : List Token} : ∀ (it begin : List Token) (nonWS : Bool),
    WSPre it e → it <:+ cs → WSPre begin e → begin <:+ cs →
    ∃ b, commentBeforeLoop e.length it begin nonWS = some b ∧ WSPre b e ∧ b <:+ cs
  | [], begin, nonWS, _, _, hb, hbs => ⟨begin, by simp [commentBeforeLoop], hb, hbs⟩
  | tok :: it', begin, nonWS, hi, his, hb, hbs => by
    unfold commentBeforeLoop
    split
    · rename_i hl
      obtain ⟨hws, hi'⟩ := wspre_cons_of_longer hi hl
      have his' : it' <:+ cs := (List.suffix_cons _ _).trans his
      split
      · exact commentBeforeLoop_ok it' begin true hi' his' hb hbs
      · split
        · exact commentBeforeLoop_ok it' it' false hi' his' hi' his'
        · exact commentBeforeLoop_ok it' begin false hi' his' hb hbs
      · rename_i c hty
        split
        · exact commentBeforeLoop_ok it' begin nonWS hi' his' hb hbs
        · rename_i hc
          rw [hty] at hws
          simp only [TT.isWS] at hws
          exact absurd (by simpa [cSpace, cTab] using hws) hc
      · rename_i h1 h2 h3
        -- not a comment, a newline or a `ch` (`h1`, `h2`, `h3`): not white space, against `hws`
        unfold TT.isWS at hws
        split at hws
        · exact absurd ‹_› h1
        · exact absurd ‹_› h2
        · exact absurd ‹_› (h3 _)
        · contradiction
    · exact ⟨begin, rfl, hb, hbs⟩

theorem parseCommentBefore_ok {text : Bytes} {cs e : List Token} (hcs : ToksOK text cs) (hpre : WSPre cs e) (hne : e ≠ []) :
    ∃ c, parseCommentBefore text cs e = some c := by
  unfold parseCommentBefore
  obtain ⟨b, hb, hbe, hbs⟩ := commentBeforeLoop_ok (cs := cs) cs cs false hpre (List.suffix_refl _) hpre (List.suffix_refl _)
  rw [hb]
  exact sliceBetween_ok (hcs.suffix hbs) hbe hne

/-- after a field or a combinator: the rest of the line, and the comment on it if it ends there -/
theorem commentRight_ok {text : Bytes} {ts r1 : List Token} {k : Nat} (h1 : At text ts k r1) :
    ∃ nl r2 cr, skipToNewline r1 = (nl, r2) ∧ (if nl = true then parseCommentRight text r1 r2 else some []) = some cr ∧
      At text ts k r2 := by
  obtain ⟨he2, hw2⟩ := skipToNewline_ok h1.inv.eof
  cases hsk : skipToNewline r1 with
  | mk nl r2 =>
    rw [hsk] at he2 hw2
    have hcr : ∃ cr, (if nl = true then parseCommentRight text r1 r2 else some []) = some cr := by
      cases nl with
      | false => exact ⟨[], rfl⟩
      | true => exact sliceBetween_ok h1.inv.ok hw2 he2.ne_nil
    obtain ⟨cr, hcr⟩ := hcr
    exact ⟨nl, r2, cr, rfl, hcr, h1.to hw2.suffix he2⟩

section
variable {text : Bytes} {outer : Pos}

structure AllGood (text : Bytes) (outer : Pos) (n : Nat) : Prop where
  typeRef : ∀ ts : List Token, ts.length ≤ n → Inv text ts → ∀ af arb, (parseTypeRef ts af arb outer).Good ts outer (SomeLt ts)
  round : ∀ ts : List Token, ts.length ≤ n → Inv text ts → (parseTypeRefInRoundBracketsOpt ts outer).Good ts outer (SomeLt ts)
  angle : ∀ ts : List Token, ts.length ≤ n → Inv text ts → (parseTypeRefWithAngleBracketsOpt ts outer).Good ts outer (SomeLt ts)
  aot : ∀ ts : List Token, ts.length ≤ n → Inv text ts → ∀ af, (parseArithmeticOrTypeOpt ts af outer).Good ts outer (SomeLt ts)
  applyLoop : ∀ ts : List Token, ts.length ≤ n → Inv text ts → ∀ acc, (applyArgsLoop ts outer acc).Good ts outer NoP
  angleLoop : ∀ ts : List Token, ts.length ≤ n → Inv text ts → ∀ acc, (angleArgsLoop ts outer acc).Good ts outer NoP
  rws : ∀ ts : List Token, ts.length ≤ n → Inv text ts → (parseRepeatWithScaleOpt text ts outer).Good ts outer (SomeLt ts)
  field : ∀ ts : List Token, ts.length ≤ n → Inv text ts → ∀ cs, ToksOK text cs → WSPre cs ts →
    (parseField text cs ts outer).Good ts outer (Lt ts)
  fields : ∀ ts : List Token, ts.length ≤ n → Inv text ts → ∀ (f1 f2 : TT) acc, f1 ≠ .eof → f2 ≠ .eof →
    (parseFields text ts ts f1 f2 outer acc).Good ts outer (Lt ts)

/-! One step of the induction for each function, in the order of their dependencies, for an input `ts` of length at most
`n + 1`: calls on a shorter iterator are covered by `ih`, calls on one that may be as long by the steps of the callees,
proved before. -/
section
variable {n : Nat} (ih : AllGood text outer n) (ts : List Token) (hn : ts.length ≤ n + 1) (h : Inv text ts)
include ih hn h

theorem roundBr_step : (parseTypeRefInRoundBracketsOpt ts outer).Good ts outer (SomeLt ts) := by
  rw [parseTypeRefInRoundBracketsOpt]
  refine expect_elim h.at (by simp) (fun _ _ => h.at.ok SomeLt.none) fun r1 h1 => ?_
  simp only [if_pos h1.lt]
  refine (ih.typeRef r1 (h1.le_of hn) h1.inv true true).elim_some h1 Res.Good.err (fun _ _ => errFront_good h1)
    fun res r2 h2 => ?_
  dsimp only
  exact expect_elim h2 (by simp) (fun _ h => errFront_good h) fun r3 h3 => h3.ok (SomeLt.intro h3.lt)

theorem angleBr_step : (parseTypeRefWithAngleBracketsOpt ts outer).Good ts outer (SomeLt ts) := by
  rw [parseTypeRefWithAngleBracketsOpt]
  have hnone : (Res.ok (none : Option TypeRef) ts).Good ts outer (SomeLt ts) := h.at.ok SomeLt.none
  refine (parseTypeRefAsName_good h).elim_lt h.at (fun _ _ _ => hnone) fun name r1 h1 => ?_
  dsimp only
  refine expect_elim h1 (by simp) (fun _ _ => hnone) fun r2 h2 => ?_
  dsimp only
  refine skipWS_elim h2 fun t3 r3 _ h3 _ => ?_
  have hg : r3.length + 1 < ts.length := h3.lt  -- `(t3 :: r3).length < _`, the same by definition
  simp only [if_pos hg]
  refine (ih.angleLoop (t3 :: r3) (h3.le_of hn) h3.inv []).elim h3 Res.Good.err fun args rest h4 _ => ?_
  exact h4.ok (SomeLt.intro h4.lt)

theorem typeRef_step (af arb : Bool) : (parseTypeRef ts af arb outer).Good ts outer (SomeLt ts) := by
  rw [parseTypeRef]
  refine skipWS_elim h.at fun t0 r0 _ h0 _ => ?_
  dsimp only
  refine expect_elim h0 (by simp) (fun it0 h1 => ?_) fun r1 h1 => ?_
  · dsimp only
    refine expect_any h1 (by simp) fun bare it1 h2 => ?_
    dsimp only
    refine skipWS_elim h2 fun t2 r2 _ h3 _ => ?_
    have hle3 := h3.suf.length_le
    simp only [if_pos (suffix_cons_lt h3.suf)]
    refine (roundBr_step ih _ (Nat.le_trans hle3 hn) h3.inv).elim_some h3 Res.Good.err (fun _ _ => ?_) fun pt rest h4 => ?_
    · -- no `(`
      refine (angleBr_step ih _ (Nat.le_trans hle3 hn) h3.inv).elim_some h3 Res.Good.err (fun _ _ => ?_) fun pt rest h5 => ?_
      · -- no `name<`: a name, with arguments if `af`
        refine (parseTypeRefAsName_good h3.inv).elim_lt h3 (fun _ _ _ => h.at.ok SomeLt.none) fun name rest h6 => ?_
        simp only [needFront_ite h6]
        cases af with
        | false => exact h6.ok (SomeLt.intro h6.lt)
        | true =>
          simp only [if_true, if_pos h6.lt]
          refine (ih.applyLoop rest (h6.le_of hn) h6.inv []).elim h6 Res.Good.err fun args rest2 h7 _ => ?_
          exact h7.ok (SomeLt.intro h7.lt)
      · simp only [needFront_ite h5]  -- `name<…>`
        exact h5.ok (SomeLt.intro h5.lt)
    · cases arb with  -- `(…)`
      | false => exact ⟨h3.mem, rfl⟩
      | true =>
        simp only [Bool.not_true, Bool.false_eq_true, if_false, needFront_ite h4]
        exact h4.ok (SomeLt.intro h4.lt)
  · simp only [needFront_ite h1]
    exact h1.ok (SomeLt.intro h1.lt)

theorem aot_step (af : Bool) : (parseArithmeticOrTypeOpt ts af outer).Good ts outer (SomeLt ts) := by
  rw [parseArithmeticOrTypeOpt]
  refine skipWS_elim h.at fun t0 r0 _ h0 _ => ?_
  dsimp only
  refine (parseArithmetic_good h0.inv).elim h0 Res.Good.err fun a rest h1 hp1 => ?_
  cases a with
  | some a =>
    simp only [needFront_ite h1]
    exact h1.ok (SomeLt.intro (h0.past h1 (hp1.1 rfl)).lt)
  | none =>
    simp only [if_pos (suffix_cons_lt h0.suf)]
    exact (typeRef_step ih (t0 :: r0) (Nat.le_trans h0.suf.length_le hn) h0.inv af true).elim_some h0 Res.Good.err (fun _ _ => h.at.ok SomeLt.none)
      fun t rest h2 => h2.ok (SomeLt.intro h2.lt)

theorem applyLoop_step (acc : List AOT) : (applyArgsLoop ts outer acc).Good ts outer NoP := by
  rw [applyArgsLoop, needFront_ite h.at]
  refine (aot_step ih ts hn h false).elim_some h.at Res.Good.err (fun _ _ => h.at.ok trivial) fun aot rest hr => ?_
  simp only [if_pos hr.lt]
  exact (ih.applyLoop rest (hr.le_of hn) hr.inv _).noP hr.suf

theorem angleLoop_step (acc : List AOT) : (angleArgsLoop ts outer acc).Good ts outer NoP := by
  rw [angleArgsLoop]
  refine (aot_step ih ts hn h true).elim_some h.at Res.Good.err (fun _ _ => errFront_good h.at) fun aot rest h1 => ?_
  dsimp only
  refine expect_elim h1 (by simp) (fun it h2 => ?_) fun r1 h2 => ?_
  · simp only [needFront_ite h2]
    exact expect_elim h2 (by simp) (fun _ h => errFront_good h) fun r2 h3 => h3.ok trivial
  · simp only [if_pos h2.lt]
    exact (ih.angleLoop r1 (h2.le_of hn) h2.inv _).noP h2.suf

theorem rws_step : (parseRepeatWithScaleOpt text ts outer).Good ts outer (SomeLt ts) := by
  rw [parseRepeatWithScaleOpt]
  refine skipWS_elim h.at fun t0 r0 _ h0 _ => ?_
  dsimp only
  refine (parseScaleFactorOpt_good h0.inv).elim h0 Res.Good.err fun scale r1 h1 _ => ?_
  dsimp only
  refine (rwsOpen_good h1.inv).elim h1 Res.Good.err fun b r3 h3' hp3 => ?_
  cases b with
  | false => exact h.at.ok SomeLt.none
  | true =>
    have h3 := h1.past h3' (hp3 rfl)
    simp only [if_pos h3.lt]
    refine (ih.fields r3 (h3.le_of hn) h3.inv (.ch cRSquare) (.ch cRSquare) [] (by simp) (by simp)).elim h3 Res.Good.err
      fun res r4 h4 _ => ?_
    simp only [needFront_ite h4]
    exact h4.ok (SomeLt.intro h4.lt)

theorem field_step (cs : List Token) (hcs : ToksOK text cs) (hw : WSPre cs ts) : (parseField text cs ts outer).Good ts outer (Lt ts) := by
  rw [parseField]
  refine skipWS_elim h.at fun t0 r0 _ h0 hw0 => ?_
  obtain ⟨cb, hcb⟩ := parseCommentBefore_ok hcs (hw.trans hw0) (List.cons_ne_nil _ _)
  simp only [hcb]
  refine parseFieldName_elim h0 fun fieldName r1 h1 => ?_
  dsimp only
  refine (parseFieldMask_good h1.inv).elim h1 Res.Good.err fun mask r2' h2' _ => ?_
  dsimp only
  have h2 : At text ts 0 (if mask.isSome = true then r2' else r1) := by split <;> assumption
  refine expect_any h2 (by simp) fun excl r3 h3 => ?_
  have hle3 := h3.suf.length_le
  simp only [if_pos hle3]
  refine (rws_step ih r3 (Nat.le_trans hle3 hn) h3.inv).elim_some h3 Res.Good.err (fun _ _ => ?_) fun sr r4 h4 => ?_
  · -- not a repetition: a type
    refine (typeRef_step ih r3 (Nat.le_trans hle3 hn) h3.inv false true).elim_some h3 Res.Good.err (fun _ _ => errFront_good h3)
      fun t r4 h5 => ?_
    simp only [needFront_ite h5]
    exact h5.ok h5.lt
  · obtain ⟨scale, rep⟩ := sr
    simp only [needFront_ite h4]
    exact h4.ok h4.lt

theorem fields_step (f1 f2 : TT) (acc : List Field) (hf1 : f1 ≠ .eof)
    (hf2 : f2 ≠ .eof) : (parseFields text ts ts f1 f2 outer acc).Good ts outer (Lt ts) := by
  rw [parseFields]
  refine checkToken_cases h.at hf1 (fun t r hr hw => ?_) fun t r _ _ _ hr => hr.ok hr.lt
  dsimp only
  refine checkToken_cases hr hf2 (fun t' r' hr' hw' => ?_) fun t' r' _ _ _ hr' => hr'.ok hr'.lt
  have hlt : r'.length < ts.length := suffix_cons_lt hr'.suf
  simp only [if_pos hlt]
  refine (field_step ih (t' :: r') (Nat.le_trans hr'.suf.length_le hn) hr'.inv ts h.ok (hw.trans hw')).elim_lt hr' Res.Good.err
    fun field r1 h1 => ?_
  obtain ⟨nl, r2, cr, hsk, hcr, h2⟩ := commentRight_ok h1
  simp only [hsk, hcr, if_pos h2.lt]
  exact (ih.fields r2 (h2.le_of hn) h2.inv f1 f2 _ hf1 hf2).lt h2.suf

end

theorem allGood : ∀ n, AllGood text outer n
  | 0 => by
    constructor <;> intro ts hn h <;> have := List.length_pos_iff.mpr h.eof.ne_nil <;> omega
  | n+1 =>
    have ih := allGood n
    ⟨typeRef_step ih, roundBr_step ih, angleBr_step ih, aot_step ih, applyLoop_step ih, angleLoop_step ih, rws_step ih,
      field_step ih, fields_step ih⟩

theorem parseTypeRef_good {ts : List Token} (h : Inv text ts) (af arb : Bool) :
    (parseTypeRef ts af arb outer).Good ts outer (SomeLt ts) := (allGood ts.length).typeRef ts (Nat.le_refl _) h af arb

theorem parseFields_good {ts : List Token} (h : Inv text ts) (f1 f2 : TT) (acc : List Field) (h1 : f1 ≠ .eof) (h2 : f2 ≠ .eof) :
    (parseFields text ts ts f1 f2 outer acc).Good ts outer (Lt ts) := (allGood ts.length).fields ts (Nat.le_refl _) h f1 f2 acc h1 h2

theorem parseFuncDecl_good {ts : List Token} (h : Inv text ts) : (parseFuncDecl ts outer).Good ts outer (Lt ts) := by
  unfold parseFuncDecl
  exact (parseTypeRef_good h true false).elim_some h.at Res.Good.err (fun _ _ => errFront_good h.at)
    fun t rest hr => hr.ok hr.lt

theorem combinatorBody_good {ts : List Token} {isF : Bool} (h : Inv text ts) :
    (combinatorBody text ts outer isF).Good ts outer (Lt ts) := by
  unfold combinatorBody
  refine checkToken_cases h.at (by simp) (fun t5 r5 hr _ => ?_) fun t5 r5 _ hm hx h6 => ?_
  · dsimp only
    refine (parseFields_good hr.inv (.ch cEqual) .functionSign [] (by simp) (by simp)).elim_lt hr Res.Good.err
      fun res r6 h6 => ?_
    obtain ⟨fin, fields⟩ := res
    exact h6.ok h6.lt
  · cases isF with
    | true => exact ⟨hm, rfl⟩
    | false =>
      simp only [Bool.false_eq_true, if_false, hx]
      exact expect_elim h6 (by simp) (fun _ h => errFront_good h) fun r7 h7 => h7.ok h7.lt

theorem combinatorDecl_good {ts : List Token} {b isF : Bool} (h : Inv text ts) :
    (combinatorDecl ts outer b isF).Good ts outer (Lt ts) := by
  unfold combinatorDecl
  cases isF with
  | true =>
    simp only [if_true]
    exact (parseFuncDecl_good h).elim h.at Res.Good.err fun fd r7 hr hl => hr.ok hl
  | false =>
    simp only [Bool.false_eq_true, if_false]
    exact (parseTypeDeclaration_good h).elim h.at Res.Good.err fun tdl r7 hr hl => hr.ok hl

end
section
variable {text : Bytes}

/-! A combinator is parsed at a token `t` that is not white space (the file loop has looked at it): `t.pos` is the outer
position of its errors. -/

theorem parseCombinatorPre_good {t : Token} {r cs : List Token} {isF ab : Bool} (h : Inv text (t :: r))
    (hws : t.ty.isWS = false) (hcs : ToksOK text cs) (hw : WSPre cs (t :: r)) :
    (parseCombinatorPre text cs (t :: r) isF ab).Good (t :: r) t.pos (Lt (t :: r)) := by
  unfold parseCombinatorPre
  obtain ⟨cb, hcb⟩ := parseCommentBefore_ok hcs hw (List.cons_ne_nil _ _)
  simp only [skipWS, hws, Bool.false_eq_true, if_false, hcb]
  refine (parseModifiers_good (outer := t.pos) h).elim h.at Res.Good.err fun mods r1 h1 _ => ?_
  dsimp only
  refine (parseConstructor_good h1.inv).elim h1 Res.Good.err fun construct r2 h2 _ => ?_
  dsimp only
  refine skipWS_elim h2 fun t3 r3 _ h3 _ => ?_
  dsimp only
  refine (parseTemplateArguments_good h3.inv).elim h3 Res.Good.err fun targs r4 h4 _ => ?_
  simp only [needFront_ite h4]
  refine (combinatorBody_good h4.inv).elim h4 Res.Good.err fun body r6 h6 _ => ?_
  obtain ⟨builtin, isFunction, fields⟩ := body
  dsimp only
  refine (combinatorDecl_good h6.inv).elim h6 Res.Good.err fun decl r7 h7 _ => ?_
  obtain ⟨builtin', typeDecl, funcDecl⟩ := decl
  dsimp only
  exact expect_elim h7 (by simp) (fun _ h => errFront_good h) fun r8 h8 => h8.ok h8.lt

theorem parseCombinator_good {t : Token} {r cs : List Token} {isF ab : Bool} (h : Inv text (t :: r))
    (hws : t.ty.isWS = false) (hcs : ToksOK text cs) (hw : WSPre cs (t :: r)) :
    (parseCombinator text cs (t :: r) isF ab).Good (t :: r) t.pos (Lt (t :: r)) := by
  unfold parseCombinator
  refine (parseCombinatorPre_good h hws hcs hw).elim_lt h.at Res.Good.err fun td r8 h8 => ?_
  obtain ⟨nl, r9, cr, hsk, hcr, h9⟩ := commentRight_ok h8
  simp only [hsk, hcr, needFront_ite h9]
  exact h9.ok h9.lt

def ParseOK (text : Bytes) : FileRes → Prop
  | .ok _ => True
  | .err e | .lexErr e => e.end.off ≤ text.length ∧ contextCorrupted text e.outer e.begin e.end = false
  | .panic | .diverge => False

theorem PErr.inText {e : PErr} (h1 : e.tok.pos.off + e.tok.val.length ≤ text.length) (h2 : e.tok.pos.slo ≤ e.tok.pos.off)
    (h3 : e.outer.slo ≤ e.tok.pos.slo) : e.end.off ≤ text.length ∧ contextCorrupted text e.outer e.begin e.end = false := by
  refine ⟨h1, decide_eq_false ?_⟩
  simp only [PErr.begin, PErr.end]
  omega

theorem ToksOK.parseOK_err {t : Token} {r : List Token} {e : PErr} (hok : ToksOK text (t :: r)) (hm : e.tok ∈ t :: r)
    (ho : e.outer = t.pos) : ParseOK text (.err e) := by
  have hr := hok.inRange e.tok hm
  refine PErr.inText hr.1 hr.2 (ho ▸ ?_)
  rcases List.mem_cons.mp hm with h | h
  · rw [h]; exact Nat.le_refl _
  · exact ((List.pairwise_cons.mp hok.sorted).1 _ h).2

theorem parseFileLoop_ok {ab : Bool} {ts : List Token} {fs : Bool} {acc : List Item} (h : Inv text ts) :
    ParseOK text (parseFileLoop text ab ts ts fs acc) := by
  rw [parseFileLoop]
  refine checkToken_elim h.at fun t r hws hr hpre => ?_
  obtain ⟨sl, hsl⟩ := sliceBetween_ok (text := text) h.ok hpre (List.cons_ne_nil _ _)
  have hlt : r.length < ts.length := suffix_cons_lt hpre.suffix
  cases hb : (t.ty == TT.eof) with
  | true => simp only [hsl]; trivial
  | false =>
    dsimp only
    split
    · simp only [hsl]
      exact parseFileLoop_ok (h.suffix ((List.suffix_cons _ _).trans hpre.suffix) (hr.inv.eof.tail (by simpa using hb)))
    · -- positions counted from `t :: r`, not from `ts`: an error token is then `t` or behind it, so not before its `outer`, `t.pos`
      refine (parseCombinator_good hr.inv hws h.ok hpre).elim_lt hr.inv.at (fun e => hr.inv.ok.parseOK_err)
        fun td rest h1 => ?_
      have hl : rest.length < ts.length := Nat.lt_of_lt_of_le h1.lt hpre.suffix.length_le
      simp only [needFront_ite h.at, if_pos hl]
      exact parseFileLoop_ok h1.inv
termination_by ts.length
decreasing_by all_goals assumption

theorem parseTLFile_ok {o : LexOpts} {text : Bytes} {r : FileRes} (h : parseTLFile o text = r) : ParseOK text r := by
  subst h
  unfold parseTLFile
  cases hg : generateTokens o text with
  | ok toks rest =>
    obtain ⟨hrec, _, hok, pre, eofTok, htoks, hty, _⟩ := generateTokens_ok hg
    have hne : (recombine toks rest != text) = false := by simp [hrec]
    simp only [hne, Bool.false_eq_true, if_false]
    exact parseFileLoop_ok ⟨⟨pre, eofTok, htoks, hty⟩, hok⟩
  | err toks e =>
    obtain ⟨h1, h2, ho⟩ := generateTokens_ok hg
    exact PErr.inText h1 h2 (ho ▸ Nat.le_refl _)
  | _ => exact generateTokens_ok hg

end

/-- the Go slice `fc[a:b]` as a total function: what `goSlice` returns when `a ≤ b ≤ len(fc)` (`goSlice_ok`) -/
def sl (fc : Bytes) (a b : Nat) : Bytes := (fc.drop a).take (b - a)

theorem goSlice_ok {s : Bytes} {b e : Nat} (h1 : b ≤ e) (h2 : e ≤ s.length) : goSlice s b e = some (sl s b e) := by
  unfold goSlice sl
  rw [if_pos (by simp; omega)]

theorem safeRange_eq (s : Bytes) (b e : Nat) :
    safeRange s b e = some (if b ≤ e ∧ e ≤ s.length then sl s b e else [], !decide (b ≤ e ∧ e ≤ s.length)) := by
  unfold safeRange
  by_cases h : b ≤ e ∧ e ≤ s.length
  · rw [if_neg (by simp; omega), goSlice_ok h.1 h.2]; simp [h]
  · rw [if_pos (by simp; omega)]; simp [h]

theorem safeRange_ok {s : Bytes} {b e : Nat} (h1 : b ≤ e) (h2 : e ≤ s.length) : safeRange s b e = some (sl s b e, false) := by
  simp [safeRange_eq, h1, h2]

theorem consolePrint_ne_none (fc : Bytes) (outer begin end_ : Pos) (errText file : Bytes) (w : Bool) :
    consolePrint fc outer begin end_ errText file w ≠ none := by
  unfold consolePrint
  simp only [safeRange_eq]
  generalize hT : (if end_.off > fc.length then _ else _ : Option (Bytes × Bool)) = tail
  obtain ⟨⟨t, c6⟩, rfl⟩ : ∃ p, tail = some p := by
    rw [← hT]
    split
    · exact ⟨_, rfl⟩
    · rw [goSlice_ok (by omega) (Nat.le_refl _)]; exact ⟨_, rfl⟩
  -- all slices are `some`: for either form of the error line the matches reduce to `if _ then some _ else some _`
  cases begin.slo == end_.slo <;> exact fun h => nomatch (apply_ite some _ _ _).trans h

/-- For an error that begins and ends on one line and whose context is not corrupted, `consolePrint` renders the
two-line form: the lines from the start of the combinator, the offending line with the error token coloured, and the
arrow line. -/
theorem consolePrint_pretty (fc : Bytes) (outer begin end_ : Pos) (errText file : Bytes) (w : Bool)
    (hsame : begin.slo = end_.slo) (h : contextCorrupted fc outer begin end_ = false) :
    consolePrint fc outer begin end_ errText file w =
      some (sl fc outer.slo begin.slo ++ replaceTabs (sl fc begin.slo begin.off) ++
        colorize (if w then colYellow else colRed) (replaceTabs (sl fc begin.off end_.off)) ++
        replaceTabs (upToLineEnd (sl fc end_.off fc.length)) ++ [cLF] ++
        List.replicate (replaceTabs (sl fc begin.slo begin.off)).length cSpace ++
        colorize colWhite ((if (List.replicate (replaceTabs (sl fc begin.off end_.off)).length (94 : UInt8)).isEmpty then [94]
          else List.replicate (replaceTabs (sl fc begin.off end_.off)).length (94 : UInt8)) ++ [cMinus, cMinus]) ++ [cSpace] ++
        (if w then colorize colYellow (strBytes "warning: ") else []) ++
        (errText ++ [cSpace] ++ file ++ strBytes " (line " ++ decBytes begin.line ++ strBytes " col " ++ decBytes begin.col ++ [cRRound]) ++
        [cLF]) := by
  have hN := of_decide_eq_false h
  have hemp : sl fc begin.slo end_.slo = [] := by simp [sl, hsame]
  unfold consolePrint
  rw [safeRange_ok (by omega) (by omega), safeRange_ok (by omega) (by omega), safeRange_ok (by omega) (by omega)]
  simp only [beq_iff_eq.mpr hsame, if_true]
  rw [safeRange_ok (by omega) (by omega), safeRange_ok (by omega) (by omega), if_neg (by omega),
    goSlice_ok (by omega) (Nat.le_refl _)]
  simp only [Bool.or_self, Bool.false_eq_true, if_false, hemp, ne_eq, not_true_eq_false]

end TLVerif.Syntax
