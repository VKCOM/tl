import TLVerif.Syntax.PError
import TLVerif.Syntax.DocCanonical
/-! Lemmas about tags: the shape of a successful `parseCombinator`, implicit tag = CRC32 of the canonical form, lifting a
property of all parsed combinators to the whole file; the printers inside repetition brackets against the documented form. -/
namespace TLVerif.Syntax
theorem withTag_canonical (td : Combinator) : td.withTag.canonicalForm = td.canonicalForm := by
  unfold Combinator.withTag
  split <;> rfl

theorem withTag_spec (td : Combinator) :
    td.withTag.construct.explicit = td.construct.explicit ∧
    (td.construct.explicit = false → td.withTag.construct.id = crc32 td.canonicalForm) ∧
    (td.construct.explicit = true → td.withTag = td) := by
  unfold Combinator.withTag
  cases h : td.construct.explicit <;> simp [Combinator.genCrc32, h]

theorem parseCombinator_ok_inv {text : Bytes} {cs ts rest : List Token} {isF ab : Bool} {td : Combinator}
    (h : parseCombinator text cs ts isF ab = .ok td rest) :
    ∃ pre r8 cr, parseCombinatorPre text cs ts isF ab = .ok pre r8 ∧ td = { pre.withTag with cr := cr } := by
  revert h
  fun_cases parseCombinator text cs ts isF ab <;> intro h <;> try contradiction
  rename_i pre r8 hp _ _ _ cr _ _  -- the one branch that returns: `hp` is `parseCombinatorPre … = .ok pre r8`
  cases h
  exact ⟨pre, r8, cr, hp, rfl⟩

def TagOK (c : Combinator) : Prop :=
  c.construct.explicit = false → c.construct.id = crc32 c.canonicalForm

theorem parseCombinator_tagOK {text : Bytes} {cs ts rest : List Token} {isF ab : Bool} {td : Combinator}
    (h : parseCombinator text cs ts isF ab = .ok td rest) : TagOK td := by
  obtain ⟨pre, r8, cr, _, rfl⟩ := parseCombinator_ok_inv h
  intro he
  have hs := withTag_spec pre
  exact (hs.2.1 (hs.1.symm.trans he)).trans (congrArg crc32 (withTag_canonical pre).symm)

theorem parseFileLoop_all {text : Bytes} {ab : Bool} (P : Combinator → Prop)
    (hP : ∀ cs ts isF td rest, parseCombinator text cs ts isF ab = .ok td rest → P td)
    {cs ts : List Token} {fs : Bool} {acc : List Item} {tl : TL}
    (h : parseFileLoop text ab cs ts fs acc = .ok tl) (hacc : ∀ c, Item.comb c ∈ acc → P c) :
    ∀ c, Item.comb c ∈ tl.items → P c := by
  revert h hacc
  fun_induction parseFileLoop text ab cs ts fs acc <;> intro h hacc <;> try contradiction
  · cases h; exact hacc  -- eof
  · rename_i ih  -- a section line
    exact ih h fun c hc => hacc c (by simpa using hc)
  · rename_i hx _ _ ih  -- a combinator, `hx` its `parseCombinator … = .ok _ _`
    refine ih h fun c hc => ?_
    rcases List.mem_append.mp hc with hc | hc
    · exact hacc c hc
    · simp only [List.mem_singleton, Item.comb.injEq] at hc
      exact hc ▸ hP _ _ _ _ _ hx

theorem checkToken_hit {ts r : List Token} {ty : TT} {t : Token} (h : checkToken ts ty = some (true, t, r)) : t.ty = ty := by
  unfold checkToken at h
  split at h
  · contradiction
  · simp only [Option.some.injEq, Prod.mk.injEq] at h
    obtain ⟨h1, rfl, _⟩ := h
    simpa using h1

theorem mem_combinators {tl : TL} {c : Combinator} : c ∈ tl.combinators ↔ Item.comb c ∈ tl.items := by
  unfold TL.combinators
  rw [List.mem_filterMap]
  constructor
  · rintro ⟨it, hit, hc⟩
    cases it with
    | «section» a b => simp at hc
    | comb c' => simp at hc; subst hc; exact hit
  · intro h; exact ⟨_, h, rfl⟩

theorem parseTLFile_all {o : LexOpts} {text : Bytes} {tl : TL} (P : Combinator → Prop)
    (hP : ∀ cs ts isF td rest, parseCombinator text cs ts isF o.allowBuiltin = .ok td rest → P td)
    (h : parseTLFile o text = .ok tl) : ∀ c ∈ tl.combinators, P c := by
  revert h
  fun_cases parseTLFile o text <;> intro h <;> try contradiction
  exact fun c hc => parseFileLoop_all P hP h (by simp) c (mem_combinators.mp hc)

theorem plainType_str_eq_crc (t : TypeRef) (h : plainType t = true) : t.str = t.crc := by
  cases t with
  | mk ty args bare =>
    simp only [plainType, Bool.and_eq_true, List.isEmpty_iff, Bool.not_eq_true'] at h
    obtain ⟨ha, hb⟩ := h
    subst ha
    simp only [TypeRef.str, TypeRef.crc, argsCrc, crcBareMark, List.append_nil]
    cases bare with
    | false => simp
    | true =>
      simp only [Bool.true_and] at hb
      cases hn : ty.name with
      | nil => simp
      | cons c rest => simp [hn] at hb; simp [hb]

theorem repCrc_doc : ∀ (fs : List Field), plainRep fs = true → repCrc fs = docRep fs
  | [], _ => by simp [repCrc, docRep]
  | (.mk name mask excl (.type t) nl cb cr) :: fs, h => by
    simp only [plainRep, Bool.and_eq_true, Bool.not_eq_true'] at h
    obtain ⟨⟨he, ht⟩, hfs⟩ := h
    simp only [repCrc, docRep, docField, docBody, Field.str, FieldBody.str, he, plainType_str_eq_crc t ht,
      repCrc_doc fs hfs, Bool.false_eq_true, if_false, List.append_nil]
  | (.mk name mask excl (.rep scale rep) nl cb cr) :: fs, h => by
    simp only [plainRep, Bool.and_eq_true, Option.isNone_iff_eq_none] at h
    obtain ⟨⟨hm, hr⟩, hfs⟩ := h
    subst hm
    simp only [repCrc, rwsCrc, docRep, docField, docBody, maskStr, List.append_nil, repCrc_doc rep hr, repCrc_doc fs hfs]
termination_by fs => sizeOf fs
decreasing_by
  all_goals (simp only [List.cons.sizeOf_spec, Field.mk.sizeOf_spec, FieldBody.rep.sizeOf_spec]; omega)

theorem rwsCrc_doc (scale : Option ScaleFactor) (rep : List Field) (h : plainRep rep = true) :
    rwsCrc scale rep = scaleCrc scale ++ [cLSquare] ++ docRep rep ++ [cSpace, cRSquare] := by
  simp only [rwsCrc, repCrc_doc rep h]

theorem fieldCrc_doc (f : Field) (h : plainField f = true) : f.crc = docField f := by
  cases f with
  | mk name mask excl body nl cb cr =>
    cases body with
    | type t => simp [Field.crc, docField, docBody]
    | rep scale rep =>
      simp only [plainField] at h
      simp [Field.crc, docField, docBody, rwsCrc_doc scale rep h]

end TLVerif.Syntax
