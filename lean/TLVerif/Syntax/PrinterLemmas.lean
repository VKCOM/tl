import TLVerif.Syntax.Parser
import TLVerif.Syntax.Printer
/-! Lemmas for the printer round trip: numbers and tags printed by the templates are read back by the parser's
`strconv.ParseUint` calls. -/
namespace TLVerif.Syntax
theorem hexDigit_ok : ∀ d, d < 16 → hexVal (hexDigitByte d) = d ∧ hexChar (hexDigitByte d) = true := by decide

theorem horner16 (a m : Nat) (h : a = m / 16) : a * 16 + m % 16 = m := h ▸ Nat.div_add_mod' m 16

theorem parseHex32_hex8 (id : UInt32) : parseHex32 (hex8 id) = some id.toNat := by
  have hd (m : Nat) := hexDigit_ok (m % 16) (Nat.mod_lt _ (by decide))
  have hlt : id.toNat < 4294967296 := id.toNat_lt
  have hdiv (a : Nat) : id.toNat / (a * 16) = id.toNat / a / 16 := (Nat.div_div_eq_div_mul ..).symm
  simp only [parseHex32, hex8, List.isEmpty_cons, List.all_cons, List.all_nil, List.foldl, hd, Nat.zero_mul, Nat.zero_add]
  -- Horner's scheme takes the eight digits back one at a time, the leading one being `n / 16^7 < 16`
  rw [Nat.mod_eq_of_lt (Nat.div_lt_of_lt_mul hlt), horner16 _ _ (hdiv 0x1000000), horner16 _ _ (hdiv 0x100000),
    horner16 _ _ (hdiv 0x10000), horner16 _ _ (hdiv 0x1000), horner16 _ _ (hdiv 0x100), horner16 _ _ (hdiv 0x10),
    horner16 _ _ rfl, if_neg (by decide), if_pos hlt]

theorem digitByte_ok : ∀ d, d < 10 → digit (UInt8.ofNat (48 + d)) = true ∧ (UInt8.ofNat (48 + d)).toNat - 48 = d := by decide

theorem digitByte_spec (n : Nat) : digit (digitByte n) = true ∧ (digitByte n).toNat - 48 = n % 10 :=
  digitByte_ok (n % 10) (Nat.mod_lt _ (by decide))

/-- third part: the digits already in `acc` stand behind those of `n`; at `acc = []` the value is `n` (`C21.number_print_parse`) -/
theorem decBytesAux_spec (fuel n : Nat) (acc : Bytes) (h : n < fuel) (hacc : acc.all digit = true) :
    (decBytesAux fuel n acc).all digit = true ∧ (decBytesAux fuel n acc).isEmpty = false ∧
    decValue (decBytesAux fuel n acc) = acc.foldl (fun a c => a * 10 + (c.toNat - 48)) n := by
  fun_induction decBytesAux fuel n acc with
  | case1 => omega
  | case2 fuel n acc hlt =>
    refine ⟨by simp [digitByte_spec, hacc], rfl, ?_⟩
    simp only [decValue, List.foldl_cons, digitByte_spec, Nat.zero_mul, Nat.zero_add]
    rw [Nat.mod_eq_of_lt hlt]
  | case3 fuel n acc hge ih =>
    have ih := ih (by omega) (by simp [digitByte_spec, hacc])
    refine ⟨ih.1, ih.2.1, ?_⟩
    rw [ih.2.2]
    simp only [List.foldl_cons, digitByte_spec]
    rw [Nat.div_add_mod' n 10]

end TLVerif.Syntax
