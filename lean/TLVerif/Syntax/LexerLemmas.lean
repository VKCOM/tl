import TLVerif.Syntax.Lexer
/-! `s.toks` is newest first: `LInv.sorted` descends, `ToksOK.sorted` ascends (`LInv.toksOK`).  `lim` in `TokOK` is the
lexer's position.  The `slo` clauses (of `TokOK` and of both `sorted`) serve only `contextCorrupted`: they give
`outer.slo ≤ begin.slo` for a parser error (`ToksOK.parseOK_err`); `C19.token_pos_in_range` also states them. -/
namespace TLVerif.Syntax

/-- A string literal is `String.ofList` of its characters by definition; rewriting with this before a kernel evaluation
spares the kernel the UTF-8 encoding and decoding behind `String.toList` of a literal. -/
theorem strBytes_ofList (l : List Char) : strBytes (String.ofList l) = l.map (fun c => UInt8.ofNat c.toNat) :=
  congrArg _ String.toList_ofList

theorem identRun_length_le (s : Bytes) : (identRun s).length ≤ s.length := by
  fun_induction identRun s with
  | case1 => exact Nat.le_refl _
  | case2 c t _ ih => exact Nat.succ_le_succ ih
  | case3 => exact Nat.zero_le _

theorem nameIdent_length_le (s : Bytes) : (nameIdent s).length ≤ s.length := by
  fun_cases nameIdent s with
  | case1 => exact Nat.le_refl _
  | case2 c t _ => exact Nat.succ_le_succ (identRun_length_le t)
  | case3 => exact Nat.zero_le _

theorem builtinIdent_length_le (s : Bytes) : (builtinIdent s).length ≤ s.length := by
  fun_cases builtinIdent s with
  | case1 => exact Nat.le_refl _
  | case2 c t _ => exact Nat.succ_le_succ (identRun_length_le t)
  | case3 => exact Nat.zero_le _

theorem hasPrefix_length {s p : Bytes} (h : hasPrefix s p = true) : p.length ≤ s.length := by
  fun_induction hasPrefix s p with
  | case1 => exact Nat.zero_le _
  | case2 => cases h
  | case3 a s b p ih => exact Nat.succ_le_succ (ih (Bool.and_eq_true _ _ ▸ h).2)

theorem lineEnd_le (s : Bytes) : lineEnd s ≤ s.length := by
  fun_induction lineEnd s with
  | case1 => exact Nat.le_refl _
  | case2 => exact Nat.zero_le _
  | case3 c t _ ih => exact Nat.succ_le_succ ih

theorem utf8Bad_lt {s : Bytes} {i j : Nat} (h : utf8Bad s i = some j) : i ≤ j ∧ j < i + s.length := by
  -- in every branch of `utf8Bad` the answer is the current index, the one for a proper tail, or `none`
  fun_induction utf8Bad s i
  all_goals first
    | (cases h; exact ⟨Nat.le_refl _, by simp⟩)
    | (rename_i ih; have := ih h; simp only [List.length_cons]; omega)
    | cases h

def TokOK (lim : Pos) (t : Token) : Prop :=
  t.pos.off + t.val.length ≤ lim.off ∧ t.pos.slo ≤ t.pos.off ∧ t.pos.slo ≤ lim.slo

/-- what keeps the parser from panicking on a token's text: `splitIdenNSFromToken` wants the dot of a namespaced identifier,
`val[1:]` is taken of an annotation and of a `#` tag -/
def TokWF (ty : TT) (val : Bytes) : Prop :=
  (ty.isNS = true → cDot ∈ val) ∧ (ty = .annotation → val ≠ []) ∧ (ty = .crc32hash → val ≠ [])

structure LInv (text : Bytes) (s : LexState) : Prop where
  wf : ∀ t ∈ s.toks, TokWF t.ty t.val
  recomb : recombine s.toks.reverse s.str = text
  off : s.pos.off + s.str.length = text.length
  slo : s.pos.slo ≤ s.pos.off
  toks : ∀ t ∈ s.toks, TokOK s.pos t
  sorted : s.toks.Pairwise (fun a b => b.pos.off + b.val.length ≤ a.pos.off ∧ b.pos.slo ≤ a.pos.slo)

theorem initState_inv (text : Bytes) : LInv text (initState text) := by
  constructor <;> simp [initState, recombine]

section
variable {text : Bytes} {s : LexState} {n : Nat}

theorem advance_ok (ty : TT) (hi : LInv text s) (hn : n ≤ s.str.length)
    (hwf : TokWF ty (s.str.take n)) :
    ∃ s' tok, advance s n ty = some (s', tok) ∧ LInv text s' ∧ s'.str.length + n = s.str.length ∧
      s'.toks = tok :: s.toks ∧ tok.val.length = n ∧ tok.ty = ty := by
  refine ⟨_, _, if_pos hn, ⟨?_, ?_, ?_, ?_, ?_, ?_⟩, ?_, rfl, ?_, rfl⟩
  · exact List.forall_mem_cons.mpr ⟨hwf, hi.wf⟩
  · have := hi.recomb
    simp only [recombine, List.reverse_cons, List.map_append, List.map_cons, List.map_nil, List.flatten_append,
      List.flatten_cons, List.flatten_nil, List.append_nil, List.append_assoc, List.take_append_drop] at this ⊢
    exact this
  · have := hi.off; simp only [List.length_drop]; omega
  · have := hi.slo; simp only; omega
  · refine List.forall_mem_cons.mpr ⟨?_, fun t ht => ?_⟩
    · have := hi.slo
      simp only [TokOK, List.length_take]; omega
    · have := hi.toks t ht
      simp only [TokOK] at this ⊢; omega
  · refine List.pairwise_cons.mpr ⟨fun t ht => ?_, hi.sorted⟩
    have := hi.toks t ht
    simp only [TokOK] at this ⊢; omega
  · simp only [List.length_drop]; omega
  · simp only [List.length_take]; omega

theorem newlineFix_inv (hi : LInv text s) : LInv text (newlineFix s) := by
  refine ⟨hi.wf, hi.recomb, hi.off, Nat.le_refl _, ?_, hi.sorted⟩
  intro t ht
  have := hi.toks t ht
  have := hi.slo
  simp only [TokOK, newlineFix] at *; omega

def StepOK (text : Bytes) (s : LexState) : Step → Prop
  | .ok s' => LInv text s' ∧ s'.str.length < s.str.length
  | .err s' e => LInv text s' ∧ e.tok ∈ s'.toks ∧ e.outer = e.tok.pos
  | .panic => False

-- the default of `hdot` works for a constructor `ty` on which `isNS` computes to `false`; `lexLexeme_ok` passes a proof
theorem adv_ok (ty : TT) (hi : LInv text s) (h1 : 1 ≤ n) (h2 : n ≤ s.str.length)
    (hdot : ty.isNS = true → cDot ∈ s.str.take n := by exact nofun) : StepOK text s (adv s n ty) := by
  have hne : s.str.take n ≠ [] := List.ne_nil_of_length_pos (by rw [List.length_take]; omega)
  obtain ⟨s', tok, h, hinv, hlen, _⟩ := advance_ok ty hi h2 ⟨hdot, fun _ => hne, fun _ => hne⟩
  simp only [adv, h, StepOK]
  exact ⟨hinv, by omega⟩

-- the `.err` clause of `StepOK` does not look at the state, so `s0` is free: `nextToken_ok` raises an error one token on
theorem advErr_ok {s0 : LexState} (hi : LInv text s) (h2 : n ≤ s.str.length) :
    StepOK text s0 (advErr s n) := by
  obtain ⟨s', tok, h, hinv, _, htoks, _⟩ := advance_ok .undefined hi h2 ⟨nofun, nofun, nofun⟩
  simp only [advErr, h, StepOK]
  exact ⟨hinv, by simp [htoks]⟩

theorem advNewline_ok (hi : LInv text s) (h1 : 1 ≤ n) (h2 : n ≤ s.str.length) :
    StepOK text s (advNewline s n) := by
  obtain ⟨s', tok, h, hinv, hlen, _⟩ := advance_ok .newLine hi h2 ⟨nofun, nofun, nofun⟩
  simp only [advNewline, h, StepOK]
  exact ⟨newlineFix_inv hinv, by simp only [newlineFix]; omega⟩

theorem identRun_cons_pos {c : UInt8} {t : Bytes} (h : identChar c = true) : 1 ≤ (identRun (c :: t)).length := by
  simp [identRun, h]

theorem digit_identChar {c : UInt8} (h : digit c = true) : identChar c = true := by
  simp [identChar, h]

theorem letter_identChar {c : UInt8} (h : letter c = true) : identChar c = true := by
  simp [identChar, h]

theorem nameIdent_cons_letter {c : UInt8} {t : Bytes} (h : letter c = true) : nameIdent (c :: t) = c :: identRun t := by
  simp [nameIdent, h]

theorem StepOK.ite {c : Prop} [Decidable c] {a b : Step}
    (ha : c → StepOK text s a) (hb : ¬c → StepOK text s b) : StepOK text s (if c then a else b) := by
  split
  · exact ha ‹_›
  · exact hb ‹_›

theorem lexSection_ok (hi : LInv text s) (h1 : 1 ≤ s.str.length) :
    StepOK text s (lexSection s) := by
  unfold lexSection
  rw [show typesSectionBytes = _ from strBytes_ofList _, show functionsSectionBytes = _ from strBytes_ofList _]
  exact .ite (fun h => adv_ok _ hi (by decide) (hasPrefix_length h)) fun _ =>
    .ite (fun h => adv_ok _ hi (by decide) (hasPrefix_length h)) fun _ => adv_ok _ hi (Nat.le_refl _) h1

theorem lexNumberSign_ok (hi : LInv text s) (h1 : 1 ≤ s.str.length) :
    StepOK text s (lexNumberSign s) := by
  have hr := identRun_length_le (s.str.drop 1)
  simp only [List.length_drop] at hr
  unfold lexNumberSign
  simp only []
  split
  · exact adv_ok _ hi (by omega) (by omega)
  · split
    · exact advErr_ok hi (by omega)
    · exact adv_ok _ hi (by omega) (by omega)

theorem lexNumber_ok {c : UInt8} {t : Bytes} (hi : LInv text s) (hs : s.str = c :: t)
    (hd : digit c = true) : StepOK text s (lexNumber s) := by
  have hr := identRun_length_le s.str
  have hp : 1 ≤ (identRun s.str).length := by rw [hs]; exact identRun_cons_pos (digit_identChar hd)
  unfold lexNumber
  exact .ite (fun _ => advErr_ok hi hr) fun _ => adv_ok _ hi hp hr

theorem lexFunctionModifier_ok (hi : LInv text s) (h1 : 1 ≤ s.str.length) :
    StepOK text s (lexFunctionModifier s) := by
  have hr := nameIdent_length_le (s.str.drop 1)
  simp only [List.length_drop] at hr
  unfold lexFunctionModifier
  simp only []
  split
  · exact advErr_ok hi (by omega)
  · split
    · exact advErr_ok hi (by omega)
    · exact adv_ok _ hi (by omega) (by omega)

theorem mem_take_of_drop_eq_cons {α : Type} {l after : List α} {k m : Nat} {c : α} (h : l.drop k = c :: after) :
    c ∈ l.take (k + 1 + m) := by
  rw [Nat.add_assoc, List.take_add, h, Nat.add_comm 1, List.take_succ_cons]
  exact List.mem_append_right _ List.mem_cons_self

theorem lexLexeme_ok {c : UInt8} {t : Bytes} (hi : LInv text s) (hs : s.str = c :: t)
    (hl : letter c = true) : StepOK text s (lexLexeme s) := by
  have hr := nameIdent_length_le s.str
  unfold lexLexeme
  -- with the word in its `cons` form the matches on `w ++ "."` and on `w` reduce
  rw [show nameIdent s.str = c :: identRun t by rw [hs]; exact nameIdent_cons_letter hl] at hr ⊢
  dsimp only [List.cons_append]
  split
  · rename_i w2 hdot
    have hlen : (c :: identRun t).length + 1 + w2.length ≤ s.str.length ∧ w2 ≠ [] ∧
        cDot ∈ s.str.take ((c :: identRun t).length + 1 + w2.length) := by
      split at hdot
      · rename_i c' after hdrop
        simp only [Option.ite_none_right_eq_some, Option.ite_none_left_eq_some, Option.some.injEq] at hdot
        obtain ⟨hcd, hne, rfl⟩ := hdot
        have := congrArg List.length hdrop
        simp only [List.length_drop, List.length_cons] at this
        have := nameIdent_length_le after
        exact ⟨by simp only [List.length_cons]; omega, fun h0 => by simp [h0] at hne,
          eq_of_beq hcd ▸ mem_take_of_drop_eq_cons hdrop⟩
      · simp at hdot
    obtain ⟨hlen, hne, hmem⟩ := hlen
    split
    · exact advErr_ok hi hlen
    · split
      · exact absurd rfl hne
      · split
        · exact adv_ok _ hi (by omega) hlen fun _ => hmem
        · exact adv_ok _ hi (by omega) hlen fun _ => hmem
  · split
    · exact adv_ok _ hi (Nat.le_add_left 1 _) hr
    · exact adv_ok _ hi (Nat.le_add_left 1 _) hr

theorem lineEnd_pos_of_slash {s : Bytes} (h : hasPrefix s [cSlash, cSlash] = true) : 1 ≤ lineEnd s := by
  cases s with
  | nil => simp [hasPrefix] at h
  | cons c t =>
    simp only [hasPrefix, Bool.and_eq_true, beq_iff_eq] at h
    have hc : c = cSlash := h.1
    subst hc
    simp [lineEnd, cSlash, cCR, cLF]

theorem nextToken_ok {o : LexOpts} (hi : LInv text s) (hne : s.str ≠ []) : StepOK text s (nextToken o s) := by
  unfold nextToken
  split
  · exact absurd ‹_› hne
  · rename_i c t hs
    have h1 : 1 ≤ s.str.length := by rw [hs]; simp
    refine .ite (fun _ => adv_ok _ hi (Nat.le_refl _) h1) fun _ => ?_
    refine .ite (fun _ => .ite (fun h => advNewline_ok hi (by omega) (hasPrefix_length h)) fun _ => advErr_ok hi h1) fun _ => ?_
    refine .ite (fun _ => advNewline_ok hi (Nat.le_refl _) h1) fun _ => ?_
    refine .ite (fun _ => .ite (fun h => adv_ok _ hi (by omega) (hasPrefix_length h)) fun _ => adv_ok _ hi (Nat.le_refl _) h1)
      fun _ => ?_
    refine .ite (fun _ => .ite (fun h => ?_) fun _ => adv_ok _ hi (Nat.le_refl _) h1) fun _ => ?_
    · rw [Bool.and_eq_true] at h
      exact adv_ok _ hi (by omega) (hasPrefix_length h.2)
    refine .ite (fun _ => lexFunctionModifier_ok hi h1) fun _ => ?_
    refine .ite (fun _ => .ite (fun hpre => ?_) fun _ => .ite (fun h => advErr_ok hi (hasPrefix_length h)) fun _ => advErr_ok hi h1)
      fun _ => ?_
    · have hle := lineEnd_le s.str
      have hpos := lineEnd_pos_of_slash hpre
      dsimp only
      split
      · rename_i i hbad
        have hb := utf8Bad_lt hbad
        simp only [List.length_take] at hb
        have hile : i ≤ s.str.length := by omega
        obtain ⟨s1, tok, ha, hinv, hlen, _⟩ := advance_ok .comment hi hile ⟨nofun, nofun, nofun⟩
        simp only [ha]
        exact advErr_ok (n := 1) hinv (by omega)
      · exact adv_ok _ hi hpos hle
    refine .ite (fun _ => lexSection_ok hi h1) fun _ => ?_
    refine .ite (fun _ => lexNumberSign_ok hi h1) fun _ => ?_
    refine .ite (fun c10 => ?_) fun _ => ?_
    · have := nameIdent_length_le (s.str.drop 1)
      simp only [List.length_drop] at this
      have hb := builtinIdent_length_le s.str
      have hp : 1 ≤ (builtinIdent s.str).length := by
        rw [hs]; simp only [beq_iff_eq] at c10; simp [builtinIdent, c10, cUnderscore]
      exact .ite (fun _ => .ite (fun _ => adv_ok _ hi (Nat.le_refl _) h1) fun _ => adv_ok _ hi (by omega) (by omega)) fun _ =>
        .ite (fun _ => .ite (fun _ => adv_ok _ hi hp hb) fun _ => adv_ok _ hi hp hb) fun _ =>
        .ite (fun _ => adv_ok _ hi (Nat.le_refl _) h1) fun _ => advErr_ok hi h1
    refine .ite (fun c11 => lexNumber_ok hi hs c11) fun _ => ?_
    refine .ite (fun c12 => .ite (fun h => ?_) fun _ => lexLexeme_ok hi hs c12) fun _ => advErr_ok hi h1
    simp only [Bool.and_eq_true, beq_iff_eq] at h
    have := nameIdent_length_le s.str
    rw [h.2] at this
    exact adv_ok _ hi (by omega) (by simpa [typeWord] using this)

end

def LoopOK (text : Bytes) : LoopRes → Prop
  | .done s' => LInv text s' ∧ s'.str = [] ∧ ∃ e rest, s'.toks = e :: rest ∧ e.ty = .eof ∧ e.val = []
  | .err s' e => LInv text s' ∧ e.tok ∈ s'.toks ∧ e.outer = e.tok.pos
  | .panic => False
  | .diverge => False

theorem lexLoop_ok {text : Bytes} {o : LexOpts} {s : LexState} (hi : LInv text s) : LoopOK text (lexLoop o s) := by
  rw [lexLoop]
  split
  · rename_i hemp
    have hnil : s.str = [] := by simpa using hemp
    obtain ⟨s', tok, ha, hinv, hlen, htoks, hval, hty⟩ :=
      advance_ok (n := 0) .eof hi (Nat.zero_le _) ⟨nofun, nofun, nofun⟩
    simp only [ha, LoopOK]
    rw [hnil] at hlen
    exact ⟨hinv, by simpa using hlen, tok, s.toks, htoks, hty, by simpa using hval⟩
  · rename_i hemp
    have hn := nextToken_ok (o := o) hi (by simpa using hemp)
    generalize nextToken o s = st at hn ⊢
    cases st with
    | panic | err s' e => exact hn
    | ok s' =>
      simp only [hn.2, if_true]
      exact lexLoop_ok hn.1
termination_by s.str.length
decreasing_by exact hn.2

structure ToksOK (text : Bytes) (toks : List Token) : Prop where
  wf : ∀ t ∈ toks, TokWF t.ty t.val
  inRange : ∀ t ∈ toks, t.pos.off + t.val.length ≤ text.length ∧ t.pos.slo ≤ t.pos.off
  sorted : toks.Pairwise (fun a b => a.pos.off + a.val.length ≤ b.pos.off ∧ a.pos.slo ≤ b.pos.slo)

theorem LInv.toksOK {text : Bytes} {s : LexState} (hi : LInv text s) : ToksOK text s.toks.reverse := by
  constructor
  · intro t ht; exact hi.wf t (by simpa using ht)
  · intro t ht
    have := hi.toks t (by simpa using ht)
    have := hi.off
    simp only [TokOK] at *; omega
  · rw [List.pairwise_reverse]; exact hi.sorted

theorem validateTokens_some {o : LexOpts} {l acc toks : List Token} {e : PErr}
    (h : validateTokens o l acc = some (toks, e)) : e.tok ∈ l ∧ e.outer = e.tok.pos := by
  fun_induction validateTokens o l acc with
  | case1 => cases h
  | case2 t rest acc _ => cases h; exact ⟨List.mem_cons_self, rfl⟩
  | case3 t rest acc _ ih => exact ⟨List.mem_cons_of_mem _ (ih h).1, (ih h).2⟩

def LexOK (text : Bytes) : LexRes → Prop
  | .ok toks rest => recombine toks rest = text ∧ rest = [] ∧ ToksOK text toks ∧
      ∃ pre e, toks = pre ++ [e] ∧ e.ty = .eof ∧ e.val = []
  | .err _ e => e.tok.pos.off + e.tok.val.length ≤ text.length ∧ e.tok.pos.slo ≤ e.tok.pos.off ∧ e.outer = e.tok.pos
  | .panic => False
  | .diverge => False

theorem generateTokens_ok {o : LexOpts} {text : Bytes} {r : LexRes} (h : generateTokens o text = r) : LexOK text r := by
  subst h
  unfold generateTokens
  have hl := lexLoop_ok (o := o) (initState_inv text)
  generalize lexLoop o (initState text) = lr at hl ⊢
  cases lr with
  | panic | diverge => exact hl
  | err s e =>
    obtain ⟨hinv, hm, ho⟩ := hl
    have := hinv.toksOK.inRange e.tok (by simpa using hm)
    exact ⟨this.1, this.2, ho⟩
  | done s =>
    obtain ⟨hinv, hnil, e, rest, htoks, hty, hval⟩ := hl
    dsimp only
    split
    · rename_i toks e' hv
      have := validateTokens_some hv
      have hr := hinv.toksOK.inRange e'.tok this.1
      exact ⟨hr.1, hr.2, this.2⟩
    · refine ⟨hinv.recomb, hnil, hinv.toksOK, rest.reverse, e, ?_, hty, hval⟩
      rw [htoks]; simp

end TLVerif.Syntax
