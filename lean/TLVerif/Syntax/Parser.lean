import TLVerif.Syntax.Printer
/-!
Model of the TL1 recursive-descent parser: `internal/tlast/tlparser_code.go`,
`tlparser_typeref.go`, `tlparser_comments.go`, written the way the Go code is written.

* A `tokenIterator{tokens, offset}` is the list of the remaining tokens (`tokens[offset:]`).
  `front()` / `popFront()` on an exhausted iterator, `val[1:]` on an empty string, a nil pointer
  dereference, a string slice out of range and the five `log.Panicf`/`panic` sites are the explicit
  outcome `Res.panic`.
* Go functions return `(value, rest, err)`; on `nil, tokens, nil` ("not this alternative") the model
  returns `ok none ts` and callers continue with their own iterator, exactly as the Go callers do
  (they pass `rest` and receive the same `rest` back).
* Position ranges stored in the tree are dropped, but every `rest.front().pos` evaluated for them is
  kept as a possible panic (`needFront`).
* Every recursive call and every loop iteration is guarded by a length comparison
  (`if rest.length < ts.length then … else diverge`): the Go code has no such test, it would loop
  or recurse forever; `diverge` is proved unreachable (`TLVerif.Props.C19.parse_terminates`).
-/
namespace TLVerif.Syntax

inductive Res (α : Type) where
  | ok (a : α) (rest : List Token)
  | err (e : PErr)
  | panic
  | diverge
  deriving Inhabited

/-! ### tokenIterator -/

/-- `skipWS`: `(front, tail)` of the iterator after skipping; `none` is the `log.Panicf` of a token
array without eof. -/
def skipWS : List Token → Option (Token × List Token)
  | [] => none
  | t :: rest => if t.ty.isWS then skipWS rest else some (t, rest)

/-- `skipToNewline`: returns whether a newline (or eof) was found and the iterator -/
def skipToNewline : List Token → Bool × List Token
  | [] => (false, [])
  | t :: rest =>
    match t.ty with
    | .comment => skipToNewline rest
    | .newLine => (true, t :: rest)
    | .eof => (true, t :: rest)
    | .ch c => if c == cSpace || c == cTab then skipToNewline rest else (false, t :: rest)
    | _ => (false, t :: rest)

/-- `checkToken(i)`: result, front token and tail of the (skipped) iterator -/
def checkToken (ts : List Token) (ty : TT) : Option (Bool × Token × List Token) :=
  match skipWS ts with
  | none => none
  | some (t, r) => some (t.ty == ty, t, r)

/-- `expect(i)`: `(true, iterator after the token)` or `(false, skipped iterator)` -/
def expect (ts : List Token) (ty : TT) : Option (Bool × List Token) :=
  match checkToken ts ty with
  | none => none
  | some (true, _, r) => some (true, r)
  | some (false, t, r) => some (false, t :: r)

/-- `expectOrPanic(i)` -/
def expectOrPanic (ts : List Token) (ty : TT) : Option (List Token) :=
  match expect ts ty with
  | some (true, r) => some r
  | _ => none

/-- a `rest.front()` evaluated only for a position range -/
def needFront (ts : List Token) : Bool := !ts.isEmpty

/-- `return …, parseErrToken(err, rest.front(), outer)`; `front()` on an exhausted iterator panics -/
def errFront {α : Type} (it : List Token) (outer : Pos) : Res α :=
  match it with
  | [] => .panic
  | t :: _ => .err ⟨t, outer⟩

/-- `splitIdenNSFromToken`; `none` is its `log.Panicf` -/
def splitIden (s : Bytes) : Option Name :=
  let pre := s.takeWhile (· != cDot)
  if pre.length < s.length then some ⟨pre, s.drop (pre.length + 1)⟩ else none

/-- The common shape of `parseLCIdentNS`, `parseUCIdentNS`, `parseVarIdent`, `parseTypeRefAsName`:
try `checkToken` for each class in turn; on a hit take `front().val` (split at the dot for the
namespace classes), `expectOrPanic`; otherwise the error at `rest.front()`. -/
def parseNameAlts (outer : Pos) : List TT → List Token → Res Name
  | [], it => errFront it outer
  | ty :: more, it =>
    match checkToken it ty with
    | none => .panic
    | some (true, t, r) =>
      match (if ty.isNS then splitIden t.val else some ⟨[], t.val⟩) with
      | none => .panic
      | some n =>
        match expectOrPanic (t :: r) ty with
        | none => .panic
        | some rest => .ok n rest
    | some (false, t, r) => parseNameAlts outer more (t :: r)

def parseLCIdentNS (ts : List Token) (outer : Pos) : Res Name := parseNameAlts outer [.lcIdentNS, .lcIdent] ts
def parseUCIdentNS (ts : List Token) (outer : Pos) : Res Name := parseNameAlts outer [.ucIdentNS, .ucIdent] ts
def parseVarIdent (ts : List Token) (outer : Pos) : Res Name := parseNameAlts outer [.lcIdent, .ucIdent] ts
def parseTypeRefAsName (ts : List Token) (outer : Pos) : Res Name :=
  parseNameAlts outer [.lcIdentNS, .lcIdent, .ucIdentNS, .ucIdent] ts

/-! ### numbers -/

def decValue (s : Bytes) : Nat := s.foldl (fun acc c => acc * 10 + (c.toNat - 48)) 0

/-- `strconv.ParseUint(s, 10, 32)` on a `number` token (digits only): `none` on empty input, a
non-digit, or a value above 2^32-1 -/
def parseU32 (s : Bytes) : Option Nat :=
  if s.isEmpty || !(s.all digit) then none
  else if decValue s < 4294967296 then some (decValue s) else none

def hexVal (c : UInt8) : Nat := if digit c then c.toNat - 48 else c.toNat - 87

/-- `strconv.ParseUint(s, 16, 32)` on the digits of a `crc32hash` token -/
def parseHex32 (s : Bytes) : Option Nat :=
  if s.isEmpty || !(s.all hexChar) then none
  else
    let v := s.foldl (fun acc c => acc * 16 + hexVal c) 0
    if v < 4294967296 then some v else none

/-! ### comments (`tlparser_comments.go`) -/

/-- `fileContent[a:b]`; `none` is the slice-bounds panic -/
def sliceText (text : Bytes) (a b : Nat) : Option Bytes :=
  if a ≤ b && b ≤ text.length then some ((text.drop a).take (b - a)) else none

/-- `fileContent[begin.front().pos.offset:end.front().pos.offset]` -/
def sliceBetween (text : Bytes) (b e : List Token) : Option Bytes :=
  match b, e with
  | tb :: _, te :: _ => sliceText text tb.pos.off te.pos.off
  | _, _ => none

/-- the loop of `parseCommentBefore`: `it` runs while `it.offset < end.offset`
(`it.length > endLen`); returns the final `begin`; `none` is `panic("unexpected token in whitespace")`
or `popFront` out of range. -/
def commentBeforeLoop (endLen : Nat) : List Token → List Token → Bool → Option (List Token)
  | [], begin, _ => some begin
  | tok :: it', begin, nonWS =>
    if (tok :: it').length > endLen then
      match tok.ty with
      | .comment => commentBeforeLoop endLen it' begin true
      | .newLine => commentBeforeLoop endLen it' (if !nonWS then it' else begin) false
      | .ch c => if c == cSpace || c == cTab then commentBeforeLoop endLen it' begin nonWS else none
      | _ => none
    else some begin

/-- `parseCommentBefore` (without `strings.TrimSpace`) -/
def parseCommentBefore (text : Bytes) (begin end_ : List Token) : Option Bytes :=
  match commentBeforeLoop end_.length begin begin false with
  | none => none
  | some b => sliceBetween text b end_

/-- `parseCommentRight` (without `strings.TrimSpace`) -/
def parseCommentRight (text : Bytes) (begin end_ : List Token) : Option Bytes :=
  sliceBetween text begin end_

/-! ### modifiers, constructor, template arguments, type declaration -/

/-- `parseModifiers` (never returns an error) -/
def parseModifiers (ts : List Token) (acc : List Bytes) : Res (List Bytes) :=
  match skipWS ts with     -- mod.PR = rest.skipWS(outer)
  | none => .panic
  | some (t0, r0) =>
    match checkToken (t0 :: r0) .annotation with
    | none => .panic
    | some (false, t, r) => .ok acc (t :: r)
    | some (true, t, r) =>
      match t.val with
      | [] => .panic     -- `val[1:]`
      | _ :: nm =>
        match expectOrPanic (t :: r) .annotation with
        | none => .panic
        | some rest =>
          if !needFront rest then .panic
          else if rest.length < ts.length then parseModifiers rest (acc ++ [nm]) else .diverge
termination_by ts.length

/-- the name part of `parseConstructor` (`#` as a name is allowed only with `allowBuiltin`) -/
def constructorName (t0 : Token) (r0 : List Token) (outer : Pos) (allowBuiltin : Bool) : Res Name :=
  match (if allowBuiltin then checkToken (t0 :: r0) .numberSign else some (false, t0, r0)) with
  | none => .panic
  | some (true, t, r) =>
    match expectOrPanic (t :: r) .numberSign with
    | none => .panic
    | some rest => .ok ⟨[], t.val⟩ rest
  | some (false, t, r) => parseLCIdentNS (t :: r) outer

/-- `parseConstructor` -/
def parseConstructor (ts : List Token) (outer : Pos) (allowBuiltin : Bool) : Res Constructor :=
  match skipWS ts with
  | none => .panic
  | some (t0, r0) =>
    match constructorName t0 r0 outer allowBuiltin with
    | .panic => .panic
    | .diverge => .diverge
    | .err e => .err e
    | .ok name rest =>
      if !needFront rest then .panic else
      match checkToken rest .crc32hash with
      | none => .panic
      | some (false, t, r) => .ok ⟨name, 0, false⟩ (t :: r)
      | some (true, t, r) =>
        match t.val with
        | [] => .panic    -- `val[1:]`
        | _ :: digits =>
          match parseHex32 digits with
          | none => .err ⟨t, outer⟩
          | some v =>
            match expectOrPanic (t :: r) .crc32hash with
            | none => .panic
            | some rest2 => if !needFront rest2 then .panic else .ok ⟨name, UInt32.ofNat v, true⟩ rest2

/-- the `switch` of `parseTemplateArgument`: `Type` or `#`; returns `IsNat` -/
def templateArgKind (r3 : List Token) (outer : Pos) : Res Bool :=
  match checkToken r3 .ucIdent with
  | none => .panic
  | some (b, t, r) =>
    if b && t.val == typeBytes then
      match expectOrPanic (t :: r) .ucIdent with
      | none => .panic
      | some rest => .ok false rest
    else
      match checkToken (t :: r) .numberSign with
      | none => .panic
      | some (true, t', r') =>
        (match expectOrPanic (t' :: r') .numberSign with
         | none => .panic
         | some rest => .ok true rest)
      | some (false, t', _) => .err ⟨t', outer⟩

/-- `parseTemplateArgument` -/
def parseTemplateArgument (ts : List Token) (outer : Pos) : Res (Option TemplateArg) :=
  match skipWS ts with
  | none => .panic
  | some (t0, r0) =>
    match expect (t0 :: r0) (.ch cLCurly) with
    | none => .panic
    | some (false, _) => .ok none ts
    | some (true, r1) =>
      match parseVarIdent r1 outer with
      | .panic => .panic
      | .diverge => .diverge
      | .err e => .err e
      | .ok fieldName r2 =>
        match expect r2 (.ch cColon) with
        | none => .panic
        | some (false, it) => errFront it outer
        | some (true, r3) =>
          match templateArgKind r3 outer with
          | .panic => .panic
          | .diverge => .diverge
          | .err e => .err e
          | .ok isNat r4 =>
            match expect r4 (.ch cRCurly) with
            | none => .panic
            | some (false, it) => errFront it outer
            | some (true, r5) => if !needFront r5 then .panic else .ok (some ⟨fieldName.name, isNat⟩) r5

/-- `parseTemplateArguments` -/
def parseTemplateArguments (ts : List Token) (outer : Pos) (acc : List TemplateArg) : Res (List TemplateArg) :=
  match parseTemplateArgument ts outer with
  | .panic => .panic
  | .diverge => .diverge
  | .err e => .err e
  | .ok none _ => .ok acc ts
  | .ok (some a) rest =>
    if rest.length < ts.length then parseTemplateArguments rest outer (acc ++ [a]) else .diverge
termination_by ts.length

/-- the argument loop of `parseTypeDeclaration` -/
def typeDeclArgs (ts : List Token) (outer : Pos) (acc : List Bytes) : Res (List Bytes) :=
  match skipWS ts with     -- argPR := rest.skipWS(outer)
  | none => .panic
  | some (t0, r0) =>
    match parseVarIdent (t0 :: r0) outer with
    | .panic => .panic
    | .diverge => .diverge
    | .err _ => .ok acc (t0 :: r0)
    | .ok a rest =>
      if !needFront rest then .panic
      else if rest.length < ts.length then typeDeclArgs rest outer (acc ++ [a.name]) else .diverge
termination_by ts.length

/-- `parseTypeDeclaration` -/
def parseTypeDeclaration (ts : List Token) (outer : Pos) : Res TypeDecl :=
  match skipWS ts with
  | none => .panic
  | some (t0, r0) =>
    match parseUCIdentNS (t0 :: r0) outer with
    | .panic => .panic
    | .diverge => .diverge
    | .err e => .err e
    | .ok name rest =>
      if !needFront rest then .panic else
      match typeDeclArgs rest outer [] with
      | .panic => .panic
      | .diverge => .diverge
      | .err e => .err e
      | .ok args rest2 => if !needFront rest2 then .panic else .ok ⟨name, args⟩ rest2

/-! ### arithmetic -/

mutual
/-- `parseArithmetic` -/
def parseArithmetic (ts : List Token) (outer : Pos) (force : Bool) : Res (Option Arith) :=
  match expect ts (.ch cLRound) with
  | none => .panic
  | some (true, r1) =>
    if r1.length < ts.length then
      match parseArithmetic r1 outer force with
      | .panic => .panic
      | .diverge => .diverge
      | .err e => .err e
      | .ok none _ => .ok none ts
      | .ok (some a) r2 =>
        match expect r2 (.ch cRRound) with
        | none => .panic
        | some (false, it) => errFront it outer
        | some (true, r3) =>
          if r3.length < ts.length then arithPlusLoop r3 outer a else .diverge
    else .diverge
  | some (false, it) =>
    match checkToken it .number with
    | none => .panic
    | some (true, t, r) =>
      match parseU32 t.val with
      | none => .err ⟨t, outer⟩
      | some v =>
        match expectOrPanic (t :: r) .number with
        | none => .panic
        | some r2 => if r2.length < ts.length then arithPlusLoop r2 outer ⟨[v], v⟩ else .diverge
    | some (false, t, _) =>
      if force then .err ⟨t, outer⟩ else .ok none ts
termination_by ts.length * 2 + 1
/-- `for rest.expect(plus) { … }` and the final return of `parseArithmetic` -/
def arithPlusLoop (ts : List Token) (outer : Pos) (res : Arith) : Res (Option Arith) :=
  match expect ts (.ch cPlus) with
  | none => .panic
  | some (false, it) => .ok (some res) it
  | some (true, r1) =>
    if r1.length < ts.length then
      match parseArithmetic r1 outer true with
      | .panic => .panic
      | .diverge => .diverge
      | .err e => .err e
      | .ok none _ => .panic    -- `res2.Res` on a nil pointer
      | .ok (some res2) r2 =>
        let sum := res.res + res2.res
        if sum ≥ 4294967295 then errFront r2 outer
        else if r2.length < ts.length then arithPlusLoop r2 outer ⟨res.nums ++ res2.nums, sum⟩ else .diverge
    else .diverge
termination_by ts.length * 2
end

/-! ### field pieces that do not recurse -/

/-- `parseScaleFactorOpt`; `ok none rest` keeps the skipped iterator as the Go code does -/
def parseScaleFactorOpt (ts : List Token) (outer : Pos) : Res (Option ScaleFactor) :=
  match skipWS ts with
  | none => .panic
  | some (t0, r0) =>
    match parseVarIdent (t0 :: r0) outer with
    | .panic => .panic
    | .diverge => .diverge
    | .ok n rest => if !needFront rest then .panic else .ok (some (.name n.name)) rest
    | .err _ =>
      match parseArithmetic (t0 :: r0) outer false with
      | .panic => .panic
      | .diverge => .diverge
      | .err e => .err e
      | .ok (some a) rest => .ok (some (.arith a)) rest
      | .ok none _ => .ok none (t0 :: r0)

/-- `parseFieldMask` -/
def parseFieldMask (ts : List Token) (outer : Pos) : Res (Option FieldMask) :=
  match skipWS ts with
  | none => .panic
  | some (t0, r0) =>
    match parseVarIdent (t0 :: r0) outer with
    | .panic => .panic
    | .diverge => .diverge
    | .err _ => .ok none ts
    | .ok name r1 =>
      if !needFront r1 then .panic else
      match expect r1 (.ch cDot) with
      | none => .panic
      | some (false, _) => .ok none ts
      | some (true, r2) =>
        match skipWS r2 with     -- res.PRBits = rest.skipWS(outer)
        | none => .panic
        | some (t3, r3) =>
          match checkToken (t3 :: r3) .number with
          | none => .panic
          | some (false, t, _) => .err ⟨t, outer⟩
          | some (true, t, r) =>
            match parseU32 t.val with
            | none => .err ⟨t, outer⟩
            | some bit =>
              match expectOrPanic (t :: r) .number with
              | none => .panic
              | some r4 =>
                if !needFront r4 then .panic else
                match expect r4 (.ch cQuestion) with
                | none => .panic
                | some (false, it) => errFront it outer
                | some (true, r5) => .ok (some ⟨name.name, bit⟩) r5

/-- `parseFieldName`: never an error; `none` is a panic -/
def parseFieldName (ts : List Token) (outer : Pos) : Option (Bytes × List Token) :=
  match parseVarIdent ts outer with
  | .panic => none
  | .diverge => none
  | .err _ => some ([], ts)
  | .ok name r1 =>
    if !needFront r1 then none else
    match expect r1 (.ch cColon) with
    | none => none
    | some (false, _) => some ([], ts)
    | some (true, r2) => some (name.name, r2)

/-- the `'*'`/`'['` part of `parseRepeatWithScaleOpt` after the optional scale factor:
`ok true rest`: positioned after `'['`; `ok false _`: not a repetition (`return nil, tokens, nil`) -/
def rwsOpen (scale : Option ScaleFactor) (r1 : List Token) (outer : Pos) : Res Bool :=
  match scale with
  | some _ =>
    match expect r1 (.ch cAsterisk) with
    | none => .panic
    | some (false, it) => .ok false it
    | some (true, r2) =>
      match expect r2 (.ch cLSquare) with
      | none => .panic
      | some (false, it) => errFront it outer
      | some (true, r3) => .ok true r3
  | none =>
    match expect r1 (.ch cLSquare) with
    | none => .panic
    | some (false, it) => .ok false it
    | some (true, r3) => .ok true r3

/-! ### type references, fields, repeats (mutually recursive) -/

/-- result of `parseRepeatWithScaleOpt` -/
abbrev RWS := Option ScaleFactor × List Field

mutual
/-- `parseTypeRef` -/
def parseTypeRef (ts : List Token) (applyFlag allowRoundBracket : Bool) (outer : Pos) : Res (Option TypeRef) :=
  match skipWS ts with     -- pr := rest.skipWS(outer)
  | none => .panic
  | some (t0, r0) =>
    match expect (t0 :: r0) .numberSign with
    | none => .panic
    | some (true, r1) =>
      if !needFront r1 then .panic else .ok (some (.mk ⟨[], [cHash]⟩ [] false)) r1
    | some (false, it0) =>
      match expect it0 (.ch cPercent) with
      | none => .panic
      | some (bare, it1) =>
        match skipWS it1 with     -- rest.skipWS(outer); startOfSomething := rest
        | none => .panic
        | some (t2, r2) =>
          if r2.length < ts.length then
          match parseTypeRefInRoundBracketsOpt (t2 :: r2) outer with
          | .panic => .panic
          | .diverge => .diverge
          | .err e => .err e
          | .ok (some pt) rest =>
            if !allowRoundBracket then .err ⟨t2, outer⟩
            else if !needFront rest then .panic
            else .ok (some (pt.setBare (pt.bare || bare))) rest
          | .ok none _ =>
            match parseTypeRefWithAngleBracketsOpt (t2 :: r2) outer with
            | .panic => .panic
            | .diverge => .diverge
            | .err e => .err e
            | .ok (some pt) rest =>
              if !needFront rest then .panic else .ok (some (pt.setBare (pt.bare || bare))) rest
            | .ok none _ =>
              match parseTypeRefAsName (t2 :: r2) outer with
              | .panic => .panic
              | .diverge => .diverge
              | .err _ => .ok none ts
              | .ok name rest =>
                if !needFront rest then .panic
                else if applyFlag then
                  if rest.length < ts.length then
                    match applyArgsLoop rest outer [] with
                    | .panic => .panic
                    | .diverge => .diverge
                    | .err e => .err e
                    | .ok args rest2 => .ok (some (.mk name args bare)) rest2
                  else .diverge
                else .ok (some (.mk name [] bare)) rest
          else .diverge
termination_by ts.length * 8 + 4
/-- the `if applyFlag { for { … } }` loop of `parseTypeRef` -/
def applyArgsLoop (ts : List Token) (outer : Pos) (acc : List AOT) : Res (List AOT) :=
  if !needFront ts then .panic else     -- res.PRArgs.End = rest.front().pos
  match parseArithmeticOrTypeOpt ts false outer with
  | .panic => .panic
  | .diverge => .diverge
  | .err e => .err e
  | .ok none _ => .ok acc ts
  | .ok (some aot) rest =>
    if rest.length < ts.length then applyArgsLoop rest outer (acc ++ [aot]) else .diverge
termination_by ts.length * 8 + 6
/-- `parseTypeRefInRoundBracketsOpt` -/
def parseTypeRefInRoundBracketsOpt (ts : List Token) (outer : Pos) : Res (Option TypeRef) :=
  match expect ts (.ch cLRound) with
  | none => .panic
  | some (false, _) => .ok none ts
  | some (true, r1) =>
    if r1.length < ts.length then
      match parseTypeRef r1 true true outer with
      | .panic => .panic
      | .diverge => .diverge
      | .err e => .err e
      | .ok none _ => errFront r1 outer
      | .ok (some res) r2 =>
        match expect r2 (.ch cRRound) with
        | none => .panic
        | some (false, it) => errFront it outer
        | some (true, r3) => .ok (some res) r3
    else .diverge
termination_by ts.length * 8 + 3
/-- `parseTypeRefWithAngleBracketsOpt` -/
def parseTypeRefWithAngleBracketsOpt (ts : List Token) (outer : Pos) : Res (Option TypeRef) :=
  match parseTypeRefAsName ts outer with
  | .panic => .panic
  | .diverge => .diverge
  | .err _ => .ok none ts
  | .ok name r1 =>
    match expect r1 (.ch cLAngle) with
    | none => .panic
    | some (false, _) => .ok none ts
    | some (true, r2) =>
      match skipWS r2 with     -- res.PRArgs = rest.skipWS(outer)
      | none => .panic
      | some (t3, r3) =>
        if r3.length + 1 < ts.length then
          match angleArgsLoop (t3 :: r3) outer [] with
          | .panic => .panic
          | .diverge => .diverge
          | .err e => .err e
          | .ok args rest => .ok (some (.mk name args false)) rest
        else .diverge
termination_by ts.length * 8 + 3
/-- the `for { … }` loop of `parseTypeRefWithAngleBracketsOpt` -/
def angleArgsLoop (ts : List Token) (outer : Pos) (acc : List AOT) : Res (List AOT) :=
  match parseArithmeticOrTypeOpt ts true outer with
  | .panic => .panic
  | .diverge => .diverge
  | .err e => .err e
  | .ok none _ => errFront ts outer
  | .ok (some aot) rest =>
    match expect rest (.ch cComma) with
    | none => .panic
    | some (true, r1) =>
      if r1.length < ts.length then angleArgsLoop r1 outer (acc ++ [aot]) else .diverge
    | some (false, it) =>
      if !needFront it then .panic else
      match expect it (.ch cRAngle) with
      | none => .panic
      | some (false, it2) => errFront it2 outer
      | some (true, r2) => .ok (acc ++ [aot]) r2
termination_by ts.length * 8 + 6
/-- `parseArithmeticOrTypeOpt` -/
def parseArithmeticOrTypeOpt (ts : List Token) (applyFlag : Bool) (outer : Pos) : Res (Option AOT) :=
  match skipWS ts with
  | none => .panic
  | some (t0, r0) =>
    match parseArithmetic (t0 :: r0) outer false with
    | .panic => .panic
    | .diverge => .diverge
    | .err e => .err e
    | .ok (some a) rest => if !needFront rest then .panic else .ok (some (.arith a)) rest
    | .ok none _ =>
      if r0.length < ts.length then
        match parseTypeRef (t0 :: r0) applyFlag true outer with
        | .panic => .panic
        | .diverge => .diverge
        | .err e => .err e
        | .ok (some t) rest => .ok (some (.type t)) rest
        | .ok none _ => .ok none ts
      else .diverge
termination_by ts.length * 8 + 5
/-- `parseRepeatWithScaleOpt` -/
def parseRepeatWithScaleOpt (text : Bytes) (ts : List Token) (outer : Pos) : Res (Option RWS) :=
  match skipWS ts with
  | none => .panic
  | some (t0, r0) =>
    match parseScaleFactorOpt (t0 :: r0) outer with
    | .panic => .panic
    | .diverge => .diverge
    | .err e => .err e
    | .ok scale r1 =>
      match rwsOpen scale r1 outer with
      | .panic => .panic
      | .diverge => .diverge
      | .err e => .err e
      | .ok false _ => .ok none ts
      | .ok true r3 =>
        if r3.length < ts.length then
          match parseFields text r3 r3 (.ch cRSquare) (.ch cRSquare) outer [] with
          | .panic => .panic
          | .diverge => .diverge
          | .err e => .err e
          | .ok (_, rep) r4 => if !needFront r4 then .panic else .ok (some (scale, rep)) r4
        else .diverge
termination_by ts.length * 8 + 5
/-- `parseField` -/
def parseField (text : Bytes) (commentStart ts : List Token) (outer : Pos) : Res Field :=
  match skipWS ts with
  | none => .panic
  | some (t0, r0) =>
    match parseCommentBefore text commentStart (t0 :: r0) with
    | none => .panic
    | some cb =>
      match parseFieldName (t0 :: r0) outer with
      | none => .panic
      | some (fieldName, r1) =>
        match parseFieldMask r1 outer with
        | .panic => .panic
        | .diverge => .diverge
        | .err e => .err e
        | .ok mask r2' =>
          let r2 := if mask.isSome then r2' else r1
          match expect r2 (.ch cExcl) with
          | none => .panic
          | some (excl, r3) =>
            if r3.length ≤ ts.length then
              match parseRepeatWithScaleOpt text r3 outer with
              | .panic => .panic
              | .diverge => .diverge
              | .err e => .err e
              | .ok (some (scale, rep)) r4 =>
                if !needFront r4 then .panic else .ok (.mk fieldName mask excl (.rep scale rep) false cb []) r4
              | .ok none _ =>
                match parseTypeRef r3 false true outer with
                | .panic => .panic
                | .diverge => .diverge
                | .err e => .err e
                | .ok none _ => errFront r3 outer
                | .ok (some t) r4 =>
                  if !needFront r4 then .panic else .ok (.mk fieldName mask excl (.type t) false cb []) r4
            else .diverge
termination_by ts.length * 8 + 6
/-- the `for { … }` loop of `parseFields`; returns the finishing token type and the fields -/
def parseFields (text : Bytes) (commentStart ts : List Token) (fin1 fin2 : TT) (outer : Pos) (acc : List Field) :
    Res (TT × List Field) :=
  match checkToken ts fin1 with
  | none => .panic
  | some (true, _, r) => .ok (fin1, acc) r      -- rest.popFront()
  | some (false, t, r) =>
    match checkToken (t :: r) fin2 with
    | none => .panic
    | some (true, _, r') => .ok (fin2, acc) r'
    | some (false, t', r') =>
      if r'.length < ts.length then
        match parseField text commentStart (t' :: r') outer with
        | .panic => .panic
        | .diverge => .diverge
        | .err e => .err e
        | .ok field r1 =>
          -- commentStart = rest; if rest.skipToNewline() { NewlineRight; CommentRight }
          match skipToNewline r1 with
          | (nl, r2) =>
            match (if nl then parseCommentRight text r1 r2 else some []) with
            | none => .panic
            | some cr =>
              if r2.length < ts.length then
                parseFields text r2 r2 fin1 fin2 outer (acc ++ [field.setRight nl cr])
              else .diverge
      else .diverge
termination_by ts.length * 8 + 7
end

/-! ### combinators and files -/

/-- `parseFuncDecl` -/
def parseFuncDecl (ts : List Token) (outer : Pos) : Res TypeRef :=
  match parseTypeRef ts true false outer with
  | .panic => .panic
  | .diverge => .diverge
  | .err e => .err e
  | .ok none _ => errFront ts outer
  | .ok (some t) rest => .ok t rest

def builtinWildcard : Name := ⟨[], [cUnderscore]⟩

/-- the body of a combinator in `parseCombinator`: `? =` (legacy builtin) or the fields up to `=`/`=>`;
returns `(Builtin, isFunction, Fields)` -/
def combinatorBody (text : Bytes) (r4 : List Token) (outer : Pos) (isFunction : Bool) : Res (Bool × Bool × List Field) :=
  match checkToken r4 (.ch cQuestion) with
  | none => .panic
  | some (true, t5, r5) =>
    if isFunction then .err ⟨t5, outer⟩
    else
      match expectOrPanic (t5 :: r5) (.ch cQuestion) with
      | none => .panic
      | some r6 =>
        match expect r6 (.ch cEqual) with
        | none => .panic
        | some (false, it) => errFront it outer
        | some (true, r7) => .ok (true, isFunction, []) r7
  | some (false, t5, r5) =>
    match parseFields text (t5 :: r5) (t5 :: r5) (.ch cEqual) .functionSign outer [] with
    | .panic => .panic
    | .diverge => .diverge
    | .err e => .err e
    | .ok (fin, fields) r6 => .ok (false, isFunction || fin == .functionSign, fields) r6

/-- the declaration part of `parseCombinator`: `(Builtin, TypeDecl, FuncDecl)` -/
def combinatorDecl (r6 : List Token) (outer : Pos) (builtin isFunction : Bool) : Res (Bool × TypeDecl × TypeRef) :=
  if isFunction then
    match parseFuncDecl r6 outer with
    | .panic => .panic
    | .diverge => .diverge
    | .err e => .err e
    | .ok fd r7 => .ok (builtin, ⟨⟨[], []⟩, []⟩, fd) r7
  else
    match parseTypeDeclaration r6 outer with
    | .panic => .panic
    | .diverge => .diverge
    | .err e => .err e
    | .ok tdl r7 => .ok (builtin || tdl.name == builtinWildcard, tdl, TypeRef.zero) r7

/-- the tag: explicit, or `crc32()` of the canonical form -/
def Combinator.withTag (td : Combinator) : Combinator :=
  if td.construct.explicit then td else { td with construct := { td.construct with id := td.genCrc32 } }

/-- `parseCombinator` up to and including the terminating `;`: the combinator without its computed tag and
right comment -/
def parseCombinatorPre (text : Bytes) (commentStart ts : List Token) (isFunction allowBuiltin : Bool) : Res Combinator :=
  match skipWS ts with     -- td.PR = rest.skipWS(Position{})
  | none => .panic
  | some (t0, r0) =>
    match parseCommentBefore text commentStart (t0 :: r0) with
    | none => .panic
    | some cb =>
      let outer := t0.pos
      match parseModifiers (t0 :: r0) [] with
      | .panic => .panic
      | .diverge => .diverge
      | .err e => .err e
      | .ok mods r1 =>
        match parseConstructor r1 outer allowBuiltin with
        | .panic => .panic
        | .diverge => .diverge
        | .err e => .err e
        | .ok construct r2 =>
          match skipWS r2 with     -- td.TemplateArgumentsPR = rest.skipWS(outer)
          | none => .panic
          | some (t3, r3) =>
            match parseTemplateArguments (t3 :: r3) outer [] with
            | .panic => .panic
            | .diverge => .diverge
            | .err e => .err e
            | .ok targs r4 =>
              if !needFront r4 then .panic else
              match combinatorBody text r4 outer isFunction with
              | .panic => .panic
              | .diverge => .diverge
              | .err e => .err e
              | .ok (builtin, isFunction, fields) r6 =>
                match combinatorDecl r6 outer builtin isFunction with
                | .panic => .panic
                | .diverge => .diverge
                | .err e => .err e
                | .ok (builtin, typeDecl, funcDecl) r7 =>
                  match expect r7 (.ch cSemi) with
                  | none => .panic
                  | some (false, it) => errFront it outer
                  | some (true, r8) =>
                    let td : Combinator :=
                      { builtin := builtin, isFunction := isFunction, mods := mods, construct := construct,
                        targs := targs, fields := fields, typeDecl := typeDecl, funcDecl := funcDecl,
                        cb := cb, cr := [] }
                    .ok td r8

/-- `parseCombinator`: after the `;`, the tag (`td.Construct.ID = td.crc32()` unless explicit), the comment
to the right, `td.PR.End = rest.front().pos` -/
def parseCombinator (text : Bytes) (commentStart ts : List Token) (isFunction allowBuiltin : Bool) : Res Combinator :=
  match parseCombinatorPre text commentStart ts isFunction allowBuiltin with
  | .panic => .panic
  | .diverge => .diverge
  | .err e => .err e
  | .ok td r8 =>
    match skipToNewline r8 with
    | (nl, r9) =>
      match (if nl then parseCommentRight text r8 r9 else some []) with
      | none => .panic
      | some cr => if !needFront r9 then .panic else .ok { td.withTag with cr := cr } r9

inductive FileRes where
  | ok (tl : TL)
  | lexErr (e : PErr)
  | err (e : PErr)
  | panic
  | diverge
  deriving Inhabited

/-- the main loop of `ParseTLFile` -/
def parseFileLoop (text : Bytes) (allowBuiltin : Bool) (commentStart ts : List Token) (functionSection : Bool)
    (acc : List Item) : FileRes :=
  match checkToken ts .eof with
  | none => .panic
  | some (true, t, r) =>
    match sliceBetween text commentStart (t :: r) with
    | none => .panic
    | some ca => .ok ⟨acc, ca⟩
  | some (false, t, r) =>
    if t.ty == .typesSection || t.ty == .functionsSection then
      match sliceBetween text commentStart (t :: r) with
      | none => .panic
      | some cc =>
        let fs := t.ty == .functionsSection
        if r.length < ts.length then
          parseFileLoop text allowBuiltin r r fs (acc ++ [.section fs cc])
        else .diverge
    else
      match parseCombinator text commentStart (t :: r) functionSection allowBuiltin with
      | .panic => .panic
      | .diverge => .diverge
      | .err e => .err e
      | .ok td rest =>
        if !needFront commentStart then .panic    -- td.AllPR.Begin = commentStart.front().pos
        else if rest.length < ts.length then
          parseFileLoop text allowBuiltin rest rest functionSection (acc ++ [.comb td])
        else .diverge
termination_by ts.length

/-- `ParseTLFile(str, file, opts)` -/
def parseTLFile (o : LexOpts) (text : Bytes) : FileRes :=
  match generateTokens o text with
  | .panic => .panic
  | .diverge => .diverge
  | .err _ e => .lexErr e
  | .ok toks rest =>
    if recombine toks rest != text then .panic     -- "invariant violation in tokenizer"
    else parseFileLoop text o.allowBuiltin toks toks false []

end TLVerif.Syntax
