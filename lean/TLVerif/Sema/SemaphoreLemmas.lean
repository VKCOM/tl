import TLVerif.Sema.Semaphore
/-! The critical section of the semaphore as a relation: `Step s op r` has one constructor per outcome, with the
condition under which it occurs, and `step_spec` says that `step` is one of them. Each fact about a single step
(`Step.noLost`, `Step.chain`, `Step.queue`, `Step.magnitude`, `Step.wf`) is a case analysis on `Step`; the property
theorems are in `Props/C42.lean`. -/
namespace TLVerif.Sema

/-- No lost wake-up: there is no first waiter, or the capacity does not allow it to proceed. -/
def NoLost (s : State) : Prop :=
  match s.waiters with
  | [] => True
  | w :: _ => s.size - s.cur < (w.n : Int)

instance (s : State) : Decidable (NoLost s) := by
  unfold NoLost; split <;> infer_instance

/-- The events' `curAfter` are the running totals of `cur` from `c` to `c'`: nothing else moves `cur` (`Step.chain`). -/
def Chain : Int → List Adm → Int → Prop
  | c, [], c' => c' = c
  | c, e :: es, c' => e.curAfter = c + e.n ∧ Chain e.curAfter es c'

/-- The queue is in arrival order (tickets are issued in increasing order). -/
def Sorted (s : State) : Prop :=
  s.waiters.Pairwise (fun a b => a.id < b.id) ∧ ∀ w ∈ s.waiters, w.id < s.next

/-- Ticket and weight: through these a queue entry is compared with the event that admits it (`notify_prefix`). -/
def Waiter.key (w : Waiter) : Option Nat × Nat := (some w.id, w.n)
def Adm.key (a : Adm) : Option Nat × Nat := (a.ticket, a.n)

def qsum (ws : List Waiter) : Int := (ws.map (fun w => (w.n : Int))).sum

/-- What `notifyWaiters` establishes of its result `r`; `notify_spec` gets all of it from one walk along the queue. -/
structure NotifySpec (size cur : Int) (ws : List Waiter) (r : Int × List Adm × List Waiter) : Prop where
  bound : ∀ e ∈ r.2.1, e.curAfter ≤ e.size ∧ e.size = size
  chain : Chain cur r.2.1 r.1
  admitted : ∃ pre, ws = pre ++ r.2.2 ∧ pre.map Waiter.key = r.2.1.map Adm.key
  noLost : match r.2.2 with  -- `NoLost` of the state that `afterNotify` builds
    | [] => True
    | w :: _ => size - r.1 < (w.n : Int)
  total : r.1 + qsum r.2.2 = cur + qsum ws
  mono : cur ≤ r.1

theorem notify_spec (size : Int) (ws : List Waiter) (cur : Int) : NotifySpec size cur ws (notify size cur ws) := by
  fun_induction notify size cur ws with
  | case1 => exact ⟨nofun, rfl, ⟨[], rfl, rfl⟩, trivial, rfl, Int.le_refl _⟩
  | case2 cur w ws h => exact ⟨nofun, rfl, ⟨[], rfl, rfl⟩, h, rfl, Int.le_refl _⟩
  | case3 cur w ws h r ih =>
    obtain ⟨pre, h1, h2⟩ := ih.admitted
    refine ⟨List.forall_mem_cons.mpr ⟨⟨by simp only; omega, rfl⟩, ih.bound⟩, ⟨rfl, ih.chain⟩,
      ⟨w :: pre, congrArg (w :: ·) h1, congrArg (w.key :: ·) h2⟩, ih.noLost, ?_, Int.le_trans (by omega) ih.mono⟩
    have := ih.total
    simp only [qsum, List.map_cons, List.sum_cons, r] at this ⊢
    omega

theorem notify_prefix (size : Int) (ws : List Waiter) (cur : Int) :
    (notify size cur ws).2.1.map Adm.key ++ (notify size cur ws).2.2.map Waiter.key = ws.map Waiter.key := by
  obtain ⟨pre, h1, h2⟩ := (notify_spec size ws cur).admitted
  rw [← h2, ← List.map_append, ← h1]

theorem notify_blocked (size : Int) (w : Waiter) (ws : List Waiter) (cur : Int)
    (h : size - cur < (w.n : Int)) : notify size cur (w :: ws) = (cur, [], w :: ws) := by
  unfold notify; rw [if_pos h]

theorem afterNotify_noLost (s : State) (res : Res) : NoLost (afterNotify s res).1 :=
  (notify_spec s.size s.waiters s.cur).noLost

theorem afterNotify_waiters_suffix (s : State) (res : Res) :
    ∃ pre, s.waiters = pre ++ (afterNotify s res).1.waiters ∧
      pre.map Waiter.key = (afterNotify s res).2.adm.map Adm.key :=
  (notify_spec s.size s.waiters s.cur).admitted

theorem afterNotify_waiters_sublist (s : State) (res : Res) : (afterNotify s res).1.waiters.Sublist s.waiters := by
  obtain ⟨pre, h1, _⟩ := afterNotify_waiters_suffix s res
  rw [h1]; exact List.sublist_append_right _ _

theorem afterNotify_fate (s : State) (res : Res) {w : Waiter} (hw : w ∈ s.waiters) :
    w ∈ (afterNotify s res).1.waiters ∨ ∃ a ∈ (afterNotify s res).2.adm, a.ticket = some w.id := by
  obtain ⟨pre, h1, h2⟩ := afterNotify_waiters_suffix s res
  rcases List.mem_append.mp (h1 ▸ hw) with hp | hr
  · obtain ⟨a, ha, hk⟩ := List.mem_map.mp (h2 ▸ List.mem_map_of_mem hp : w.key ∈ _)
    exact .inr ⟨a, ha, congrArg Prod.fst hk⟩
  · exact .inl hr

/-- Every outcome of a critical section started in `s`, with its path condition: the test the code passes there and
the negations of the tests it has failed before, so no two constructors apply to the same `s` and `op`. -/
inductive Step (s : State) : Op → State × Out → Prop
  | acqPanic (n : Int) : n < 0 → Step s (.acquire n) ({ s with next := s.next + 1 }, ⟨.panic, []⟩)
  | acqFast (n : Int) : 0 ≤ n → n ≤ s.size - s.cur → s.waiters = [] →
      Step s (.acquire n) ({ s with next := s.next + 1, cur := s.cur + n },
        ⟨.ok, [⟨some s.next, n.toNat, s.cur + n, s.size⟩]⟩)
  | acqDoomed (n : Int) : 0 ≤ n → ¬ (n ≤ s.size - s.cur ∧ s.waiters = []) → s.size < n →
      Step s (.acquire n) ({ s with next := s.next + 1, doomed := s.doomed ++ [s.next] }, ⟨.doomed, []⟩)
  | acqQueue (n : Int) : 0 ≤ n → ¬ (n ≤ s.size - s.cur ∧ s.waiters = []) → n ≤ s.size →
      Step s (.acquire n) ({ s with next := s.next + 1, waiters := s.waiters ++ [⟨s.next, n.toNat⟩] }, ⟨.blocked, []⟩)
  | tryPanic (n : Int) : n < 0 → Step s (.tryAcquire n) (s, ⟨.panic, []⟩)
  | tryYes (n : Int) : 0 ≤ n → n ≤ s.size - s.cur → s.waiters = [] →
      Step s (.tryAcquire n) ({ s with cur := s.cur + n }, ⟨.yes, [⟨none, n.toNat, s.cur + n, s.size⟩]⟩)
  | tryNo (n : Int) : 0 ≤ n → ¬ (n ≤ s.size - s.cur ∧ s.waiters = []) → Step s (.tryAcquire n) (s, ⟨.no, []⟩)
  | relPanic (n : Int) : n < 0 → Step s (.release n) (s, ⟨.panic, []⟩)
  | relOver (n : Int) : 0 ≤ n → s.cur - n < 0 → Step s (.release n) ({ s with cur := s.cur - n }, ⟨.panic, []⟩)
  | relOk (n : Int) : 0 ≤ n → 0 ≤ s.cur - n → Step s (.release n) (afterNotify { s with cur := s.cur - n } .ok)
  | forcePanic (n : Int) : n < 0 → Step s (.force n) (s, ⟨.panic, []⟩)
  | forceOk (n : Int) : 0 ≤ n → Step s (.force n) ({ s with cur := s.cur + n }, ⟨.ok, []⟩)
  | setSize (n : Int) : Step s (.setSize n) (afterNotify { s with size := n } .ok)
  | cancelFront (id : Nat) : s.waiters.any (·.id == id) = true → isFront s id = true → s.cur ≤ s.size →
      Step s (.cancel id) (afterNotify { s with waiters := s.waiters.filter (fun w => !(w.id == id)) } .err)
  | cancelQueued (id : Nat) : s.waiters.any (·.id == id) = true → ¬ (isFront s id = true ∧ s.cur ≤ s.size) →
      Step s (.cancel id) ({ s with waiters := s.waiters.filter (fun w => !(w.id == id)) }, ⟨.err, []⟩)
  | cancelDoomed (id : Nat) : s.waiters.any (·.id == id) = false → id ∈ s.doomed →
      Step s (.cancel id) ({ s with doomed := s.doomed.filter (fun t => !(t == id)) }, ⟨.err, []⟩)
  | cancelNoop (id : Nat) : s.waiters.any (·.id == id) = false → id ∉ s.doomed → Step s (.cancel id) (s, ⟨.noop, []⟩)
  | observe : Step s .observe (s, ⟨.ok, []⟩)

theorem step_spec (s : State) (op : Op) : Step s op (step s op) := by
  cases op with
  | acquire n =>
    show Step s _ (stepAcquire s n)
    fun_cases stepAcquire s n
    · next h0 => exact .acqPanic n h0
    · next h0 hf => exact .acqFast n (Int.not_lt.mp h0) hf.1 (List.isEmpty_iff.mp hf.2)
    · next h0 hf hd => exact .acqDoomed n (Int.not_lt.mp h0) (fun h => hf ⟨h.1, List.isEmpty_iff.mpr h.2⟩) hd
    · next h0 hf hd =>
      exact .acqQueue n (Int.not_lt.mp h0) (fun h => hf ⟨h.1, List.isEmpty_iff.mpr h.2⟩) (Int.not_lt.mp hd)
  | tryAcquire n =>
    show Step s _ (stepTry s n)
    fun_cases stepTry s n
    · next h0 => exact .tryPanic n h0
    · next h0 hf => exact .tryYes n (Int.not_lt.mp h0) hf.1 (List.isEmpty_iff.mp hf.2)
    · next h0 hf => exact .tryNo n (Int.not_lt.mp h0) (fun h => hf ⟨h.1, List.isEmpty_iff.mpr h.2⟩)
  | release n =>
    show Step s _ (stepRelease s n)
    fun_cases stepRelease s n
    · next h0 => exact .relPanic n h0
    · next h0 _ h1 => exact .relOver n (Int.not_lt.mp h0) h1
    · next h0 _ h1 => exact .relOk n (Int.not_lt.mp h0) (Int.not_lt.mp h1)
  | force n =>
    show Step s _ (stepForce s n)
    fun_cases stepForce s n
    · next h0 => exact .forcePanic n h0
    · next h0 => exact .forceOk n (Int.not_lt.mp h0)
  | setSize n => exact .setSize n
  | cancel id =>
    show Step s _ (stepCancel s id)
    fun_cases stepCancel s id
    · next ha _ _ hf => exact .cancelFront id ha hf.1 hf.2
    · next ha _ _ hf => exact .cancelQueued id ha hf
    · next ha hd => exact .cancelDoomed id (by simpa using ha) (by simpa using hd)
    · next ha hd => exact .cancelNoop id (by simpa using ha) (by simpa using hd)
  | observe => exact .observe

theorem step_release (s : State) {n : Int} (h0 : 0 ≤ n) (h1 : n ≤ s.cur) :
    step s (.release n) = afterNotify { s with cur := s.cur - n } .ok := by
  simp only [step, stepRelease]
  rw [if_neg (by omega), if_neg (by omega)]

namespace Step
variable {s : State} {op : Op} {r : State × Out}

theorem adm_ok (h : Step s op r) : ∀ e ∈ r.2.adm, e.curAfter ≤ e.size ∧ e.size = r.1.size := by
  cases h with
  | acqFast n h0 h1 hw | tryYes n h0 h1 hw =>
    intro e he; cases List.mem_singleton.mp he; exact ⟨by simp only; omega, rfl⟩
  | relOk | setSize | cancelFront => exact (notify_spec _ _ _).bound
  | _ => intro e he; cases he

theorem size (h : Step s op r) : r.1.size = match op with | .setSize n => n | _ => s.size := by
  cases h <;> rfl

theorem next_ge (h : Step s op r) : s.next ≤ r.1.next := by
  cases h <;> first | exact Nat.le_refl _ | exact Nat.le_succ _

theorem doomed_mem (h : Step s op r) : ∀ t ∈ r.1.doomed, t ∈ s.doomed ∨ (t = s.next ∧ ∃ n, op = .acquire n) := by
  intro t ht
  cases h with
  | acqDoomed n =>
    rcases List.mem_append.mp ht with ht | ht
    · exact .inl ht
    · exact .inr ⟨List.mem_singleton.mp ht, n, rfl⟩
  | cancelDoomed => exact .inl (List.filter_sublist.subset ht)
  | _ => exact .inl ht

theorem doomed_stays (h : Step s op r) {t : Nat} (ht : t ∈ s.doomed) (hop : op ≠ .cancel t) : t ∈ r.1.doomed := by
  cases h with
  | acqDoomed => exact List.mem_append_left _ ht
  | cancelDoomed id =>
    exact List.mem_filter.mpr ⟨ht, by simpa using fun h : t = id => hop (h ▸ rfl)⟩
  | _ => exact ht

theorem waiters_sublist (h : Step s op r) :
    r.1.waiters.Sublist s.waiters ∨ ∃ n, op = .acquire n ∧ r.1.waiters = s.waiters ++ [⟨s.next, n.toNat⟩] := by
  cases h with
  | acqQueue n => exact .inr ⟨n, rfl, rfl⟩
  | relOk | setSize => exact .inl (afterNotify_waiters_sublist _ _)
  | cancelFront => exact .inl ((afterNotify_waiters_sublist _ _).trans List.filter_sublist)
  | cancelQueued => exact .inl List.filter_sublist
  | _ => exact .inl (List.Sublist.refl _)

theorem waiter_fate (h : Step s op r) {w : Waiter} (hw : w ∈ s.waiters) (hop : op ≠ .cancel w.id) :
    w ∈ r.1.waiters ∨ ∃ a ∈ r.2.adm, a.ticket = some w.id := by
  have hf (id : Nat) (hid : .cancel id = op) : w ∈ s.waiters.filter (fun w => !(w.id == id)) :=
    List.mem_filter.mpr ⟨hw, by simpa using fun e : w.id = id => hop (e ▸ hid.symm)⟩
  cases h with
  | acqQueue => exact .inl (List.mem_append_left _ hw)
  | relOk | setSize => exact afterNotify_fate _ _ hw
  | cancelFront id => exact afterNotify_fate _ _ (hf id rfl)
  | cancelQueued id => exact .inl (hf id rfl)
  | _ => exact .inl hw

end Step

/-- `Release(n)` with `n` larger than `cur`: the documented misuse. The Go code has already decremented
`cur` when it panics and does not call `notifyWaiters`. -/
def OverRelease (s : State) : Op → Prop
  | .release n => 0 ≤ n ∧ s.cur - n < 0
  | _ => False

instance (s : State) (op : Op) : Decidable (OverRelease s op) := by
  unfold OverRelease; split <;> infer_instance

def Clean (s : State) (op : Op) : Prop := ¬ OverRelease s op

instance (s : State) (op : Op) : Decidable (Clean s op) := by unfold Clean; infer_instance

theorem noLost_nil {s : State} (h : s.waiters = []) : NoLost s := by
  unfold NoLost; rw [h]; trivial

theorem Step.noLost {s : State} {op : Op} {r : State × Out} (h : Step s op r) (hn : NoLost s) (hc : Clean s op) :
    NoLost r.1 := by
  cases h with
  | acqFast n _ _ hw | tryYes n _ _ hw => exact noLost_nil hw
  | acqQueue n h0 hf =>
    unfold NoLost at hn ⊢
    cases hw : s.waiters with
    | nil =>
      have : ¬ n ≤ s.size - s.cur := fun hge => hf ⟨hge, hw⟩
      simp only [List.nil_append]; omega
    | cons w ws => rw [hw] at hn; simpa [hw] using hn
  | relOver n h0 h1 => exact absurd ⟨h0, h1⟩ hc
  | relOk | setSize | cancelFront => exact afterNotify_noLost _ _
  | forceOk n h0 =>
    unfold NoLost at hn ⊢
    cases hw : s.waiters with
    | nil => trivial
    | cons w ws => rw [hw] at hn; simp only at hn ⊢; omega
  | cancelQueued id ha hnf =>
    unfold NoLost at hn ⊢
    cases hw : s.waiters with
    | nil => trivial
    | cons w ws =>
      rw [hw] at hn
      by_cases hid : w.id = id
      · -- the front was cancelled and `notifyWaiters` did not run: then `size < cur`, and not even weight 0 fits
        have hlt : s.size < s.cur := by
          have : ¬ s.cur ≤ s.size := fun hge => hnf ⟨by simp [isFront, hw, hid], hge⟩
          omega
        simp only
        split
        · trivial
        · omega
      · simpa [hw, hid] using hn
  | _ => exact hn

/-- No step of the history is an over-release: the guard of `exec_take_noLost`. -/
def CleanRun (s : State) : List Op → Prop
  | [] => True
  | op :: ops => Clean s op ∧ CleanRun (step s op).1 ops

instance : (s : State) → (ops : List Op) → Decidable (CleanRun s ops)
  | _, [] => isTrue trivial
  | s, op :: ops =>
    have := instDecidableCleanRun (step s op).1 ops
    by unfold CleanRun; infer_instance

theorem exec_append (s : State) (a b : List Op) : exec s (a ++ b) = exec (exec s a) b := by
  induction a generalizing s with
  | nil => rfl
  | cons op a ih => simp [exec, ih]

theorem exec_take_noLost (s : State) (ops : List Op) (k : Nat) (h : NoLost s) (hc : CleanRun s ops) :
    NoLost (exec s (ops.take k)) := by
  induction ops generalizing s k with
  | nil => rw [List.take_nil]; exact h
  | cons op ops ih =>
    cases k with
    | zero => exact h
    | succ k => exact ih _ k ((step_spec s op).noLost h hc.1) hc.2

theorem init_noLost (n : Int) : NoLost (init n) := noLost_nil rfl

theorem exec_invariant {I : State → Prop} (hI : ∀ s op, I s → I (step s op).1) (s : State) (ops : List Op)
    (h : I s) : I (exec s ops) := by
  induction ops generalizing s with
  | nil => exact h
  | cons op ops ih => exact ih _ (hI s op h)

theorem trace_forall {I : State → Prop} {Q : State × Op × Out → Prop} (hI : ∀ s op, I s → I (step s op).1)
    (hQ : ∀ s op, I s → Q (s, op, (step s op).2)) (s : State) (ops : List Op) (h : I s) :
    ∀ x ∈ trace s ops, Q x := by
  induction ops generalizing s with
  | nil => intro x hx; cases hx
  | cons op ops ih =>
    intro x hx
    rcases List.mem_cons.mp hx with hx | hx
    · subst hx; exact hQ s op h
    · exact ih _ (hI s op h) x hx

theorem afterNotify_no_overtaking (s : State) (res : Res) (h : s.waiters.Pairwise fun a b => a.id < b.id) :
    ∀ a ∈ (afterNotify s res).2.adm, ∀ t, a.ticket = some t →
      ∀ w ∈ (afterNotify s res).1.waiters, t < w.id := by
  obtain ⟨pre, h1, h2⟩ := afterNotify_waiters_suffix s res
  intro a ha t ht w hw
  have hk : a.key ∈ pre.map Waiter.key := by rw [h2]; exact List.mem_map_of_mem ha
  obtain ⟨p, hp, hpk⟩ := List.mem_map.mp hk
  have hpid : some p.id = some t := (congrArg Prod.fst hpk).trans ht
  rw [h1, List.pairwise_append] at h
  exact Option.some.inj hpid ▸ h.2.2 p hp w hw

namespace Step
variable {s : State} {op : Op} {r : State × Out}

theorem sorted (h : Step s op r) (hs : Sorted s) : Sorted r.1 := by
  rcases h.waiters_sublist with hsub | ⟨n, rfl, hq⟩
  · exact ⟨hs.1.sublist hsub, fun w hw => Nat.lt_of_lt_of_le (hs.2 w (hsub.subset hw)) h.next_ge⟩
  · have hn : r.1.next = s.next + 1 := by cases h <;> rfl
    unfold Sorted
    rw [hq, hn]
    refine ⟨List.pairwise_append.mpr ⟨hs.1, List.pairwise_singleton .., fun a ha b hb => ?_⟩, fun w hw => ?_⟩
    · cases List.mem_singleton.mp hb; exact hs.2 a ha
    · rcases List.mem_append.mp hw with hw | hw
      · exact Nat.lt_succ_of_lt (hs.2 w hw)
      · cases List.mem_singleton.mp hw; exact Nat.lt_succ_self _

theorem no_overtaking (h : Step s op r) (hs : Sorted s) :
    ∀ a ∈ r.2.adm, ∀ t, a.ticket = some t → ∀ w ∈ r.1.waiters, t < w.id := by
  cases h with
  | acqFast n _ _ hw | tryYes n _ _ hw =>
    intro a _ t _ w hm; rw [show _ = s.waiters from rfl, hw] at hm; cases hm
  | relOk | setSize => exact afterNotify_no_overtaking _ _ hs.1
  | cancelFront => exact afterNotify_no_overtaking _ _ (hs.1.sublist List.filter_sublist)
  | _ => intro a ha; cases ha

end Step

theorem sorted_init (n : Int) : Sorted (init n) := ⟨List.Pairwise.nil, fun _ hw => nomatch hw⟩

theorem exec_sorted (s : State) (ops : List Op) (h : Sorted s) : Sorted (exec s ops) :=
  exec_invariant (fun s op => (step_spec s op).sorted) s ops h

/-- The value of `cur` right after the operation's own unconditional update (before any admission). -/
def base (s : State) : Op → Int
  | .release n => if n < 0 then s.cur else s.cur - n
  | .force n => if n < 0 then s.cur else s.cur + n
  | _ => s.cur

theorem Step.chain {s : State} {op : Op} {r : State × Out} (h : Step s op r) : Chain (base s op) r.2.adm r.1.cur := by
  cases h with
  | acqFast n h0 | tryYes n h0 => exact ⟨by simp only [base]; omega, rfl⟩
  | relPanic n h0 | forcePanic n h0 => exact (if_pos h0).symm
  | relOver n h0 | forceOk n h0 => exact (if_neg (Int.not_lt.mpr h0)).symm
  | relOk n h0 => rw [base, if_neg (Int.not_lt.mpr h0)]; exact (notify_spec ..).chain
  | setSize | cancelFront => exact (notify_spec ..).chain
  | _ => exact rfl

def admSum (es : List Adm) : Int := (es.map (fun e => (e.n : Int))).sum

theorem chain_facts {c c' : Int} {es : List Adm} (h : Chain c es c') :
    c' = c + admSum es ∧ c ≤ c' ∧ ∀ sz, (∀ e ∈ es, e.curAfter ≤ sz) → c' ≤ max c sz := by
  induction es generalizing c with
  | nil =>
    obtain rfl : c' = c := h
    exact ⟨(Int.add_zero _).symm, Int.le_refl _, fun sz _ => by omega⟩
  | cons e es ih =>
    obtain ⟨i1, i2, i3⟩ := ih h.2
    have := h.1
    refine ⟨?_, by omega, fun sz hb => ?_⟩
    · simp only [admSum, List.map_cons, List.sum_cons] at i1 ⊢
      omega
    · have h1 := i3 sz (fun x hx => hb x (List.mem_cons_of_mem _ hx))
      have h2 := hb e (List.mem_cons_self ..)
      omega

/-- Weights are natural numbers, so the running total never decreases along a chain. -/
theorem chain_mono (c c' : Int) (es : List Adm) (h : Chain c es c') : c ≤ c' :=
  (chain_facts h).2.1

theorem filter_id_eq_self {ws : List Waiter} {id : Nat} (h : ws.any (·.id == id) = false) :
    ws.filter (fun w => !(w.id == id)) = ws :=
  List.filter_eq_self.mpr fun w hw => by simpa using List.any_eq_false.mp h w hw

theorem Step.queue {s : State} {op : Op} {r : State × Out} : Step s op r →
    match op with
    | .acquire n =>
        (r.2.res = .blocked ∧ r.1.waiters = s.waiters ++ [⟨s.next, n.toNat⟩]) ∨
        (r.2.res ≠ .blocked ∧ r.1.waiters = s.waiters ∧ (r.2.res = .ok → s.waiters = []))
    | .tryAcquire _ => r.1.waiters = s.waiters ∧ (r.2.res = .yes → s.waiters = [])
    | .force _ | .observe => r.1.waiters = s.waiters
    | .release _ | .setSize _ => r.2.adm.map Adm.key ++ r.1.waiters.map Waiter.key = s.waiters.map Waiter.key
    | .cancel id =>
        r.2.adm.map Adm.key ++ r.1.waiters.map Waiter.key =
          (s.waiters.filter (fun w => !(w.id == id))).map Waiter.key := by
  intro h
  cases h with
  | acqPanic | acqDoomed => exact .inr ⟨nofun, rfl, nofun⟩
  | acqFast n _ _ hw => exact .inr ⟨nofun, rfl, fun _ => hw⟩
  | acqQueue => exact .inl ⟨rfl, rfl⟩
  | tryPanic | tryNo => exact ⟨rfl, nofun⟩
  | tryYes n _ _ hw => exact ⟨rfl, fun _ => hw⟩
  | relOk | setSize | cancelFront => exact notify_prefix ..
  | cancelDoomed id ha | cancelNoop id ha =>
    exact congrArg (List.map Waiter.key) (filter_id_eq_self ha).symm
  | _ => exact rfl

/-- What the operation can add to `cur + queued weight`. -/
def accAmt : Op → Int
  | .acquire n | .tryAcquire n | .force n => max n 0
  | _ => 0

/-- What the operation can subtract from `cur`. -/
def relAmt : Op → Int
  | .release n => max n 0
  | _ => 0

def accSum (ops : List Op) : Int := (ops.map accAmt).sum
def relSum (ops : List Op) : Int := (ops.map relAmt).sum

theorem qsum_le_of_sublist {a b : List Waiter} (h : a.Sublist b) : qsum a ≤ qsum b := by
  induction h with
  | slnil => exact Int.le_refl _
  | cons w _ ih | cons_cons w _ ih => simp only [qsum, List.map_cons, List.sum_cons] at ih ⊢; omega

theorem qsum_nonneg (ws : List Waiter) : 0 ≤ qsum ws := qsum_le_of_sublist ws.nil_sublist

theorem Step.magnitude {s : State} {op : Op} {r : State × Out} (h : Step s op r) :
    r.1.cur + qsum r.1.waiters ≤ s.cur + qsum s.waiters + accAmt op ∧ s.cur - relAmt op ≤ r.1.cur := by
  have hq (id : Nat) := qsum_le_of_sublist (List.filter_sublist (p := fun w => !(w.id == id)) (l := s.waiters))
  cases h with
  | acqQueue n h0 =>
    have : qsum (s.waiters ++ [⟨s.next, n.toNat⟩]) = qsum s.waiters + n := by
      simp only [qsum, List.map_append, List.sum_append, List.map_cons, List.map_nil, List.sum_cons, List.sum_nil]
      omega
    simp only [accAmt, relAmt, this]; omega
  | relOk n =>
    have hn := notify_spec s.size s.waiters (s.cur - n)
    have := hn.total; have := hn.mono
    simp only [accAmt, relAmt, afterNotify]; omega
  | setSize n =>
    have hn := notify_spec n s.waiters s.cur
    have := hn.total; have := hn.mono
    simp only [accAmt, relAmt, afterNotify]; omega
  | cancelFront id =>
    have hn := notify_spec s.size (s.waiters.filter (fun w => !(w.id == id))) s.cur
    have := hn.total; have := hn.mono
    have := hq id
    simp only [accAmt, relAmt, afterNotify]; omega
  | cancelQueued id => have := hq id; simp only [accAmt, relAmt]; omega
  -- the rest move `cur` by their own `n` at most and keep the queue; the sign of `n` is among the constructor's premises
  | _ => simp only [accAmt, relAmt]; omega

theorem exec_magnitude (s : State) (ops : List Op) :
    (exec s ops).cur + qsum (exec s ops).waiters ≤ s.cur + qsum s.waiters + accSum ops ∧
    s.cur - relSum ops ≤ (exec s ops).cur := by
  induction ops generalizing s with
  | nil => simp [exec, accSum, relSum]
  | cons op ops ih =>
    have h1 := (step_spec s op).magnitude
    have h2 := ih (step s op).1
    simp only [exec, accSum, relSum, List.map_cons, List.sum_cons] at h2 ⊢
    constructor <;> omega

/-- Ticket `t` is blocked inside `Acquire`: queued, or parked on `ctx.Done()` outside the queue. -/
def Blocked (s : State) (t : Nat) : Prop := (∃ w ∈ s.waiters, w.id = t) ∨ t ∈ s.doomed

/-- No ticket in use has reached `next`, so the ticket an `Acquire` draws is fresh (C42 `failed_acquire_unchanged`). -/
def WF (s : State) : Prop := Sorted s ∧ ∀ t ∈ s.doomed, t < s.next

theorem wf_init (n : Int) : WF (init n) := ⟨sorted_init n, fun _ ht => nomatch ht⟩

theorem Step.wf {s : State} {op : Op} {r : State × Out} (h : Step s op r) (hw : WF s) : WF r.1 := by
  refine ⟨h.sorted hw.1, fun t ht => ?_⟩
  rcases h.doomed_mem t ht with h1 | ⟨rfl, n, rfl⟩
  · exact Nat.lt_of_lt_of_le (hw.2 t h1) h.next_ge
  · cases h <;> exact Nat.lt_succ_self _

theorem exec_wf (s : State) (ops : List Op) (h : WF s) : WF (exec s ops) :=
  exec_invariant (fun s op => (step_spec s op).wf) s ops h

theorem never_reblocked (s : State) (op : Op) (t : Nat) (ht : t < s.next) (hb : ¬ Blocked s t) :
    ¬ Blocked (step s op).1 t := by
  rintro (⟨w, hw, hid⟩ | hd)
  · rcases (step_spec s op).waiters_sublist with hsub | ⟨n, _, hq⟩
    · exact hb (.inl ⟨w, hsub.subset hw, hid⟩)
    · rcases List.mem_append.mp (hq ▸ hw) with hm | hm
      · exact hb (.inl ⟨w, hm, hid⟩)
      · cases List.mem_singleton.mp hm; simp only at hid; omega
  · rcases (step_spec s op).doomed_mem t hd with h1 | ⟨h1, _⟩
    · exact hb (Or.inr h1)
    · omega

def admTickets (o : Out) : List Nat := o.adm.filterMap (·.ticket)

theorem mem_admTickets {o : Out} {t : Nat} : t ∈ admTickets o ↔ ∃ a ∈ o.adm, a.ticket = some t := by
  simp [admTickets, List.mem_filterMap]

theorem cancel_not_admitted (s : State) (id : Nat) : id ∉ admTickets (step s (.cancel id)).2 := by
  intro h
  obtain ⟨a, ha, hat⟩ := mem_admTickets.mp h
  have hk : a.key ∈ (step s (.cancel id)).2.adm.map Adm.key ++ (step s (.cancel id)).1.waiters.map Waiter.key :=
    List.mem_append_left _ (List.mem_map_of_mem ha)
  rw [(step_spec s (.cancel id)).queue] at hk
  obtain ⟨w, hw, hwk⟩ := List.mem_map.mp hk
  have hwid : some w.id = some id := (congrArg Prod.fst hwk).trans hat
  simpa [Option.some.inj hwid] using (List.mem_filter.mp hw).2

theorem Step.cancel_res {s : State} {t : Nat} {r : State × Out} (h : Step s (.cancel t) r) (hb : Blocked s t) :
    r.2.res = .err := by
  cases h with
  | cancelNoop _ ha hd =>
    rcases hb with ⟨w, hw, hid⟩ | hd'
    · simpa [hid] using List.any_eq_false.mp ha w hw
    · exact absurd hd' hd
  | _ => rfl

theorem blocked_leaves_once (s : State) (op : Op) (t : Nat) (hb : Blocked s t) (hn : ¬ Blocked (step s op).1 t) :
    (t ∈ admTickets (step s op).2 ∧ op ≠ .cancel t) ∨
    (op = .cancel t ∧ (step s op).2.res = .err ∧ t ∉ admTickets (step s op).2) := by
  have hs := step_spec s op
  by_cases hop : op = .cancel t
  · subst hop; exact .inr ⟨rfl, hs.cancel_res hb, cancel_not_admitted s t⟩
  · refine .inl ⟨?_, hop⟩
    rcases hb with ⟨w, hw, hid⟩ | hd
    · rcases hs.waiter_fate hw (hid ▸ hop) with h | ⟨a, ha, hat⟩
      · exact absurd (.inl ⟨w, h, hid⟩) hn
      · exact mem_admTickets.mpr ⟨a, ha, hid ▸ hat⟩
    · -- parked outside the queue: only its own cancellation removes it
      exact absurd (.inr (hs.doomed_stays hd hop)) hn

theorem afterNotify_admits_front (s : State) (res : Res) {w : Waiter} {ws : List Waiter} (hw : s.waiters = w :: ws)
    (h : (w.n : Int) ≤ s.size - s.cur) :
    ∃ rest, (afterNotify s res).2.adm = ⟨some w.id, w.n, s.cur + w.n, s.size⟩ :: rest := by
  unfold afterNotify
  rw [hw, notify, if_neg (by omega)]
  exact ⟨_, rfl⟩

/-- An admission from the queue only happens to a waiter that fits. -/
theorem notify_nothing_if_front_blocked (s : State) (res : Res) (w : Waiter) (ws : List Waiter)
    (hw : s.waiters = w :: ws) (h : s.size - s.cur < (w.n : Int)) :
    (afterNotify s res).2.adm = [] ∧ (afterNotify s res).1.waiters = s.waiters ∧ (afterNotify s res).1.cur = s.cur := by
  simp only [afterNotify, hw, notify_blocked _ _ _ _ h, and_self]

/-- `stepCancel` as the code was before the repair: `notifyWaiters` only if `size > cur` (strictly). -/
def stepCancelStrictGt (s : State) (id : Nat) : State × Out :=
  if s.waiters.any (·.id == id) then
    let front := isFront s id
    let s' := { s with waiters := s.waiters.filter (fun w => !(w.id == id)) }
    if front ∧ s'.size > s'.cur then afterNotify s' .err
    else (s', ⟨.err, []⟩)
  else if s.doomed.contains id then
    ({ s with doomed := s.doomed.filter (fun t => !(t == id)) }, ⟨.err, []⟩)
  else (s, ⟨.noop, []⟩)

def stepStrictGt (s : State) : Op → State × Out
  | .cancel id => stepCancelStrictGt s id
  | op => step s op

def execStrictGt (s : State) : List Op → State
  | [] => s
  | op :: ops => execStrictGt (stepStrictGt s op).1 ops

/-- The zero-weight gap of the old branch: the cancelled ticket is the front of the queue, `size = cur` (so the strict
test skipped `notifyWaiters`) and the waiter that becomes the front asks for weight 0 (which fits into zero capacity). -/
def ZeroGap (s : State) (id : Nat) : Prop :=
  isFront s id = true ∧ s.size = s.cur ∧
    match s.waiters.filter (fun w => !(w.id == id)) with
    | [] => False
    | w2 :: _ => w2.n = 0

instance (s : State) (id : Nat) : Decidable (ZeroGap s id) := by
  unfold ZeroGap; split <;> infer_instance

end TLVerif.Sema
