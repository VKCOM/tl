import TLVerif.Rpcextra.WireLemmas
import TLVerif.Rpcextra.Extras
/-! Round trips of the extras codecs: `read (write e ++ rest) = (norm e, rest)`.
Each proof walks the reader field by field with `Reads.bind`. -/
namespace TLVerif.Rpcextra
open TLVerif.Prim TLVerif.Facts.Prim

theorem TraceContext.rt (t : TraceContext) (h : hasBit t.fieldsMask 3 = true → strOK t.sourceId) :
    Reads TraceContext.read t.write t.norm := fun rest => by
  simp only [TraceContext.write, List.append_assoc]
  apply (u32_rt _).bind
  apply (u64_rt _).bind
  apply (u64_rt _).bind
  apply (optR_rt fun _ => u64_rt _).bind
  apply (optR_rt fun hb => str_rt _ (h hb)).bind
  rfl

theorem PersistentRequest.rt (p : PersistentRequest) : Reads PersistentRequest.read p.write p := fun rest => by
  cases p with
  | prepare qlo qhi =>
    simp only [PersistentRequest.write, List.append_assoc]
    apply (u32_rt _).bind
    simp only [beq_self_eq_true, if_true]
    apply (u64_rt _).bind
    apply (u64_rt _).bind
    rfl
  | commit qlo qhi slo shi =>
    simp only [PersistentRequest.write, List.append_assoc]
    apply (u32_rt _).bind
    simp only [show (tagCommitRequest == tagPrepareRequest) = false by decide, beq_self_eq_true, if_true]
    apply (u64_rt _).bind
    apply (u64_rt _).bind
    apply (u64_rt _).bind
    apply (u64_rt _).bind
    rfl

theorem NetPid.rt (p : NetPid) : Reads NetPid.read p.write p := fun rest => by
  simp only [NetPid.write, List.append_assoc]
  apply (u32_rt _).bind
  apply (u32_rt _).bind
  apply (u32_rt _).bind
  rfl

/-- what `WriteTL1` needs of the fields it writes (sizes fit their 32-bit counters, strings are
shorter than 2^56, maps are maps); all of it follows from a successful `preparePacket`, see
`FormatLemmas`, except `dictSorted`, the representation invariant of the model's maps. -/
structure ReqExtra.wf (e : ReqExtra) : Prop where
  wsbp : hasBit e.flags 15 = true → dictOK e.waitShardsBinlogPos
  sfk : hasBit e.flags 18 = true → e.stringForwardKeys.length < 4294967296 ∧ ∀ s ∈ e.stringForwardKeys, strOK s
  ifk : hasBit e.flags 19 = true → e.intForwardKeys.length < 4294967296
  sf : hasBit e.flags 20 = true → strOK e.stringForward
  tc : hasBit e.flags 29 = true → hasBit e.traceContext.fieldsMask 3 = true → strOK e.traceContext.sourceId
  ec : hasBit e.flags 30 = true → strOK e.executionContext

theorem u64W_length (v : UInt64) : (u64W v).length = 8 := rfl
theorem u32W_length (v : UInt32) : (u32W v).length = 4 := rfl

theorem ReqExtra.rt (e : ReqExtra) (h : e.wf) : Reads ReqExtra.read e.write e.norm := fun rest => by
  simp only [ReqExtra.write, List.append_assoc]
  apply (u32_rt _).bind
  apply (optR_rt fun _ => u64_rt _).bind
  apply (optR_rt fun hb => (h.wsbp hb).rt fun _ _ => u64_rt _).bind
  apply (optR_rt fun _ => u64_rt _).bind
  apply (optR_rt fun hb => vec_rt strR strW _ (h.sfk hb).1 (fun s _ => strW_length_ge s)
    fun s hs => str_rt s ((h.sfk hb).2 s hs)).bind
  apply (optR_rt fun hb => vec_rt u64R u64W _ (h.ifk hb) (fun _ _ => (by decide : 4 ≤ 8)) fun s _ => u64_rt s).bind
  apply (optR_rt fun hb => str_rt _ (h.sf hb)).bind
  apply (optR_rt fun _ => u64_rt _).bind
  apply (optR_rt fun _ => u32_rt _).bind
  apply (optR_rt fun _ => u32_rt _).bind
  apply (optR_rt fun _ => u64_rt _).bind
  apply (optR_rt fun _ => PersistentRequest.rt _).bind
  apply (optR_rt fun hb => TraceContext.rt _ (h.tc hb)).bind
  apply (optR_rt fun hb => str_rt _ (h.ec hb)).bind
  rfl

structure ResExtra.wf (e : ResExtra) : Prop where
  stats : hasBit e.flags 6 = true → dictOK e.stats ∧ ∀ kv ∈ e.stats, strOK kv.2
  sbp : hasBit e.flags 14 = true → dictOK e.shardsBinlogPos

theorem ResExtra.rt (e : ResExtra) (h : e.wf) : Reads ResExtra.read e.write e.norm := fun rest => by
  simp only [ResExtra.write, List.append_assoc]
  apply (u32_rt _).bind
  apply (optR_rt fun _ => u64_rt _).bind
  apply (optR_rt fun _ => u64_rt _).bind
  apply (optR_rt fun _ => NetPid.rt _).bind
  apply (optR_rt fun _ => u32_rt _).bind
  apply (optR_rt fun _ => u32_rt _).bind
  apply (optR_rt fun _ => u32_rt _).bind
  apply (optR_rt fun _ => u32_rt _).bind
  apply (optR_rt fun hb => (h.stats hb).1.rt fun kv hkv => str_rt _ ((h.stats hb).2 kv hkv)).bind
  apply (optR_rt fun hb => (h.sbp hb).rt fun _ _ => u64_rt _).bind
  apply (optR_rt fun _ => u64_rt _).bind
  apply (optR_rt fun _ => u64_rt _).bind
  rfl

end TLVerif.Rpcextra
