import TLVerif.Rpcextra.Format
import TLVerif.Rpcextra.WireLemmas
/-! Readers never return more input than they got; hence the fuel-driven loops of `Format.lean` never run out of fuel. -/
namespace TLVerif.Rpcextra
open TLVerif.Prim TLVerif.Facts.Prim

def NonInc {α : Type} (rd : Rd α) : Prop := ∀ r a r', rd r = .ok (a, r') → r'.length ≤ r.length

theorem NonInc.bind {α β : Type} {rd : Rd α} {k : α × Bytes → Except RErr (β × Bytes)}
    (h : NonInc rd) (hk : ∀ a, NonInc fun r => k (a, r)) : NonInc fun r => rd r >>= k := by
  intro r b r' hr
  dsimp only at hr
  cases h1 : rd r with
  | error e => rw [h1] at hr; cases hr
  | ok p => rw [h1] at hr; exact Nat.le_trans (hk p.1 p.2 b r' hr) (h r p.1 p.2 h1)

theorem NonInc.pure {α : Type} (a : α) : NonInc fun r => (Pure.pure (a, r) : Except RErr (α × Bytes)) :=
  fun _ _ _ hr => (Prod.mk.inj (Except.ok.inj hr)).2 ▸ Nat.le_refl _

theorem NonInc.fail {α : Type} (e : RErr) : NonInc fun _ => (.error e : Except RErr (α × Bytes)) :=
  fun _ _ _ hr => nomatch hr

theorem NonInc.ite {α : Type} {c : Bytes → Prop} [∀ r, Decidable (c r)] {f g : Rd α}
    (hf : NonInc f) (hg : NonInc g) : NonInc fun r => if c r then f r else g r := fun r => by
  dsimp only
  split
  · exact hf r
  · exact hg r

theorem u32R_nonInc : NonInc u32R := fun _ _ _ h => by have := u32R_len h; omega
theorem u64R_nonInc : NonInc u64R := fun _ _ _ h => by have := u64R_len h; omega

theorem strR_nonInc : NonInc strR := fun r a r' h => by
  obtain ⟨bs, _, hr⟩ := Prim.string_read_canonical r a r' h
  rw [hr]; simp

theorem NonInc.opt {α : Type} {rd : Rd α} (h : NonInc rd) (c : Bool) (d : α) : NonInc (optR c rd d) := by
  cases c with
  | false => exact .pure d
  | true => exact h

theorem NonInc.readN {α : Type} {rd : Rd α} (h : NonInc rd) (n : Nat) : NonInc (readN rd n) := fun r a r' hr => by
  fun_induction Rpcextra.readN rd n r generalizing a r' with
  | case1 => cases hr; exact Nat.le_refl _
  | case2 => cases hr
  | case3 => cases hr
  | case4 n r x r1 h1 xs r2 h2 ih => cases hr; exact Nat.le_trans (ih _ _ h2) (h _ _ _ h1)

theorem NonInc.vec {α : Type} {rd : Rd α} (h : NonInc rd) : NonInc (vecR rd) := fun r _ _ hr => by
  unfold vecR at hr
  split at hr
  · cases hr
  next l r1 h1 =>
    split at hr
    · exact Nat.le_trans (h.readN _ _ _ _ hr) (u32R_nonInc _ _ _ h1)
    · cases hr

theorem NonInc.pair {β : Type} {rd : Rd β} (h : NonInc rd) : NonInc (pairR rd) := fun r _ _ hr => by
  unfold pairR at hr
  split at hr
  · cases hr
  next k r1 h1 =>
    split at hr
    · cases hr
    next v r2 h2 => cases hr; exact Nat.le_trans (h _ _ _ h2) (strR_nonInc _ _ _ h1)

theorem NonInc.dict {β : Type} {rd : Rd β} (h : NonInc rd) : NonInc (dictR rd) := fun r a r' hr => by
  rw [dictR_eq_vecR] at hr
  cases hv : vecR (pairR rd) r with
  | error e => rw [hv] at hr; cases hr
  | ok p => rw [hv] at hr; cases hr; exact h.pair.vec r _ _ hv

theorem TraceContext.read_nonInc : NonInc TraceContext.read :=
  .bind u32R_nonInc fun _ => .bind u64R_nonInc fun _ => .bind u64R_nonInc fun _ =>
  .bind (u64R_nonInc.opt _ _) fun _ => .bind (strR_nonInc.opt _ _) fun _ => .pure _

theorem PersistentRequest.read_nonInc : NonInc PersistentRequest.read :=
  .bind u32R_nonInc fun _ =>
  .ite (.bind u64R_nonInc fun _ => .bind u64R_nonInc fun _ => .pure _) <|
  .ite (.bind u64R_nonInc fun _ => .bind u64R_nonInc fun _ => .bind u64R_nonInc fun _ =>
    .bind u64R_nonInc fun _ => .pure _) (.fail _)

theorem NetPid.read_nonInc : NonInc NetPid.read :=
  .bind u32R_nonInc fun _ => .bind u32R_nonInc fun _ => .bind u32R_nonInc fun _ => .pure _

theorem ReqExtra.read_nonInc : NonInc ReqExtra.read :=
  .bind u32R_nonInc fun _ =>
  .bind (u64R_nonInc.opt _ _) fun _ =>
  .bind (u64R_nonInc.dict.opt _ _) fun _ =>
  .bind (u64R_nonInc.opt _ _) fun _ =>
  .bind (strR_nonInc.vec.opt _ _) fun _ =>
  .bind (u64R_nonInc.vec.opt _ _) fun _ =>
  .bind (strR_nonInc.opt _ _) fun _ =>
  .bind (u64R_nonInc.opt _ _) fun _ =>
  .bind (u32R_nonInc.opt _ _) fun _ =>
  .bind (u32R_nonInc.opt _ _) fun _ =>
  .bind (u64R_nonInc.opt _ _) fun _ =>
  .bind (PersistentRequest.read_nonInc.opt _ _) fun _ =>
  .bind (TraceContext.read_nonInc.opt _ _) fun _ =>
  .bind (strR_nonInc.opt _ _) fun _ => .pure _

theorem ResExtra.read_nonInc : NonInc ResExtra.read :=
  .bind u32R_nonInc fun _ =>
  .bind (u64R_nonInc.opt _ _) fun _ =>
  .bind (u64R_nonInc.opt _ _) fun _ =>
  .bind (NetPid.read_nonInc.opt _ _) fun _ =>
  .bind (u32R_nonInc.opt _ _) fun _ =>
  .bind (u32R_nonInc.opt _ _) fun _ =>
  .bind (u32R_nonInc.opt _ _) fun _ =>
  .bind (u32R_nonInc.opt _ _) fun _ =>
  .bind (strR_nonInc.dict.opt _ _) fun _ =>
  .bind (u64R_nonInc.dict.opt _ _) fun _ =>
  .bind (u64R_nonInc.opt _ _) fun _ =>
  .bind (u64R_nonInc.opt _ _) fun _ => .pure _

/-- consuming a word or more pays for one unit of fuel -/
theorem fuel_step {a b n : Nat} (h : a / 4 < n + 1) (hb : b + 4 ≤ a) : b / 4 < n := by
  have := Nat.div_le_div_right (c := 4) hb
  rw [Nat.add_div_right b (by decide)] at this
  exact Nat.lt_of_succ_lt_succ (Nat.lt_of_le_of_lt this h)

theorem parseWrappers_fuel (n : Nat) (h : Hctx) (c : WrapCount) (hn : h.request.length / 4 < n) :
    parseWrappers n h c ≠ none := by
  -- every branch answers, or (one case per wrapper tag) goes on with at least 4 bytes less
  fun_induction parseWrappers n h c with
  | case1 => omega
  | case2 => nofun
  | case3 => nofun
  | case4 fuel h c tag afterTag h1 ht a r h2 ih =>
    have l1 := u32R_len h1
    have l2 := u64R_len h2
    exact ih (fuel_step (b := r.length) hn (by omega))
  | case5 => nofun
  | case6 fuel h c tag afterTag h1 _ ht e r h2 ih =>
    have l1 := u32R_len h1
    have l2 := ReqExtra.read_nonInc _ _ _ h2
    exact ih (fuel_step (b := r.length) hn (by omega))
  | case7 => nofun
  | case8 => nofun
  | case9 fuel h c tag afterTag h1 _ _ ht a r h2 e r' h3 ih =>
    have l1 := u32R_len h1
    have l2 := u64R_len h2
    have l3 := ReqExtra.read_nonInc _ _ _ h3
    exact ih (fuel_step (b := r'.length) hn (by omega))
  | case10 fuel h c tag afterTag h1 _ _ _ ht ih =>
    have l1 := u32R_len h1
    exact ih (fuel_step (b := afterTag.length) hn (by omega))
  | case11 => nofun

theorem parseResultExtras_fuel (n : Nat) (ex : ResExtra) (body : Bytes) (k : Nat) (hn : body.length / 4 < n) :
    parseResultExtras n ex body k ≠ none := by
  fun_induction parseResultExtras n ex body k with
  | case1 => omega
  | case2 => nofun
  | case3 => nofun
  | case4 => nofun
  | case5 fuel ex body k tag afterTag h1 ht e r h2 ih =>
    have l1 := u32R_len h1
    have l2 := ResExtra.read_nonInc _ _ _ h2
    exact ih (fuel_step (b := r.length) hn (by omega))

end TLVerif.Rpcextra
