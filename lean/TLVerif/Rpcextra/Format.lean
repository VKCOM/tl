import TLVerif.Rpcextra.Extras
/-!
Model of `pkg/rpc/rpc_format.go` and of the few lines of its callers that move the bytes:

* client, request:   `preparePacket` (appends `queryID`, the wrapper, the TL2 marker *after* the user body
  in `req.Body` and records `extraStart`), `writeRequest` (`Body[extraStart:]` then `Body[:extraStart]`);
* server, request:   `HandlerContext.ParseInvokeReq` + `fillInvokeReqInternals`, on a `reset()` context;
* server, response:  `HandlerContext.prepareResponseBody` (error conversion, `ResponseExtra.Flags &=
  requestExtraFieldsmask`, `ReqResultHeader` wrapper, TL2 marker), `writeResponseUnlocked`;
* client, response:  `clientConn.handlePacket` (`RpcReqResultHeader` case: reads the query id) and
  `parseResponseExtra`.

Tags and limits come from the regenerated facts file.
-/
namespace TLVerif.Rpcextra
open TLVerif.Prim TLVerif.Facts.Rpcextra

def tDestActor : UInt32 := UInt32.ofNat tagRpcDestActor
def tDestFlags : UInt32 := UInt32.ofNat tagRpcDestFlags
def tDestActorFlags : UInt32 := UInt32.ofNat tagRpcDestActorFlags
def tTL2Marker : UInt32 := UInt32.ofNat tagRpcTL2Marker
def tReqResultHeader : UInt32 := UInt32.ofNat tagReqResultHeader
def tReqError : UInt32 := UInt32.ofNat tagReqError
def tRpcReqResultError : UInt32 := UInt32.ofNat tagRpcReqResultError
def tRpcReqResultErrorWrapped : UInt32 := UInt32.ofNat tagRpcReqResultErrorWrapped

/-- `validBodyLen` -/
def validBodyLen (n : Nat) : Bool := !(n > maxPacketLen - packetOverhead)

/-- `rpc.Request` (the fields that reach the wire) -/
structure Request where
  body : Bytes := []          -- `Body` as serialised by the caller (starts with the function tag)
  actorId : UInt64 := 0       -- `ActorID` (int64 bits)
  extra : ReqExtra := {}      -- `Extra`
  tl2 : Bool := false         -- `BodyFormatTL2`
  queryId : UInt64 := 0       -- `queryID`
  deriving DecidableEq, Repr, Inhabited

/-- what `preparePacket` appends after the user body -/
def requestHeader (req : Request) : Bytes :=
  u64W req.queryId
    ++ (if req.actorId != 0 && req.extra.flags != 0 then
          u32W tDestActorFlags ++ (u64W req.actorId ++ req.extra.write)
        else if req.extra.flags != 0 then u32W tDestFlags ++ req.extra.write
        else if req.actorId != 0 then u32W tDestActor ++ u64W req.actorId
        else [])
    ++ (if req.tl2 then u32W tTL2Marker else [])

/-- `preparePacket`: new `req.Body` and `req.extraStart`, or the `validBodyLen` error -/
def preparePacket (req : Request) : Option (Bytes × Nat) :=
  let buf := req.body ++ requestHeader req
  if validBodyLen buf.length then some (buf, req.body.length) else none

/-- `writeRequest` / `writeResponseUnlocked`: the packet body is `buf[extraStart:]` then `buf[:extraStart]` -/
def wireOf (p : Bytes × Nat) : Bytes := p.1.drop p.2 ++ p.1.take p.2

/-- the part of `HandlerContext` that `ParseInvokeReq` fills (fields start at their `reset()` value) -/
structure Hctx where
  queryId : UInt64 := 0
  actorId : UInt64 := 0
  extra : ReqExtra := {}          -- `RequestExtra`
  tl2 : Bool := false             -- `bodyFormatTL2`
  reqTag : UInt32 := 0
  request : Bytes := []           -- `Request` (what is left for the handler)
  noResult : Bool := false
  fieldsMask : UInt32 := 0        -- `requestExtraFieldsmask`
  customTimeout : Option UInt32 := none  -- `timeout`: `some ms` from the extra, `none` = server default
  deriving DecidableEq, Repr, Inhabited

structure WrapCount where
  actorSet : Nat := 0
  extraSet : Nat := 0
  tl2Set : Nat := 0
  tl2NotLast : Bool := false
  deriving DecidableEq, Repr, Inhabited

/-- the `loop:` of `ParseInvokeReq`. The Go `for` is unbounded; here it is driven by `fuel`, `none` = fuel exhausted.
Every iteration but the last consumes at least 4 bytes, so `len/4 + 1` iterations always suffice:
`parseWrappers_fuel` (FuelLemmas) proves `none` is unreachable from `parseInvokeReqFrom`. -/
def parseWrappers : Nat → Hctx → WrapCount → Option (Except RErr (Hctx × WrapCount))
  | 0, _, _ => none
  | fuel + 1, h, c =>
    match u32R h.request with
    | .error e => some (.error e)
    | .ok (tag, afterTag) =>
      if tag == tDestActor then
        match u64R afterTag with
        | .error e => some (.error e)
        | .ok (a, r) =>
          parseWrappers fuel { h with actorId := a, request := r }
            { c with actorSet := c.actorSet + 1, tl2NotLast := c.tl2NotLast || c.tl2Set != 0 }
      else if tag == tDestFlags then
        match ReqExtra.read afterTag with
        | .error e => some (.error e)
        | .ok (e, r) =>
          parseWrappers fuel { h with extra := e, request := r }
            { c with extraSet := c.extraSet + 1, tl2NotLast := c.tl2NotLast || c.tl2Set != 0 }
      else if tag == tDestActorFlags then
        match u64R afterTag with
        | .error e => some (.error e)
        | .ok (a, r) =>
          match ReqExtra.read r with
          | .error e => some (.error e)
          | .ok (e, r) =>
            parseWrappers fuel { h with actorId := a, extra := e, request := r }
              { c with actorSet := c.actorSet + 1, extraSet := c.extraSet + 1,
                       tl2NotLast := c.tl2NotLast || c.tl2Set != 0 }
      else if tag == tTL2Marker then
        parseWrappers fuel { h with tl2 := true, request := afterTag } { c with tl2Set := c.tl2Set + 1 }
      else some (.ok ({ h with reqTag := tag }, c))

/-- `fillInvokeReqInternals`: `CustomTimeoutMs > 0` as `int32` -/
def fillInternals (h : Hctx) : Hctx :=
  { h with noResult := hasBit h.extra.flags 7,
           fieldsMask := h.extra.flags,
           customTimeout :=
             if 0 < h.extra.customTimeoutMs.toNat && h.extra.customTimeoutMs.toNat < 2147483648
             then some h.extra.customTimeoutMs else none }

/-- `ParseInvokeReq` on context `h0` whose `Request` is the packet body `wire` -/
def parseInvokeReqFrom (h0 : Hctx) (wire : Bytes) : Except RErr Hctx :=
  match u64R wire with
  | .error e => .error e
  | .ok (q, r) =>
    match parseWrappers (r.length / 4 + 1) { h0 with queryId := q, request := r } {} with
    | none => .error .other   -- unreachable (`parseWrappers_fuel`)
    | some (.error e) => .error e
    | some (.ok (h, c)) =>
      if c.actorSet > 1 || c.extraSet > 1 then .error .other
      else if c.tl2Set > 1 then .error .other
      else if c.tl2NotLast then .error .other
      else .ok (fillInternals h)

/-- on a freshly `reset()` handler context -/
def parseInvokeReq (wire : Bytes) : Except RErr Hctx := parseInvokeReqFrom {} wire

/-! ### responses -/

/-- the `err` a handler returns, as `prepareResponseBody` classifies it -/
inductive HandlerErr where
  | none
  | rpc (code : UInt32) (desc : Bytes)   -- `*rpc.Error` (possibly wrapped: `errors.As`)
  | noHandler                           -- `ErrNoHandler`
  | other (desc : Bytes)                -- any other error: `err.Error()`
  deriving DecidableEq, Repr, Inhabited

/-- `err == nil` -/
def HandlerErr.isNone : HandlerErr → Bool
  | .none => true
  | _ => false

/-- two's complement of a (negative) `int32` constant -/
def i32 (c : Int) : UInt32 := UInt32.ofNat (c % 4294967296).toNat

def hexDigitLower (n : Nat) : UInt8 := if n < 10 then UInt8.ofNat (48 + n) else UInt8.ofNat (87 + n)

/-- `fmt.Sprintf("%08x", tag)` -/
def hex8 (t : UInt32) : Bytes :=
  [28, 24, 20, 16, 12, 8, 4, 0].map (fun s => hexDigitLower ((t.toNat >>> s) % 16))

/-- `fmt.Sprintf("RPC handler for #%08x not found", reqTag)` -/
def noHandlerDescription (reqTag : UInt32) : Bytes :=
  "RPC handler for #".toUTF8.toList ++ hex8 reqTag ++ " not found".toUTF8.toList

/-- code and description put on the wire for a handler error -/
def errorOnWire (reqTag : UInt32) : HandlerErr → Option (UInt32 × Bytes)
  | .none => none
  | .rpc code desc => some (if code == 0 then i32 errUnknown else code, desc)
  | .noHandler => some (i32 errNoHandler, noHandlerDescription reqTag)
  | .other desc => some (i32 errUnknown, desc)

/-- the state `prepareResponseBody` reads -/
structure RespIn where
  queryId : UInt64 := 0
  response : Bytes := []        -- `hctx.Response` as written by the handler
  extra : ResExtra := {}        -- `hctx.ResponseExtra`
  reqFlags : UInt32 := 0        -- `requestExtraFieldsmask`
  tl2 : Bool := false           -- `bodyFormatTL2`
  noResult : Bool := false
  reqTag : UInt32 := 0
  deriving DecidableEq, Repr, Inhabited

inductive Prepared where
  | noResult                                     -- nothing is sent
  | tooLarge                                     -- `validBodyLen` error (Response already replaced)
  | ok (resp : Bytes) (extraStart : Nat) (flags : UInt32)  -- `Response`, `extraStart`, `ResponseExtra.Flags` after masking
  deriving DecidableEq, Repr, Inhabited

/-- `ResponseExtra.Flags &= requestExtraFieldsmask` -/
def maskedExtra (h : RespIn) : ResExtra := { h.extra with flags := h.extra.flags &&& h.reqFlags }

/-- the body part of the response: the handler's bytes, or the boxed `RpcReqResultError` replacing them -/
def responseBody (h : RespIn) (err : HandlerErr) : Bytes :=
  match errorOnWire h.reqTag err with
  | none => h.response
  | some (code, desc) => u32W tRpcReqResultError ++ (u64W h.queryId ++ (u32W code ++ strW desc))

/-- `resp = basictl.NatWrite(resp, tl.ReqResultHeader{}.TLTag()); resp = hctx.ResponseExtra.WriteTL1(resp)` if `Flags != 0` -/
def extrasOnWire (ex : ResExtra) : Bytes := if ex.flags != 0 then u32W tReqResultHeader ++ ex.write else []

/-- `prepareResponseBody(err)` -/
def prepareResponseBody (h : RespIn) (err : HandlerErr) : Prepared :=
  let body := responseBody h err
  if h.noResult then .noResult
  else
    let ex := maskedExtra h
    let resp := body ++ u64W h.queryId ++ extrasOnWire ex
      ++ (if err.isNone && h.tl2 then u32W tTL2Marker else [])
    if validBodyLen resp.length then .ok resp body.length ex.flags else .tooLarge

/-- what the client call gets besides the body -/
inductive Outcome where
  | ok
  | rpcError (code : UInt32) (desc : Bytes)   -- `&rpc.Error{Code, Description}`
  deriving DecidableEq, Repr, Inhabited

/-- the `for` loop of `parseResponseExtra`: returns `respBody`, `extra`, `tag`, `afterTag`, `extraSet`;
`none` = fuel exhausted, unreachable from `parseResponseExtra` (`parseResultExtras_fuel`). -/
def parseResultExtras : Nat → ResExtra → Bytes → Nat → Option (Except RErr (Bytes × ResExtra × UInt32 × Bytes × Nat))
  | 0, _, _, _ => none
  | fuel + 1, ex, body, n =>
    match u32R body with
    | .error e => some (.error e)
    | .ok (tag, afterTag) =>
      if tag != tReqResultHeader then some (.ok (body, ex, tag, afterTag, n))
      else
        match ResExtra.read afterTag with
        | .error e => some (.error e)
        | .ok (ex', body') => parseResultExtras fuel ex' body' (n + 1)

def readCodeDesc (r : Bytes) : Except RErr (UInt32 × Bytes × Bytes) :=
  match u32R r with
  | .error e => .error e
  | .ok (code, r) =>
    match strR r with
    | .error e => .error e
    | .ok (desc, r) => .ok (code, desc, r)

/-- `parseResponseExtra(bodyFormatTL2, extra, respBody)`: remaining body, `*extra`, and `nil` / `*rpc.Error`;
`.error` stands for any other returned error (the call fails; `*extra` is then not meaningful). -/
def parseResponseExtra (tl2 : Bool) (ex0 : ResExtra) (body : Bytes) : Except RErr (Bytes × ResExtra × Outcome) :=
  match parseResultExtras (body.length / 4 + 1) ex0 body 0 with
  | none => .error .other   -- unreachable (`parseResultExtras_fuel`)
  | some (.error e) => .error e
  | some (.ok (body, ex, tag, afterTag, n)) =>
    if n > 1 then .error .other
    else if tag == tReqError then
      match readCodeDesc afterTag with
      | .error e => .error e
      | .ok (code, desc, r) => .ok (r, ex, .rpcError code desc)
    else if tag == tRpcReqResultError then
      match u64R afterTag with
      | .error e => .error e
      | .ok (_, r) =>
        match readCodeDesc r with
        | .error e => .error e
        | .ok (code, desc, r) => .ok (r, ex, .rpcError code desc)
    else if tag == tRpcReqResultErrorWrapped then
      match readCodeDesc afterTag with
      | .error e => .error e
      | .ok (code, desc, r) => .ok (r, ex, .rpcError code desc)
    else if tl2 then
      if tag != tTL2Marker then .error .other else .ok (afterTag, ex, .ok)
    else .ok (body, ex, .ok)

/-- `handlePacket`, case `RpcReqResultHeader`: query id, then `finishCall` → `parseResponseExtra` on a
`Response` taken from the pool (`Extra` zero). -/
def parseResponse (tl2 : Bool) (wire : Bytes) : Except RErr (UInt64 × Bytes × ResExtra × Outcome) :=
  match u64R wire with
  | .error e => .error e
  | .ok (q, r) =>
    match parseResponseExtra tl2 {} r with
    | .error e => .error e
    | .ok (b, ex, o) => .ok (q, b, ex, o)

/-! ### a proxy hop (`forward.go`) -/

/-- `HandlerContext.ForwardAndFlush`, case `RpcInvokeReqHeader`: the proxy re-sends what `ParseInvokeReq` left in its
context with `Request{Body: hctx.Request, Extra: hctx.RequestExtra, queryID: hctx.QueryID()}` — `ActorID` and
`BodyFormatTL2` are not copied. -/
def forwardRequest (hc : Hctx) : Option (Bytes × Nat) :=
  preparePacket { body := hc.request, extra := hc.extra, queryId := hc.queryId }

/-- client → proxy (`ParseInvokeReq`, `ForwardAndFlush`) → final server (`ParseInvokeReq`) -/
def viaProxy (wire : Bytes) : Except RErr (Option (Except RErr Hctx)) :=
  match parseInvokeReq wire with
  | .error e => .error e
  | .ok hc =>
    match forwardRequest hc with
    | none => .ok none
    | some p => .ok (some (parseInvokeReq (wireOf p)))

/-! ### one whole call (client → server → handler → client) -/

/-- what a handler leaves in `hctx.Response`, `hctx.ResponseExtra`, and the `err` it returns -/
structure Handler where
  response : Bytes := []
  extra : ResExtra := {}
  err : HandlerErr := .none
  deriving DecidableEq, Repr, Inhabited

/-- `SendResponse` → `PrepareResponse` on the context `ParseInvokeReq` filled -/
def respIn (hc : Hctx) (hd : Handler) : RespIn :=
  { queryId := hc.queryId, response := hd.response, extra := hd.extra, reqFlags := hc.fieldsMask,
    tl2 := hc.tl2, noResult := hc.noResult, reqTag := hc.reqTag }

/-- `fillRequestTimeout` (client `Do`) with no client default timeout and no context deadline: rejects a
custom timeout stored without its bit or negative, and clears the bit of an explicit 0 ("infinite"). -/
def clientTimeout (e : ReqExtra) : Option ReqExtra :=
  if !hasBit e.flags 23 && e.customTimeoutMs != 0 then none
  else if e.customTimeoutMs.toNat ≥ 2147483648 then none
  else if e.customTimeoutMs == 0 then some { e with flags := e.flags &&& ~~~((1 : UInt32) <<< 23), customTimeoutMs := 0 }
  else some e

inductive CallResult where
  | refused                      -- the client does not send it (`prepareCall`/`fillRequestTimeout`/`preparePacket` error)
  | serverRejects (e : RErr)     -- `ParseInvokeReq` error
  | noAnswer                     -- `noResult` / response too large
  | clientRejects (hc : Hctx) (e : RErr)
  | done (hc : Hctx) (body : Bytes) (ex : ResExtra) (o : Outcome)   -- what the handler saw, what the caller gets
  deriving DecidableEq, Repr, Inhabited

/-- the wire part of one call: `preparePacket`, `ParseInvokeReq`, the handler, `prepareResponseBody`,
`handlePacket`/`parseResponseExtra` -/
def exchange (req : Request) (handler : Hctx → Handler) : CallResult :=
  match preparePacket req with
  | none => .refused
  | some p =>
    match parseInvokeReq (wireOf p) with
    | .error e => .serverRejects e
    | .ok hc =>
      let hd := handler hc
      match prepareResponseBody (respIn hc hd) hd.err with
      | .noResult => .noAnswer
      | .tooLarge => .noAnswer
      | .ok resp es _ =>
        match parseResponse req.tl2 (wireOf (resp, es)) with
        | .error e => .clientRejects hc e
        | .ok (_, body, ex, o) => .done hc body ex o

/-- `Client.Do`: the checks in front of `preparePacket`, then the exchange -/
def call (req : Request) (handler : Hctx → Handler) : CallResult :=
  if hasBit req.extra.flags 7 then .refused   -- "sending no_result requests is not supported"
  else
    match clientTimeout req.extra with
    | none => .refused
    | some e => exchange { req with extra := e } handler

end TLVerif.Rpcextra
