import TLVerif.Rpcextra.ExtrasLemmas
import TLVerif.Rpcextra.Format
/-! The parsers run on what the writers produced: the wrapper loop of `ParseInvokeReq` (`parseWrappers`) and the
extras loop of `parseResponseExtra` (`parseResultExtras`) are taken one iteration at a time (`step_*`, `rstep_*`)
over the bytes of `preparePacket` and `prepareResponseBody`. What `WriteTL1` needs of an extra (`wf`) follows from the
packet length check (`prepare_wf`, `response_wf`). -/
namespace TLVerif.Rpcextra
open TLVerif.Prim TLVerif.Facts.Prim TLVerif.Facts.Rpcextra

/-- the user body starts with a tag that is not one of the four request wrappers (it is the tag of
the function being called) -/
def reqBodyOK (b : Bytes) : Bool :=
  match u32R b with
  | .ok (tag, _) => tag != tDestActor && tag != tDestFlags && tag != tDestActorFlags && tag != tTL2Marker
  | .error _ => false

def firstWord (b : Bytes) : UInt32 :=
  match u32R b with
  | .ok (tag, _) => tag
  | .error _ => 0

theorem tags_ne :
    (tDestFlags == tDestActor) = false ∧ (tDestActorFlags == tDestActor) = false ∧ (tDestActorFlags == tDestFlags) = false ∧
    (tTL2Marker == tDestActor) = false ∧ (tTL2Marker == tDestFlags) = false ∧ (tTL2Marker == tDestActorFlags) = false := by decide

theorem step_destActor (n : Nat) (h : Hctx) (c : WrapCount) (a : UInt64) (r : Bytes)
    (hr : h.request = u32W tDestActor ++ (u64W a ++ r)) :
    parseWrappers (n + 1) h c = parseWrappers n { h with actorId := a, request := r }
      { c with actorSet := c.actorSet + 1, tl2NotLast := c.tl2NotLast || c.tl2Set != 0 } := by
  rw [parseWrappers, hr, u32_rt]
  simp only [beq_self_eq_true, if_true]
  rw [u64_rt]

theorem step_destFlags (n : Nat) (h : Hctx) (c : WrapCount) (e : ReqExtra) (r : Bytes) (hw : e.wf)
    (hr : h.request = u32W tDestFlags ++ (e.write ++ r)) :
    parseWrappers (n + 1) h c = parseWrappers n { h with extra := e.norm, request := r }
      { c with extraSet := c.extraSet + 1, tl2NotLast := c.tl2NotLast || c.tl2Set != 0 } := by
  rw [parseWrappers, hr, u32_rt]
  simp only [tags_ne, beq_self_eq_true, if_true, if_false, Bool.false_eq_true]
  rw [ReqExtra.rt e hw]

theorem step_destActorFlags (n : Nat) (h : Hctx) (c : WrapCount) (a : UInt64) (e : ReqExtra) (r : Bytes) (hw : e.wf)
    (hr : h.request = u32W tDestActorFlags ++ (u64W a ++ (e.write ++ r))) :
    parseWrappers (n + 1) h c = parseWrappers n { h with actorId := a, extra := e.norm, request := r }
      { c with actorSet := c.actorSet + 1, extraSet := c.extraSet + 1, tl2NotLast := c.tl2NotLast || c.tl2Set != 0 } := by
  rw [parseWrappers, hr, u32_rt]
  simp only [tags_ne, beq_self_eq_true, if_true, if_false, Bool.false_eq_true]
  rw [u64_rt]
  dsimp only
  rw [ReqExtra.rt e hw]

theorem step_body (n : Nat) (h : Hctx) (c : WrapCount) (hb : reqBodyOK h.request = true) :
    parseWrappers (n + 1) h c = some (.ok ({ h with reqTag := firstWord h.request }, c)) := by
  unfold reqBodyOK at hb
  rw [parseWrappers]
  unfold firstWord
  cases hu : u32R h.request with
  | error e => simp [hu] at hb
  | ok p =>
    obtain ⟨tag, after⟩ := p
    simp only [hu, Bool.and_eq_true, bne_iff_ne, ne_eq] at hb ⊢
    obtain ⟨⟨⟨h1, h2⟩, h3⟩, h4⟩ := hb
    simp [h1, h2, h3, h4]

theorem reqBodyOK_length (b : Bytes) (h : reqBodyOK b = true) : 4 ≤ b.length := by
  unfold reqBodyOK at h
  cases hu : u32R b with
  | error e => simp [hu] at h
  | ok p => have := u32R_len hu; omega

/-- every request ends with the optional TL2 marker and the body -/
theorem parseWrappers_tail (n : Nat) (h : Hctx) (c : WrapCount) (tl2 : Bool) (body : Bytes)
    (hr : h.request = (if tl2 then u32W tTL2Marker else []) ++ body) (hb : reqBodyOK body = true) :
    parseWrappers (n + 2) h c = some (.ok ({ h with tl2 := tl2 || h.tl2, reqTag := firstWord body, request := body },
      { c with tl2Set := if tl2 then c.tl2Set + 1 else c.tl2Set })) := by
  cases tl2 with
  | false => rw [step_body _ _ _ (by rw [hr]; exact hb), hr]; rfl
  | true =>
    rw [parseWrappers, hr, if_pos rfl, u32_rt]
    simp only [tags_ne, if_true, if_false, Bool.false_eq_true, beq_self_eq_true]
    rw [step_body _ _ _ hb]; rfl

theorem hasBit_zero (i : Nat) : hasBit 0 i = false := by simp [hasBit]

theorem ReqExtra.norm_flags_zero (e : ReqExtra) (h : e.flags = 0) : e.norm = {} := by
  simp [ReqExtra.norm, h, hasBit_zero]

/-- `l / 4 + 1` units of fuel are `k + 1` or more when the input has `k` words -/
theorem fuel_split (k l : Nat) (h : 4 * k ≤ l) : l / 4 + 1 = l / 4 - k + k + 1 := by
  rw [Nat.sub_add_cancel ((Nat.le_div_iff_mul_le (by decide)).mpr (Nat.mul_comm 4 k ▸ h))]

/-- what the server must end up with -/
def expectedHctx (req : Request) : Hctx :=
  fillInternals { queryId := req.queryId, actorId := req.actorId, extra := req.extra.norm, tl2 := req.tl2,
                  reqTag := firstWord req.body, request := req.body }

theorem parse_header (req : Request) (hb : reqBodyOK req.body = true) (hw : req.extra.wf) :
    parseInvokeReq (requestHeader req ++ req.body) = .ok (expectedHctx req) := by
  have hl := reqBodyOK_length _ hb
  unfold parseInvokeReq parseInvokeReqFrom requestHeader
  simp only [List.append_assoc]
  rw [u64_rt]
  dsimp only
  cases ha : (req.actorId != 0) <;> cases hf : (req.extra.flags != 0) <;>
    simp only [Bool.and_false, Bool.and_true, if_false, if_true, Bool.false_eq_true, List.nil_append, List.append_assoc]
  · have ha0 := bne_eq_false_iff_eq.mp ha
    have hf0 := bne_eq_false_iff_eq.mp hf
    rw [fuel_split 1, parseWrappers_tail _ _ _ req.tl2 req.body rfl hb]
    · cases ht : req.tl2 <;> simp [expectedHctx, ht, ha0, ReqExtra.norm_flags_zero _ hf0]
    · simp only [List.length_append]; omega
  · have ha0 := bne_eq_false_iff_eq.mp ha
    rw [fuel_split 2, step_destFlags _ _ _ _ _ hw rfl, parseWrappers_tail _ _ _ req.tl2 req.body rfl hb]
    · cases ht : req.tl2 <;> simp [expectedHctx, ht, ha0]
    · simp only [List.length_append, u32W_length]; omega
  · have hf0 := bne_eq_false_iff_eq.mp hf
    rw [fuel_split 2, step_destActor _ _ _ _ _ rfl, parseWrappers_tail _ _ _ req.tl2 req.body rfl hb]
    · cases ht : req.tl2 <;> simp [expectedHctx, ht, ReqExtra.norm_flags_zero _ hf0]
    · simp only [List.length_append, u32W_length]; omega
  · rw [fuel_split 2, step_destActorFlags _ _ _ _ _ _ hw rfl, parseWrappers_tail _ _ _ req.tl2 req.body rfl hb]
    · cases ht : req.tl2 <;> simp [expectedHctx, ht]
    · simp only [List.length_append, u32W_length]; omega

theorem preparePacket_some {req : Request} {p : Bytes × Nat} (hp : preparePacket req = some p) :
    p = (req.body ++ requestHeader req, req.body.length) ∧
    (req.body ++ requestHeader req).length ≤ maxPacketLen - packetOverhead := by
  unfold preparePacket validBodyLen at hp
  dsimp only at hp
  split at hp
  · next hv => exact ⟨(Option.some.inj hp).symm, by simpa using hv⟩
  · cases hp

theorem wireOf_prepare (req : Request) (p : Bytes × Nat) (hp : preparePacket req = some p) :
    wireOf p = requestHeader req ++ req.body := by
  rw [(preparePacket_some hp).1]; simp [wireOf]

/-- In TL1 body format the result body must start with a tag that is none of the four magics the
client looks for (`ReqResultHeader`, `ReqError`, `RpcReqResultError`, `RpcReqResultErrorWrapped`);
in TL2 format the server inserts the marker, so any body will do. -/
def respBodyOK (tl2 : Bool) (b : Bytes) : Bool :=
  tl2 || match u32R b with
    | .ok (tag, _) => tag != tReqResultHeader && tag != tReqError && tag != tRpcReqResultError && tag != tRpcReqResultErrorWrapped
    | .error _ => false

theorem resp_tags_ne :
    (tTL2Marker == tReqResultHeader) = false ∧ (tTL2Marker == tReqError) = false ∧ (tTL2Marker == tRpcReqResultError) = false ∧
    (tTL2Marker == tRpcReqResultErrorWrapped) = false ∧ (tRpcReqResultError == tReqResultHeader) = false ∧
    (tRpcReqResultError == tReqError) = false := by decide

theorem rstep_extra (n : Nat) (ex e : ResExtra) (r : Bytes) (k : Nat) (hw : e.wf) :
    parseResultExtras (n + 1) ex (u32W tReqResultHeader ++ (e.write ++ r)) k = parseResultExtras n e.norm r (k + 1) := by
  rw [parseResultExtras, u32_rt]
  simp only [bne_self_eq_false, if_false, Bool.false_eq_true]
  rw [ResExtra.rt e hw]

theorem rstep_end (n : Nat) (ex : ResExtra) (body after : Bytes) (tag : UInt32) (k : Nat)
    (hu : u32R body = .ok (tag, after)) (ht : (tag != tReqResultHeader) = true) :
    parseResultExtras (n + 1) ex body k = some (.ok (body, ex, tag, after, k)) := by
  rw [parseResultExtras, hu]
  simp only [ht, if_true]

theorem parse_extras_part (ex : ResExtra) (tail after : Bytes) (tag : UInt32) (hw : ex.wf)
    (hu : u32R tail = .ok (tag, after)) (ht : (tag != tReqResultHeader) = true) :
    -- `¬ k > 1`: the very test of `parseResponseExtra` (`if n > 1`), for `simp only [this, if_false]` at the callers
    ∃ k, ¬ k > 1 ∧ parseResultExtras ((extrasOnWire ex ++ tail).length / 4 + 1) {} (extrasOnWire ex ++ tail) 0
      = some (.ok (tail, ex.norm, tag, after, k)) := by
  have hl := u32R_len hu
  unfold extrasOnWire
  cases hf : (ex.flags != 0)
  · refine ⟨0, by omega, ?_⟩
    simp only [Bool.false_eq_true, if_false, List.nil_append]
    have hf0 : ex.flags = 0 := by simpa using hf
    rw [rstep_end _ _ _ _ _ _ hu ht]
    simp [ResExtra.norm, hf0, hasBit_zero]
  · refine ⟨1, by omega, ?_⟩
    simp only [if_true, List.append_assoc]
    rw [fuel_split 1, rstep_extra _ _ _ _ _ hw, rstep_end _ _ _ _ _ _ hu ht]
    simp only [List.length_append, u32W_length]; omega

theorem prepareResponseBody_ok {h : RespIn} {err : HandlerErr} {resp : Bytes} {es : Nat} {fl : UInt32}
    (hp : prepareResponseBody h err = .ok resp es fl) :
    h.noResult = false ∧ fl = h.extra.flags &&& h.reqFlags ∧ es = (responseBody h err).length ∧
    resp = responseBody h err ++ u64W h.queryId ++ extrasOnWire (maskedExtra h)
      ++ (if err.isNone && h.tl2 then u32W tTL2Marker else []) ∧
    resp.length ≤ maxPacketLen - packetOverhead := by
  unfold prepareResponseBody validBodyLen at hp
  dsimp only at hp
  cases hn : h.noResult
  · simp only [hn, Bool.false_eq_true, if_false] at hp
    generalize (if (err.isNone && h.tl2) = true then u32W tTL2Marker else []) = marker at hp ⊢
    split at hp
    · next hv =>
      injection hp with h1 h2 h3
      subst h1
      exact ⟨rfl, h3.symm, h2.symm, rfl, by simpa using hv⟩
    · cases hp
  · simp [hn] at hp

theorem parseResponse_wire {h : RespIn} {err : HandlerErr} {resp : Bytes} {es : Nat} {fl : UInt32}
    (hp : prepareResponseBody h err = .ok resp es fl) {b : Bytes} {ex : ResExtra} {o : Outcome}
    (hx : parseResponseExtra h.tl2 {} (extrasOnWire (maskedExtra h)
      ++ ((if err.isNone && h.tl2 then u32W tTL2Marker else []) ++ responseBody h err)) = .ok (b, ex, o)) :
    parseResponse h.tl2 (wireOf (resp, es)) = .ok (h.queryId, b, ex, o) := by
  obtain ⟨-, -, hes, hr, -⟩ := prepareResponseBody_ok hp
  simp only [parseResponse, wireOf, hr, hes, List.append_assoc, List.drop_left', List.take_left']
  rw [u64_rt]
  dsimp only
  rw [hx]

theorem parseResponseExtra_ok (tl2 : Bool) (ex : ResExtra) (body : Bytes)
    (hb : respBodyOK tl2 body = true) (hw : ex.wf) :
    parseResponseExtra tl2 {} (extrasOnWire ex ++ ((if tl2 then u32W tTL2Marker else []) ++ body))
      = .ok (body, ex.norm, .ok) := by
  unfold parseResponseExtra
  cases tl2
  · unfold respBodyOK at hb
    cases hu : u32R body with
    | error e => simp [hu] at hb
    | ok p =>
      obtain ⟨tag, after⟩ := p
      simp only [hu, Bool.false_or, Bool.and_eq_true, bne_iff_ne, ne_eq] at hb
      obtain ⟨⟨⟨h1, h2⟩, h3⟩, h4⟩ := hb
      simp only [Bool.false_eq_true, if_false, List.nil_append]
      obtain ⟨k, this, hpe⟩ := parse_extras_part ex body after tag hw hu (by simpa using h1)
      rw [hpe]
      simp only [this, beq_eq_false_iff_ne.mpr h2, beq_eq_false_iff_ne.mpr h3, beq_eq_false_iff_ne.mpr h4,
        if_false, Bool.false_eq_true]
  · simp only [if_true]
    obtain ⟨k, this, hpe⟩ := parse_extras_part ex (u32W tTL2Marker ++ body) body tTL2Marker hw (u32_rt _ _)
      (by have := resp_tags_ne.1; simpa [bne] using this)
    rw [hpe]
    simp only [this, if_false, resp_tags_ne, Bool.false_eq_true, bne_self_eq_false]

theorem parseResponseExtra_err (tl2 : Bool) (ex : ResExtra) (q : UInt64) (code : UInt32) (desc : Bytes)
    (hd : strOK desc) (hw : ex.wf) :
    parseResponseExtra tl2 {} (extrasOnWire ex ++ (u32W tRpcReqResultError ++ (u64W q ++ (u32W code ++ strW desc))))
      = .ok ([], ex.norm, .rpcError code desc) := by
  unfold parseResponseExtra
  obtain ⟨k, this, hpe⟩ := parse_extras_part ex _ _ tRpcReqResultError hw (u32_rt _ _)
    (by have := resp_tags_ne.2.2.2.2.1; simpa [bne] using this)
  rw [hpe]
  simp only [this, if_false, resp_tags_ne, Bool.false_eq_true, beq_self_eq_true, if_true]
  rw [u64_rt]
  simp only [readCodeDesc]
  rw [u32_rt]
  dsimp only
  have := str_rt desc hd []
  rw [List.append_nil] at this
  rw [this]

theorem lt_of_append_lt {a b : Bytes} {n : Nat} (h : (a ++ b).length < n) : a.length < n ∧ b.length < n := by
  rw [List.length_append] at h; omega

theorem optW_lt {c : Bool} {w : Bytes} {n : Nat} (h : (optW c w).length < n) (hc : c = true) : w.length < n := by
  subst hc; exact h

theorem strOK_of_short (s : Bytes) (h : (strW s).length < 4294967296) : strOK s := by
  by_cases hs : strOK s
  · exact hs
  · have hm := maxHuge_eq
    rw [strW_eq_self s hs] at h
    unfold strOK at hs
    omega

theorem writeAll_mem_lt {α : Type} {wr : α → Bytes} {xs : List α} {x : α} {n : Nat} (hx : x ∈ xs)
    (hl : (writeAll wr xs).length < n) : (wr x).length < n := by
  induction xs with
  | nil => cases hx
  | cons y t ih =>
    obtain ⟨h1, h2⟩ := lt_of_append_lt (a := wr y) hl
    rcases List.mem_cons.mp hx with rfl | hx
    · exact h1
    · exact ih hx h2

theorem vec_short {α : Type} (wr : α → Bytes) (xs : List α) (h4 : ∀ x ∈ xs, 4 ≤ (wr x).length)
    (hl : (vecW wr xs).length < 4294967296) : xs.length < 4294967296 := by
  have := writeAll_length_ge wr 4 xs h4
  simp only [vecW, List.length_append, u32W_length] at hl
  omega

theorem dictOK_of_short {β : Type} (wr : β → Bytes) (m : List (Bytes × β)) (hs : dictSorted m = true)
    (hl : (dictW wr m).length < 4294967296) : dictOK m :=
  ⟨hs, vec_short (pairW wr) m (fun kv _ => pairW_length_ge wr kv) hl,
    fun _ hkv => strOK_of_short _ (lt_of_append_lt (writeAll_mem_lt (wr := pairW wr) hkv (lt_of_append_lt hl).2)).1⟩

/-- the maps of the value are maps (always true of a Go `map`) -/
def ReqExtra.mapsOK (e : ReqExtra) : Prop := hasBit e.flags 15 = true → dictSorted e.waitShardsBinlogPos = true
instance (e : ReqExtra) : Decidable e.mapsOK := by unfold ReqExtra.mapsOK; infer_instance

theorem ReqExtra.wf_of_short (e : ReqExtra) (hm : e.mapsOK) (hl : e.write.length < 4294967296) : e.wf := by
  unfold ReqExtra.write at hl
  -- peel the fields off the end of the encoding, down to bit 15 (one `omega` per field over the sum of the fourteen
  -- lengths is more than ten times as dear to check)
  obtain ⟨hl, h30⟩ := lt_of_append_lt hl
  obtain ⟨hl, h29⟩ := lt_of_append_lt hl
  obtain ⟨hl, -⟩ := lt_of_append_lt hl
  obtain ⟨hl, -⟩ := lt_of_append_lt hl
  obtain ⟨hl, -⟩ := lt_of_append_lt hl
  obtain ⟨hl, -⟩ := lt_of_append_lt hl
  obtain ⟨hl, -⟩ := lt_of_append_lt hl
  obtain ⟨hl, h20⟩ := lt_of_append_lt hl
  obtain ⟨hl, h19⟩ := lt_of_append_lt hl
  obtain ⟨hl, h18⟩ := lt_of_append_lt hl
  obtain ⟨hl, -⟩ := lt_of_append_lt hl
  obtain ⟨-, h15⟩ := lt_of_append_lt hl
  exact {
    wsbp := fun hb => dictOK_of_short u64W _ (hm hb) (optW_lt h15 hb)
    sfk := fun hb => ⟨vec_short strW _ (fun s _ => strW_length_ge s) (optW_lt h18 hb),
      fun _ hs => strOK_of_short _ (writeAll_mem_lt hs (lt_of_append_lt (optW_lt h18 hb)).2)⟩
    ifk := fun hb => vec_short u64W _ (fun _ _ => (by decide : 4 ≤ 8)) (optW_lt h19 hb)
    sf := fun hb => strOK_of_short _ (optW_lt h20 hb)
    tc := fun hb hb3 => strOK_of_short _ (optW_lt (lt_of_append_lt (optW_lt h29 hb)).2 hb3)
    ec := fun hb => strOK_of_short _ (optW_lt h30 hb) }

def ResExtra.mapsOK (e : ResExtra) : Prop :=
  (hasBit e.flags 6 = true → dictSorted e.stats = true) ∧ (hasBit e.flags 14 = true → dictSorted e.shardsBinlogPos = true)
instance (e : ResExtra) : Decidable e.mapsOK := by unfold ResExtra.mapsOK; infer_instance

theorem ResExtra.wf_of_short (e : ResExtra) (hm : e.mapsOK) (hl : e.write.length < 4294967296) : e.wf := by
  unfold ResExtra.write at hl
  obtain ⟨hl, -⟩ := lt_of_append_lt hl
  obtain ⟨hl, -⟩ := lt_of_append_lt hl
  obtain ⟨hl, h14⟩ := lt_of_append_lt hl
  obtain ⟨-, h6⟩ := lt_of_append_lt hl
  exact {
    stats := fun hb => ⟨dictOK_of_short strW _ (hm.1 hb) (optW_lt h6 hb),
      fun _ hkv => strOK_of_short _ (lt_of_append_lt (writeAll_mem_lt (wr := pairW strW) hkv (lt_of_append_lt (optW_lt h6 hb)).2)).2⟩
    sbp := fun hb => dictOK_of_short u64W _ (hm.2 hb) (optW_lt h14 hb) }

theorem limits : maxPacketLen - packetOverhead < 4294967296 := by decide

theorem prepare_wf (req : Request) (p : Bytes × Nat) (hm : req.extra.mapsOK)
    (hp : preparePacket req = some p) : req.extra.wf := by
  by_cases hf : req.extra.flags = 0
  · refine ⟨?_, ?_, ?_, ?_, ?_, ?_⟩ <;> (rw [hf, hasBit_zero]; intro hb; cases hb)
  · apply ReqExtra.wf_of_short _ hm
    have hlim := limits
    have hv := (preparePacket_some hp).2
    have hfb : (req.extra.flags != 0) = true := by simpa using hf
    unfold requestHeader at hv
    simp only [hfb, Bool.and_true, if_true, List.length_append] at hv
    split at hv
    · simp only [List.length_append] at hv; omega
    · simp only [List.length_append] at hv; omega

theorem response_wf (h : RespIn) (err : HandlerErr) (resp : Bytes) (es : Nat) (fl : UInt32)
    (hm : (maskedExtra h).mapsOK) (hp : prepareResponseBody h err = .ok resp es fl) : (maskedExtra h).wf := by
  by_cases hf : (maskedExtra h).flags = 0
  · refine ⟨?_, ?_⟩ <;> (rw [hf, hasBit_zero]; intro hb; cases hb)
  · apply ResExtra.wf_of_short _ hm
    have hlim := limits
    obtain ⟨-, -, -, hr, hv⟩ := prepareResponseBody_ok hp
    have hfb : ((maskedExtra h).flags != 0) = true := by simpa using hf
    simp only [hr, extrasOnWire, hfb, if_true, List.length_append] at hv
    omega

theorem response_desc_ok (h : RespIn) (err : HandlerErr) (code : UInt32) (desc : Bytes) (resp : Bytes) (es : Nat) (fl : UInt32)
    (he : errorOnWire h.reqTag err = some (code, desc)) (hp : prepareResponseBody h err = .ok resp es fl) : strOK desc := by
  have hlim := limits
  obtain ⟨-, -, -, hr, hv⟩ := prepareResponseBody_ok hp
  simp only [hr, responseBody, he, List.length_append] at hv
  exact strOK_of_short _ (by omega)

theorem ite_ite_same {α : Type} (c : Prop) [Decidable c] (a b : α) :
    (if c then (if c then a else b) else b) = if c then a else b := by
  split <;> rfl

-- `delta`, because `simp only [norm]` leaves `norm` folded inside the `Decidable` instances of the outer `if`s
theorem TraceContext.norm_norm (t : TraceContext) : t.norm.norm = t.norm := by
  delta TraceContext.norm
  simp only [ite_ite_same]

theorem ReqExtra.norm_norm (e : ReqExtra) : e.norm.norm = e.norm := by
  delta ReqExtra.norm
  simp only [ite_ite_same]
  cases hasBit e.flags 29 <;> simp only [TraceContext.norm_norm, if_true, if_false, Bool.false_eq_true]

theorem ReqExtra.norm_mapsOK (e : ReqExtra) (h : e.mapsOK) : e.norm.mapsOK := by
  intro hb
  have hb' : hasBit e.flags 15 = true := hb
  simp only [ReqExtra.norm, hb', if_true]
  exact h hb'

end TLVerif.Rpcextra
