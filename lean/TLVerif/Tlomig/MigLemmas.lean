import TLVerif.Tlomig.Mig
/-! Lemmas for C27: related nodes of a consistent relation write every value identically (TL2 bytes and JSON). -/
namespace TLVerif.Tlomig
open TLVerif.Prim

/-- The pairs of nodes that `nodesMatch` accepts, with what it checked about their children. -/
inductive NodeRel (R : Rel) : Node → Node → Prop
  | prim (k : PrimKind) : NodeRel R (.prim k) (.prim k)
  | struct {al al' td ue : Bool} {ui : Nat} {fs gs : List FieldD} (hf : fieldsMatch R fs gs = true)
      (ht : typedefOk R td fs gs = true) : NodeRel R (.struct al td ue ui fs) (.struct al' td ue ui gs)
  | union {vs ws : List (String × Nat)} (hv : variantsMatch R vs ws = true) : NodeRel R (.union vs) (.union ws)
  | array {t dy t' dy' eb : Bool} {c e c' e' : Nat} (he : eb = true ∨ R.contains (e, e') = true) :
      NodeRel R (.array t dy c e eb) (.array t' dy' c' e' eb)
  | dict {e e' : Nat} (he : R.contains (e, e') = true) : NodeRel R (.dict e) (.dict e')

theorem NodeRel.of_nodesMatch {R : Rel} {a b : Node} (h : nodesMatch R a b = true) : NodeRel R a b := by
  unfold nodesMatch at h
  split at h
  · exact beq_iff_eq.mp h ▸ .prim _
  · simp only [Bool.and_eq_true, beq_iff_eq] at h
    obtain ⟨⟨⟨⟨rfl, rfl⟩, rfl⟩, hf⟩, ht⟩ := h; exact .struct hf ht
  · exact .union h
  · simp only [Bool.and_eq_true, Bool.or_eq_true, beq_iff_eq] at h
    obtain ⟨rfl, he⟩ := h; exact .array he
  · exact .dict h
  · cases h

theorem pair_nodes {d₁ d₂ : Desc} {R : Rel} (hR : consistent d₁ d₂ R = true) {i j : Nat}
    (h : R.contains (i, j) = true) : ∃ n m, d₁.node i = some n ∧ d₂.node j = some m ∧ NodeRel R n m := by
  have := List.all_eq_true.mp hR (i, j) (by simpa using h)
  split at this
  · next n m h1 h2 => exact ⟨n, m, h1, h2, .of_nodesMatch this⟩
  · contradiction

theorem variantsMatch_get {R : Rel} : ∀ {vs ws : List (String × Nat)}, variantsMatch R vs ws = true → ∀ idx : Nat,
    (vs[idx]? = none ∧ ws[idx]? = none) ∨
    ∃ n i j, vs[idx]? = some (n, i) ∧ ws[idx]? = some (n, j) ∧ R.contains (i, j) = true
  | [], [], _, _ => .inl ⟨rfl, rfl⟩
  | [], _ :: _, h, _ => nomatch h
  | _ :: _, [], h, _ => nomatch h
  | (n, i) :: vs, (m, j) :: ws, h, idx => by
    simp only [variantsMatch, Bool.and_eq_true, beq_iff_eq] at h
    obtain ⟨⟨rfl, h2⟩, h3⟩ := h
    cases idx with
    | zero => exact .inr ⟨n, i, j, rfl, rfl, h2⟩
    | succ k => simpa only [List.getElem?_cons_succ] using variantsMatch_get h3 k

theorem fieldsMatch_cons {R : Rel} {f g : FieldD} {fs gs : List FieldD} (h : fieldsMatch R (f :: fs) (g :: gs) = true) :
    f.name = g.name ∧ f.opt = g.opt ∧ f.isBit = g.isBit ∧ (f.isBit = false → R.contains (f.ty, g.ty) = true) ∧
      fieldsMatch R fs gs = true := by
  simp only [fieldsMatch, Bool.and_eq_true, beq_iff_eq, Bool.or_eq_true] at h
  obtain ⟨⟨⟨⟨hn, ho⟩, hb⟩, hty⟩, hrest⟩ := h
  exact ⟨hn, ho, hb, fun hbit => hty.resolve_left (by simp [hbit]), hrest⟩

/-- A field's own encoding is looked at only when the field is not a bit. -/
theorem item_congr {f g : FieldD} (hn : f.name = g.name) (ho : f.opt = g.opt) (hb : f.isBit = g.isBit) (a u : Bool) :
    (∀ w w', (f.isBit = false → w = w') → fieldItem f a u w = fieldItem g a u w') ∧
    (∀ w w', (f.isBit = false → w = w') → jsonItem f a u w = jsonItem g a u w') := by
  unfold fieldItem jsonItem
  rw [← hn, ← ho, ← hb]
  cases f.isBit with
  | true => simp
  | false => exact ⟨fun _ _ hw => by rw [hw rfl], fun _ _ hw => by rw [hw rfl]⟩

theorem fieldsMatch_isEmpty {R : Rel} : ∀ {fs gs : List FieldD}, fieldsMatch R fs gs = true → fs.isEmpty = gs.isEmpty
  | [], [], _ => rfl
  | [], _ :: _, h => nomatch h
  | _ :: _, [], h => nomatch h
  | _ :: _, _ :: _, _ => rfl

section
variable {d₁ d₂ : Desc} {R : Rel}

/-! TL2 bytes and JSON in one induction: both writers look at the same two nodes. -/
mutual
theorem same_val (hR : consistent d₁ d₂ R = true) : (v : Val) → ∀ i j, R.contains (i, j) = true →
    (∀ opt, writeTL2 d₁ i opt v = writeTL2 d₂ j opt v) ∧ writeJson d₁ i v = writeJson d₂ j v
  | v, i, j, h => by
    obtain ⟨a, b, h1, h2, hm⟩ := pair_nodes hR h
    cases v <;> unfold writeTL2 writeJson
    case absent => exact ⟨fun _ => rfl, rfl⟩
    all_goals rw [h1, h2]
    case struct fs =>
      cases hm with
      | @struct _ _ td _ _ _ _ hf ht =>
        simp only [(same_fields hR fs _ _ hf).1, (same_fields hR fs _ _ hf).2 true, implies_true, true_and]
        cases td with
        | true => exact json_typedef hR fs _ _ hf ht
        | false => rfl
      | _ => exact ⟨fun _ => rfl, rfl⟩
    case union idx fs =>
      cases hm with
      | union hv =>
        rcases variantsMatch_get hv idx with ⟨e1, e2⟩ | ⟨n, vi, vj, e1, e2, hr⟩
        · simp only [e1, e2, implies_true, and_self]
        · obtain ⟨a', b', h1', h2', hm'⟩ := pair_nodes hR hr
          simp only [e1, e2, h1', h2']
          cases hm' with
          | @struct _ _ td _ _ _ _ hf ht =>
            simp only [fieldsMatch_isEmpty hf, (same_fields hR fs _ _ hf).1, (same_fields hR fs _ _ hf).2 true, implies_true,
              true_and]
            cases td with
            | true => rw [json_typedef hR fs _ _ hf ht]
            | false => rfl
          | _ => exact ⟨fun _ => rfl, rfl⟩
      | _ => exact ⟨fun _ => rfl, rfl⟩
    case arr es =>
      cases hm with
      | @array _ _ _ _ eb _ _ _ _ he =>
        cases eb with
        | true => exact ⟨fun _ => rfl, rfl⟩
        | false =>
          have hr := he.resolve_left Bool.false_ne_true
          simp only [tl2_elems hR es _ _ hr, json_elems hR es _ _ hr, implies_true, and_self]
      | _ => exact ⟨fun _ => rfl, rfl⟩
    case dict es =>
      cases hm with
      | dict he => simp only [tl2_elems hR es _ _ he, json_elems hR es _ _ he, implies_true, and_self]
      | _ => exact ⟨fun _ => rfl, rfl⟩
    case int | bool | unit | str => cases hm <;> exact ⟨fun _ => rfl, rfl⟩
theorem same_fields (hR : consistent d₁ d₂ R = true) : (vs : Vals) → ∀ fs gs, fieldsMatch R fs gs = true →
    writeFields d₁ fs vs = writeFields d₂ gs vs ∧ ∀ first, jsonFields d₁ fs vs first = jsonFields d₂ gs vs first
  | vs, [], [], _ => by cases vs <;> exact ⟨rfl, fun _ => rfl⟩
  | _, [], _ :: _, h | _, _ :: _, [], h => nomatch h
  | .nil, _ :: _, _ :: _, _ => ⟨rfl, fun _ => rfl⟩
  | .cons v vs, f :: fs, g :: gs, h => by
    obtain ⟨hn, ho, hb, hty, hrest⟩ := fieldsMatch_cons h
    obtain ⟨ht, hj⟩ := same_fields hR vs fs gs hrest
    unfold writeFields jsonFields
    obtain ⟨hfi, hji⟩ := item_congr hn ho hb v.isAbsent v.isUnit
    rw [ht, hfi _ (writeTL2 d₂ g.ty (!g.opt) v) fun hbit => ho ▸ (same_val hR v _ _ (hty hbit)).1 _]
    refine ⟨rfl, fun first => ?_⟩
    rw [hj, hj, hji _ (writeJson d₂ g.ty v) fun hbit => (same_val hR v _ _ (hty hbit)).2]
theorem tl2_elems (hR : consistent d₁ d₂ R = true) : (vs : Vals) → ∀ i j, R.contains (i, j) = true →
    writeElems d₁ i vs = writeElems d₂ j vs
  | .nil => fun _ _ _ => rfl
  | .cons v vs => by
    intro i j h
    unfold writeElems
    rw [(same_val hR v i j h).1 false, tl2_elems hR vs i j h]
theorem json_typedef (hR : consistent d₁ d₂ R = true) : (vs : Vals) → ∀ fs gs, fieldsMatch R fs gs = true →
    typedefOk R true fs gs = true → jsonTypedef d₁ fs vs = jsonTypedef d₂ gs vs
  | .nil | .cons _ (.cons _ _) => fun _ _ _ _ => rfl
  | .cons v .nil => by
    intro fs gs _ ht
    -- `typedefOk R true` holds of single fields only
    unfold typedefOk at ht
    split at ht
    · exact (same_val hR v _ _ (by simpa using ht)).2
    · cases ht
theorem json_elems (hR : consistent d₁ d₂ R = true) : (vs : Vals) → ∀ i j, R.contains (i, j) = true →
    jsonElems d₁ i vs = jsonElems d₂ j vs
  | .nil => fun _ _ _ => rfl
  | .cons v vs => by
    intro i j h
    unfold jsonElems
    rw [(same_val hR v i j h).2, json_elems hR vs i j h]
end

theorem json_fields (hR : consistent d₁ d₂ R = true) : (vs : Vals) → ∀ fs gs first, fieldsMatch R fs gs = true →
    jsonFields d₁ fs vs first = jsonFields d₂ gs vs first :=
  fun vs fs gs first h => (same_fields hR vs fs gs h).2 first

end
end TLVerif.Tlomig
