import TLVerif.Tlomig.TlsWf
import TLVerif.Prim.TL1StringLemmas
/-! Round trip of the `tls.tl` TL1 codec model: `decodeSchema (encSchema s ++ rest) = (s, rest)` for every well-formed value.
Every reader is inverted against its writer field by field: `Reads rd w x` says that `rd` gets `x` back from the bytes `w`,
and one `Reads.bind` (or one of its variants for a tag, a counted list, a conditional field) steps through one line of the
reader's `do` block. -/
namespace TLVerif.Tlomig
open TLVerif.Prim

theorem getLsbD_mod256 (x : BitVec 32) (i : Nat) : (x % 256#32).getLsbD i = (decide (i < 8) && x.getLsbD i) := by
  simp only [BitVec.getLsbD, BitVec.toNat_umod]
  show (x.toNat % 2 ^ 8).testBit i = _
  rw [Nat.testBit_mod_two_pow]

/-- Bit `i` of the byte of `x` at bit offset `k`, moved back to offset `k`: the little-endian readers are an `|||` of
such terms, one per byte. -/
theorem getLsbD_byteAt {w : Nat} (x : BitVec w) (k i : Nat) :
    (((x >>> k).setWidth 8).setWidth w <<< k).getLsbD i = (decide (k ≤ i ∧ i < k + 8) && x.getLsbD i) := by
  simp only [BitVec.getLsbD_shiftLeft, BitVec.getLsbD_setWidth, BitVec.getLsbD_ushiftRight]
  by_cases hk : k ≤ i
  · rw [show k + (i - k) = i by omega]
    cases hx : x.getLsbD i
    · simp
    · have := BitVec.lt_of_getLsbD hx
      simp only [Bool.and_true, ← Bool.decide_and, ← decide_not, decide_eq_decide]
      omega
  · simp [hk, show i < k by omega]

theorem getLsbD_byte0 {w : Nat} (x : BitVec w) (i : Nat) :
    ((x.setWidth 8).setWidth w).getLsbD i = (decide (i < 8) && x.getLsbD i) := by
  simpa using getLsbD_byteAt x 0 i

theorem natRead_natWrite (v : UInt32) : Reads natRead (natWrite v) v := fun rest => by
  simp only [natWrite, natRead, List.cons_append, List.nil_append]
  congr 2
  apply UInt32.eq_of_toBitVec_eq
  apply BitVec.eq_of_getLsbD_eq
  intro i hi
  simp only [UInt8.toBitVec_toUInt32, UInt32.toBitVec_toUInt8, UInt32.toBitVec_or, UInt32.toBitVec_shiftLeft,
    UInt32.toBitVec_shiftRight, BitVec.ushiftRight_eq', BitVec.shiftLeft_eq', BitVec.getLsbD_or, getLsbD_byteAt,
    getLsbD_byte0]
  cases v.toBitVec.getLsbD i
  · simp only [Bool.and_false, Bool.or_false]
  · -- every bit position below 32 lies in one of the four bytes
    simp only [Bool.and_true, ← Bool.decide_or, decide_eq_true_eq, UInt32.toBitVec_ofNat, BitVec.toNat_umod,
      BitVec.ofNat_eq_ofNat, BitVec.toNat_ofNat, Nat.reducePow, Nat.reduceMod]
    omega

theorem longRead_longWrite (v : UInt64) : Reads longRead (longWrite v) v := fun rest => by
  simp only [longWrite, longRead, List.cons_append, List.nil_append]
  congr 2
  apply UInt64.eq_of_toBitVec_eq
  apply BitVec.eq_of_getLsbD_eq
  intro i hi
  simp only [UInt8.toBitVec_toUInt64, UInt64.toBitVec_toUInt8, UInt64.toBitVec_or, UInt64.toBitVec_shiftLeft,
    UInt64.toBitVec_shiftRight, BitVec.ushiftRight_eq', BitVec.shiftLeft_eq', BitVec.getLsbD_or, getLsbD_byteAt,
    getLsbD_byte0]
  cases v.toBitVec.getLsbD i
  · simp only [Bool.and_false, Bool.or_false]
  · simp only [Bool.and_true, ← Bool.decide_or, decide_eq_true_eq, UInt64.toBitVec_ofNat, BitVec.toNat_umod,
      BitVec.ofNat_eq_ofNat, BitVec.toNat_ofNat, Nat.reducePow, Nat.reduceMod]
    omega

theorem natWrite_length (v : UInt32) : (natWrite v).length = 4 := rfl

theorem stringRead_stringWrite {s bs : Bytes} (h : stringWrite s = some bs) : Reads stringRead bs s :=
  fun rest => string_roundtrip s rest bs h

theorem tag_bind {γ : Type} (t : UInt32) {k : Bytes → Except RErr γ} {r : Bytes} {y : Except RErr γ} (hk : k r = y) :
    (readExactTag t (natWrite t ++ r) >>= k) = y := by
  simp only [readExactTag, natRead_natWrite t r, if_true]; exact hk

/-- step through a counted list: `CheckLengthSanity`, then the list reader run with the count read before (`hn` in the form
the writers' length checks leave it). The left side is what `if !lengthSane .. then throw ..` followed by the rest of a
`do` block elaborates to: the rest becomes the join point `jp`. -/
theorem count_bind {α γ : Type} {n : UInt32} {xs : List α} {rd : Nat → Bytes → Except RErr (List α × Bytes)} {bs r : Bytes}
    {k : List α × Bytes → Except RErr γ} {y : Except RErr γ} (hn : ¬ n.toNat ≠ xs.length) (hl : 4 * xs.length ≤ bs.length)
    (h : Reads (rd xs.length) bs xs) (hk : k (xs, r) = y) :
    (have jp : PUnit → Except RErr γ := fun _ => rd n.toNat (bs ++ r) >>= k
     if (!lengthSane (bs ++ r) n) = true then throw RErr.eof >>= jp else jp ⟨⟩) = y := by
  have hs : lengthSane (bs ++ r) n = true := by
    rw [lengthSane, decide_eq_true_eq, Decidable.not_not.1 hn, Nat.mul_comm, List.length_append]
    exact Nat.le_add_right_of_le hl
  rw [hs, Decidable.not_not.1 hn]
  exact h.bind hk

/-- step through a field of `tls.arg` that is present under a flag bit, and zero in a well-formed value otherwise -/
theorem opt_bind {γ : Type} {c : Bool} {v : UInt32} {k : UInt32 × Bytes → Except RErr γ} {r : Bytes}
    {y : Except RErr γ} (hz : c = true ∨ v = 0) (hk : k (v, r) = y) :
    (if c = true then natRead ((if c = true then natWrite v else []) ++ r) >>= k
      else pure (0, (if c = true then natWrite v else []) ++ r) >>= k) = y := by
  cases c
  · rw [← hz.resolve_left Bool.false_ne_true]; exact hk
  · exact (natRead_natWrite v).bind hk

theorem spec_type (t : TlsType) (bs : Bytes) (h : encType t = some bs) : 4 ≤ bs.length ∧ Reads decType bs t := by
  unfold encType at h
  split at h <;> cases h
  rename_i s hs
  simp only [Reads, List.append_assoc, List.length_append, natWrite_length]
  refine ⟨Nat.le_add_right 4 _, fun rest => ?_⟩
  apply tag_bind
  apply (natRead_natWrite _).bind
  apply (stringRead_stringWrite hs).bind
  apply (natRead_natWrite _).bind
  apply (natRead_natWrite _).bind
  apply (natRead_natWrite _).bind
  apply (longRead_longWrite _).bind
  rfl

theorem spec_types : ∀ (ts : List TlsType) (bs : Bytes), encTypes ts = some bs →
    4 * ts.length ≤ bs.length ∧ Reads (decTypes ts.length) bs ts
  | [], bs, h => by cases h; exact ⟨Nat.le_refl _, fun _ => rfl⟩
  | t :: ts, bs, h => by
    unfold encTypes at h
    split at h <;> cases h
    rename_i x y hx hy
    obtain ⟨hl, hrt⟩ := spec_type t x hx
    obtain ⟨hl', hrt'⟩ := spec_types ts y hy
    simp only [Reads, List.append_assoc, List.length_append, List.length_cons]
    refine ⟨by omega, fun rest => ?_⟩
    apply hrt.bind
    apply hrt'.bind
    rfl

/- The fuel a `dec*` reader needs for a value: its nesting depth, counting every list cell too, since `decArgs` and
`decExprs` spend a unit per element. -/
mutual
def dTE : TypeExpr → Nat
  | .tvar _ _ => 1
  | .array _ _ args => dArgs args + 1
  | .expr _ _ _ ch => dExprs ch + 1
def dArg : Arg → Nat
  | .mk _ _ _ _ _ t => dTE t + 1
def dArgs : List Arg → Nat
  | [] => 1
  | a :: as => max (dArg a) (dArgs as) + 1
def dExpr : Expr → Nat
  | .type e => dTE e + 1
  | .nat _ => 1
def dExprs : List Expr → Nat
  | [] => 1
  | a :: as => max (dExpr a) (dExprs as) + 1
end

theorem spec_natExpr (e : NatExpr) : 8 ≤ (encNatExpr e).length ∧ Reads decNatExpr (encNatExpr e) e := by
  cases e with
  | const v =>
    refine ⟨Nat.le_refl 8, fun rest => ?_⟩
    simp only [encNatExpr, List.append_assoc]
    apply (natRead_natWrite _).bind
    refine (if_pos rfl).trans ?_
    apply (natRead_natWrite _).bind
    rfl
  | var d n =>
    refine ⟨Nat.le_add_left 8 4, fun rest => ?_⟩
    simp only [encNatExpr, List.append_assoc]
    apply (natRead_natWrite _).bind
    dsimp only
    refine (if_neg (by decide)).trans ?_
    refine (if_pos rfl).trans ?_
    apply (natRead_natWrite _).bind
    apply (natRead_natWrite _).bind
    rfl

/-- every reader of the nested part spends one unit of fuel before it looks at the input -/
theorem fuel_succ {d : Nat} : ∀ {fuel : Nat}, d + 1 ≤ fuel → ∃ k, fuel = k + 1 ∧ d ≤ k
  | _ + 1, h => ⟨_, rfl, Nat.le_of_succ_le_succ h⟩

/-- the cons step of `dArgs`/`dExprs` against the lengths of the element's and the tail's encodings -/
theorem max_succ_le {a b x y : Nat} (ha : a + 4 ≤ x) (hb : b ≤ y + 1) : max a b + 1 ≤ x + y + 1 := by omega

/-! What an encoding `bs` of a nested value says: it is long enough for `CheckLengthSanity` (4 bytes per list element), its
length bounds the fuel the reader needs (so the fuel `decodeSchema` uses is enough), and a well-formed value is read back from
it. -/
mutual
theorem spec_typeExpr : (e : TypeExpr) → ∀ bs, encTypeExpr e = some bs → dTE e + 4 ≤ bs.length ∧
    (wfTE e = true → ∀ fuel, dTE e ≤ fuel → Reads (decTypeExpr fuel) bs e)
  | .tvar v f => by
    intro bs h
    cases h
    simp only [Reads, List.append_assoc]
    refine ⟨Nat.le_add_left 5 7, fun _ fuel hf rest => ?_⟩
    obtain ⟨fuel, rfl, -⟩ := fuel_succ hf
    rw [decTypeExpr]
    apply (natRead_natWrite _).bind
    refine (if_pos rfl).trans ?_
    apply (natRead_natWrite _).bind
    apply (natRead_natWrite _).bind
    rfl
  | .array m n args => by
    intro bs h
    rw [encTypeExpr, Option.ite_none_left_eq_some] at h
    obtain ⟨hn, h⟩ := h
    split at h <;> cases h
    rename_i a ha
    obtain ⟨hl, hd, hrt⟩ := spec_args args a ha
    obtain ⟨hm, hrm⟩ := spec_natExpr m
    simp only [Reads, dTE, wfTE, List.append_assoc, List.length_append, natWrite_length]
    refine ⟨by omega, fun hw fuel hf rest => ?_⟩
    obtain ⟨fuel, rfl, hf'⟩ := fuel_succ hf
    rw [decTypeExpr]
    apply (natRead_natWrite _).bind
    dsimp only
    refine (if_neg (by decide)).trans ?_
    refine (if_pos rfl).trans ?_
    apply hrm.bind
    apply (natRead_natWrite n).bind
    apply count_bind hn hl (hrt hw fuel hf')
    rfl
  | .expr name flags n ch => by
    intro bs h
    rw [encTypeExpr, Option.ite_none_left_eq_some] at h
    obtain ⟨hn, h⟩ := h
    split at h <;> cases h
    rename_i c hc
    obtain ⟨hl, hd, hrt⟩ := spec_exprs ch c hc
    simp only [Reads, dTE, wfTE, List.append_assoc, List.length_append, natWrite_length]
    refine ⟨by omega, fun hw fuel hf rest => ?_⟩
    obtain ⟨fuel, rfl, hf'⟩ := fuel_succ hf
    rw [decTypeExpr]
    apply (natRead_natWrite _).bind
    dsimp only
    refine (if_neg (by decide)).trans ?_
    refine (if_neg (by decide)).trans ?_
    refine (if_pos rfl).trans ?_
    apply (natRead_natWrite _).bind
    apply (natRead_natWrite _).bind
    apply (natRead_natWrite n).bind
    apply count_bind hn hl (hrt hw fuel hf')
    rfl
theorem spec_arg : (a : Arg) → ∀ bs, encArg a = some bs → dArg a + 4 ≤ bs.length ∧
    (wfArg a = true → ∀ fuel, dArg a ≤ fuel → Reads (decArg fuel) bs a)
  | .mk id fl vn evn evb t => by
    intro bs h
    unfold encArg at h
    split at h <;> cases h
    rename_i s tb hs ht
    obtain ⟨hd, hrt⟩ := spec_typeExpr t tb ht
    simp only [Reads, dArg, wfArg, Bool.and_eq_true, Bool.or_eq_true, beq_iff_eq, List.append_assoc, List.length_append,
      natWrite_length]
    refine ⟨by omega, fun ⟨⟨hw1, hw2⟩, hw3⟩ fuel hf rest => ?_⟩
    obtain ⟨fuel, rfl, hf'⟩ := fuel_succ hf
    rw [decArg]
    apply tag_bind
    apply (stringRead_stringWrite hs).bind
    apply (natRead_natWrite _).bind
    apply opt_bind hw1
    apply opt_bind (hw2.imp_right And.left)
    apply opt_bind (hw2.imp_right And.right)
    apply (hrt hw3 fuel hf').bind
    rfl
theorem spec_args : (as : List Arg) → ∀ bs, encArgs as = some bs → 4 * as.length ≤ bs.length ∧ dArgs as ≤ bs.length + 1 ∧
    (wfArgs as = true → ∀ fuel, dArgs as ≤ fuel → Reads (decArgs fuel as.length) bs as)
  | [] => by
    intro bs h
    cases h
    refine ⟨Nat.le_refl _, Nat.le_refl _, fun _ fuel hf rest => ?_⟩
    obtain ⟨fuel, rfl, -⟩ := fuel_succ hf
    rfl
  | a :: as => by
    intro bs h
    unfold encArgs at h
    split at h <;> cases h
    rename_i x y hx hy
    obtain ⟨hd, hrt⟩ := spec_arg a x hx
    obtain ⟨hl', hd', hrt'⟩ := spec_args as y hy
    simp only [Reads, dArgs, wfArgs, Bool.and_eq_true, List.length_cons, List.append_assoc, List.length_append]
    refine ⟨by omega, max_succ_le hd hd', fun hw fuel hf rest => ?_⟩
    obtain ⟨fuel, rfl, hf'⟩ := fuel_succ hf
    rw [decArgs]
    apply (hrt hw.1 fuel (Nat.le_trans (Nat.le_max_left ..) hf')).bind
    apply (hrt' hw.2 fuel (Nat.le_trans (Nat.le_max_right ..) hf')).bind
    rfl
theorem spec_expr : (e : Expr) → ∀ bs, encExpr e = some bs → dExpr e + 4 ≤ bs.length ∧
    (wfExpr e = true → ∀ fuel, dExpr e ≤ fuel → Reads (decExpr fuel) bs e)
  | .type e => by
    intro bs h
    unfold encExpr at h
    split at h <;> cases h
    rename_i b hb
    obtain ⟨hd, hrt⟩ := spec_typeExpr e b hb
    simp only [Reads, dExpr, wfExpr, List.append_assoc, List.length_append, natWrite_length]
    refine ⟨by omega, fun hw fuel hf rest => ?_⟩
    obtain ⟨fuel, rfl, hf'⟩ := fuel_succ hf
    rw [decExpr]
    apply (natRead_natWrite _).bind
    refine (if_pos rfl).trans ?_
    apply (hrt hw fuel hf').bind
    rfl
  | .nat e => by
    intro bs h
    cases h
    obtain ⟨he, hre⟩ := spec_natExpr e
    simp only [Reads, dExpr, List.append_assoc, List.length_append, natWrite_length]
    refine ⟨by omega, fun _ fuel hf rest => ?_⟩
    obtain ⟨fuel, rfl, -⟩ := fuel_succ hf
    rw [decExpr]
    apply (natRead_natWrite _).bind
    dsimp only
    refine (if_neg (by decide)).trans ?_
    refine (if_pos rfl).trans ?_
    apply hre.bind
    rfl
theorem spec_exprs : (as : List Expr) → ∀ bs, encExprs as = some bs → 4 * as.length ≤ bs.length ∧
    dExprs as ≤ bs.length + 1 ∧
    (wfExprs as = true → ∀ fuel, dExprs as ≤ fuel → Reads (decExprs fuel as.length) bs as)
  | [] => by
    intro bs h
    cases h
    refine ⟨Nat.le_refl _, Nat.le_refl _, fun _ fuel hf rest => ?_⟩
    obtain ⟨fuel, rfl, -⟩ := fuel_succ hf
    rfl
  | a :: as => by
    intro bs h
    unfold encExprs at h
    split at h <;> cases h
    rename_i x y hx hy
    obtain ⟨hd, hrt⟩ := spec_expr a x hx
    obtain ⟨hl', hd', hrt'⟩ := spec_exprs as y hy
    simp only [Reads, dExprs, wfExprs, Bool.and_eq_true, List.length_cons, List.append_assoc, List.length_append]
    refine ⟨by omega, max_succ_le hd hd', fun hw fuel hf rest => ?_⟩
    obtain ⟨fuel, rfl, hf'⟩ := fuel_succ hf
    rw [decExprs]
    apply (hrt hw.1 fuel (Nat.le_trans (Nat.le_max_left ..) hf')).bind
    apply (hrt' hw.2 fuel (Nat.le_trans (Nat.le_max_right ..) hf')).bind
    rfl
end

theorem rt_arg : (a : Arg) → ∀ (bs rest : Bytes) (fuel : Nat), encArg a = some bs → wfArg a = true →
    dArg a ≤ fuel → decArg fuel (bs ++ rest) = .ok (a, rest) :=
  fun a bs rest fuel h hw hf => (spec_arg a bs h).2 hw fuel hf rest

theorem rt_expr : (e : Expr) → ∀ (bs rest : Bytes) (fuel : Nat), encExpr e = some bs → wfExpr e = true →
    dExpr e ≤ fuel → decExpr fuel (bs ++ rest) = .ok (e, rest) :=
  fun e bs rest fuel h hw hf => (spec_expr e bs h).2 hw fuel hf rest

theorem rt_exprs : (as : List Expr) → ∀ (bs rest : Bytes) (fuel : Nat), encExprs as = some bs → wfExprs as = true →
    dExprs as ≤ fuel → decExprs fuel as.length (bs ++ rest) = .ok (as, rest) :=
  fun as bs rest fuel h hw hf => (spec_exprs as bs h).2.2 hw fuel hf rest

theorem d_arg : (a : Arg) → ∀ bs, encArg a = some bs → dArg a ≤ bs.length :=
  fun a bs h => Nat.le_of_add_right_le (spec_arg a bs h).1

theorem d_expr : (e : Expr) → ∀ bs, encExpr e = some bs → dExpr e ≤ bs.length :=
  fun e bs h => Nat.le_of_add_right_le (spec_expr e bs h).1

theorem d_exprs : (as : List Expr) → ∀ bs, encExprs as = some bs → dExprs as ≤ bs.length + 1 :=
  fun as bs h => (spec_exprs as bs h).2.1

theorem spec_left (l : Left) (bs : Bytes) (h : encLeft l = some bs) :
    4 ≤ bs.length ∧ (wfLeft l = true → ∀ fuel, bs.length + 1 ≤ fuel → Reads (decLeft fuel) bs l) := by
  cases l with
  | builtin =>
    cases h
    refine ⟨Nat.le_refl 4, fun _ fuel _ rest => ?_⟩
    apply (natRead_natWrite _).bind
    refine (if_pos rfl).trans ?_
    rfl
  | args n as =>
    rw [encLeft, Option.ite_none_left_eq_some] at h
    obtain ⟨hn, h⟩ := h
    split at h <;> cases h
    rename_i a ha
    obtain ⟨hl, hd, hrt⟩ := spec_args as a ha
    simp only [Reads, List.append_assoc, List.length_append, natWrite_length]
    refine ⟨Nat.le_add_right 4 _, fun hw fuel hf rest => ?_⟩
    apply (natRead_natWrite _).bind
    dsimp only
    refine (if_neg (by decide)).trans ?_
    refine (if_pos rfl).trans ?_
    apply (natRead_natWrite n).bind
    apply count_bind hn hl (hrt hw fuel (by omega))
    rfl

theorem encLeft_len (l : Left) (bs : Bytes) (h : encLeft l = some bs) : 4 ≤ bs.length :=
  (spec_left l bs h).1

theorem spec_combinator (c : Combinator) (bs : Bytes) (h : encCombinator c = some bs) (hw : wfCombinator c = true) :
    4 ≤ bs.length ∧ ∀ fuel, bs.length + 1 ≤ fuel → Reads (decCombinator fuel) bs c := by
  cases c with
  | v0 name id tn l r =>
    simp only [encCombinator] at h
    split at h <;> cases h
    rename_i s lb rb hs hl hr
    simp only [wfCombinator, Bool.and_eq_true] at hw
    obtain ⟨hd, hrt⟩ := spec_typeExpr r rb hr
    simp only [Reads, List.append_assoc, List.length_append, natWrite_length]
    refine ⟨Nat.le_add_right 4 _, fun fuel hf rest => ?_⟩
    have ⟨fl, fr⟩ : lb.length + 1 ≤ fuel ∧ dTE r ≤ fuel := by omega
    apply (natRead_natWrite _).bind
    refine (if_pos rfl).trans ?_
    apply (natRead_natWrite _).bind
    apply (stringRead_stringWrite hs).bind
    apply (natRead_natWrite _).bind
    apply ((spec_left l lb hl).2 hw.1 fuel fl).bind
    apply tag_bind
    apply (hrt hw.2 fuel fr).bind
    rfl
  | v4 name id tn l r fl =>
    simp only [encCombinator] at h
    split at h <;> cases h
    rename_i s lb rb hs hl hr
    simp only [wfCombinator, Bool.and_eq_true] at hw
    obtain ⟨hd, hrt⟩ := spec_typeExpr r rb hr
    simp only [Reads, List.append_assoc, List.length_append, natWrite_length]
    refine ⟨Nat.le_add_right 4 _, fun fuel hf rest => ?_⟩
    have ⟨fl, fr⟩ : lb.length + 1 ≤ fuel ∧ dTE r ≤ fuel := by omega
    apply (natRead_natWrite _).bind
    dsimp only
    refine (if_neg (by decide)).trans ?_
    refine (if_pos rfl).trans ?_
    apply (natRead_natWrite _).bind
    apply (stringRead_stringWrite hs).bind
    apply (natRead_natWrite _).bind
    apply ((spec_left l lb hl).2 hw.1 fuel fl).bind
    apply tag_bind
    apply (hrt hw.2 fuel fr).bind
    apply (natRead_natWrite _).bind
    rfl

theorem spec_combinators : ∀ (cs : List Combinator) (bs : Bytes), encCombinators cs = some bs →
    cs.all wfCombinator = true → 4 * cs.length ≤ bs.length ∧
      ∀ fuel, bs.length + 1 ≤ fuel → Reads (decCombinators fuel cs.length) bs cs
  | [], bs, h, _ => by cases h; exact ⟨Nat.le_refl _, fun _ _ _ => rfl⟩
  | c :: cs, bs, h, hw => by
    unfold encCombinators at h
    split at h <;> cases h
    rename_i x y hx hy
    simp only [List.all_cons, Bool.and_eq_true] at hw
    obtain ⟨hl, hrt⟩ := spec_combinator c x hx hw.1
    obtain ⟨hl', hrt'⟩ := spec_combinators cs y hy hw.2
    simp only [Reads, List.append_assoc, List.length_append, List.length_cons]
    refine ⟨by omega, fun fuel hf rest => ?_⟩
    apply (hrt fuel (by omega)).bind
    apply (hrt' fuel (by omega)).bind
    rfl

theorem decSchema_roundtrip (s : SchemaV4) (bs : Bytes) (fuel : Nat) (h : encSchema s = some bs)
    (hw : wfSchema s = true) (hfuel : bs.length + 1 ≤ fuel) : Reads (decSchema fuel) bs s := by
  simp only [encSchema, Option.ite_none_left_eq_some] at h
  obtain ⟨h1, h2, h3, h⟩ := h
  split at h <;> cases h
  rename_i t c f ht hc hf
  simp only [wfSchema, Bool.and_eq_true] at hw
  simp only [Reads, List.append_assoc, List.length_append, natWrite_length] at hfuel ⊢
  have ⟨fc, ff⟩ : c.length + 1 ≤ fuel ∧ f.length + 1 ≤ fuel := by omega
  obtain ⟨lt, rt⟩ := spec_types s.types t ht
  obtain ⟨lc, rc⟩ := spec_combinators s.constructors c hc hw.1
  obtain ⟨lf, rf⟩ := spec_combinators s.functions f hf hw.2
  intro rest
  apply tag_bind
  apply (natRead_natWrite _).bind
  apply (natRead_natWrite _).bind
  apply (natRead_natWrite _).bind
  apply count_bind (rd := decTypes) h1 lt rt
  apply (natRead_natWrite _).bind
  apply count_bind h2 lc (rc fuel fc)
  apply (natRead_natWrite _).bind
  apply count_bind h3 lf (rf fuel ff)
  rfl

end TLVerif.Tlomig
