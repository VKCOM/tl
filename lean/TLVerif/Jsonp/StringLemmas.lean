import TLVerif.Jsonp.Reader
import TLVerif.Jsonp.Base64Lemmas
import TLVerif.Jsonp.Utf8Lemmas
/-! Lemmas about the string writer and the string reader: RFC 8259 grammar and denotation of what
`JSONWriteString` emits, `jlexer` unescaping against the RFC denotation, the full write/read round trip; at the end the
Go loop with its `start`/`i` bookkeeping against the per-byte loop. -/
namespace TLVerif.Jsonp

theorem safe_plain : ∀ n, n < 128 → safe n = true → 0x20 ≤ n ∧ n ≠ 0x22 ∧ n ≠ 0x5C := by decide +kernel

theorem hexChar_val : ∀ n, n < 16 → hexVal4 (hexChar n) = some n := by decide +kernel

theorem b64Start_eq : b64Start = [0x7B, 0x22, 0x62, 0x61, 0x73, 0x65, 0x36, 0x34, 0x22, 0x3A, 0x22] := by decide +kernel
theorem b64End_eq : b64End = [0x22, 0x7D] := by decide

/-- value of a two-character escape `\e` (RFC 8259 section 7) -/
def escValue (e : UInt8) : Option Nat :=
  if e = 0x22 then some 0x22 else if e = 0x5C then some 0x5C else if e = 0x2F then some 0x2F
  else if e = 0x62 then some 8 else if e = 0x66 then some 12 else if e = 0x6E then some 10
  else if e = 0x72 then some 13 else if e = 0x74 then some 9 else none

/-- RFC 8259 section 7, semantics: the string body `raw` (between the quotes) denotes the UTF-8 text `u`.
Escapes of unpaired surrogates denote nothing. -/
inductive JDec : Bytes → Bytes → Prop
  | nil : JDec [] []
  | plain (b : UInt8) (t u : Bytes) : plainByte b → JDec t u → JDec (b :: t) (b :: u)
  | multi (c : Nat) (t u : Bytes) : isScalar c → 0x80 ≤ c → JDec t u → JDec (encodeRune c ++ t) (encodeRune c ++ u)
  | esc (e : UInt8) (v : Nat) (t u : Bytes) : escValue e = some v → JDec t u → JDec (0x5C :: e :: t) (byteOf v :: u)
  | uesc (h1 h2 h3 h4 : UInt8) (x1 x2 x3 x4 : Nat) (t u : Bytes) :
      hexVal4 h1 = some x1 → hexVal4 h2 = some x2 → hexVal4 h3 = some x3 → hexVal4 h4 = some x4 →
      isSurrogate (((x1 * 16 + x2) * 16 + x3) * 16 + x4) = false → JDec t u →
      JDec (0x5C :: 0x75 :: h1 :: h2 :: h3 :: h4 :: t) (encodeRune (((x1 * 16 + x2) * 16 + x3) * 16 + x4) ++ u)
  | upair (h1 h2 h3 h4 l1 l2 l3 l4 : UInt8) (x1 x2 x3 x4 y1 y2 y3 y4 : Nat) (t u : Bytes) :
      hexVal4 h1 = some x1 → hexVal4 h2 = some x2 → hexVal4 h3 = some x3 → hexVal4 h4 = some x4 →
      hexVal4 l1 = some y1 → hexVal4 l2 = some y2 → hexVal4 l3 = some y3 → hexVal4 l4 = some y4 →
      0xD800 ≤ ((x1 * 16 + x2) * 16 + x3) * 16 + x4 → ((x1 * 16 + x2) * 16 + x3) * 16 + x4 < 0xDC00 →
      0xDC00 ≤ ((y1 * 16 + y2) * 16 + y3) * 16 + y4 → ((y1 * 16 + y2) * 16 + y3) * 16 + y4 < 0xE000 →
      JDec t u →
      JDec (0x5C :: 0x75 :: h1 :: h2 :: h3 :: h4 :: 0x5C :: 0x75 :: l1 :: l2 :: l3 :: l4 :: t)
        (encodeRune ((((x1 * 16 + x2) * 16 + x3) * 16 + x4 - 0xD800) * 1024
          + (((y1 * 16 + y2) * 16 + y3) * 16 + y4 - 0xDC00) + 0x10000) ++ u)

/-- RFC 8259 section 7, grammar: `*char` over UTF-8 bytes -/
inductive JChars : Bytes → Prop
  | nil : JChars []
  | plain (b : UInt8) (t : Bytes) : plainByte b → JChars t → JChars (b :: t)
  | multi (c : Nat) (t : Bytes) : isScalar c → 0x80 ≤ c → JChars t → JChars (encodeRune c ++ t)
  | esc (e : UInt8) (v : Nat) (t : Bytes) : escValue e = some v → JChars t → JChars (0x5C :: e :: t)
  | uesc (h1 h2 h3 h4 : UInt8) (x1 x2 x3 x4 : Nat) (t : Bytes) :
      hexVal4 h1 = some x1 → hexVal4 h2 = some x2 → hexVal4 h3 = some x3 → hexVal4 h4 = some x4 →
      JChars t → JChars (0x5C :: 0x75 :: h1 :: h2 :: h3 :: h4 :: t)

/-- a JSON string: quotation-mark *char quotation-mark -/
def IsJsonString (bs : Bytes) : Prop := ∃ body, bs = 0x22 :: (body ++ [0x22]) ∧ JChars body

theorem JDec.ofPlain (p : Bytes) (hp : ∀ b ∈ p, plainByte b) : JDec p p := by
  induction p with
  | nil => exact .nil
  | cons b p ih => exact .plain b p p (hp b (by simp)) (ih fun x hx => hp x (by simp [hx]))

theorem plain_ne (c : UInt8) (h : plainByte c) : c ≠ 0x22 ∧ c ≠ 0x5C :=
  ⟨ne_of_toNat_ne h.2.2.1, ne_of_toNat_ne h.2.2.2⟩

theorem escAscii_denotes (b : UInt8) (hb : b.toNat < 0x80) (t u : Bytes) (h : JDec t u) :
    JDec (0x5C :: (escAscii b ++ t)) (b :: u) := by
  unfold escAscii
  by_cases h1 : b = 0x5C
  · subst h1; exact .esc 0x5C 0x5C t u (by decide) h
  by_cases h2 : b = 0x22
  · subst h2; exact .esc 0x22 0x22 t u (by decide) h
  by_cases h3 : b = 0x0A
  · subst h3; exact .esc 0x6E 10 t u (by decide) h
  by_cases h4 : b = 0x0D
  · subst h4; exact .esc 0x72 13 t u (by decide) h
  by_cases h5 : b = 0x09
  · subst h5; exact .esc 0x74 9 t u (by decide) h
  simp [h1, h2, h3, h4, h5]
  have := JDec.uesc 0x30 0x30 (hexChar (b.toNat / 16)) (hexChar (b.toNat % 16)) 0 0 (b.toNat / 16) (b.toNat % 16) t u
    (by decide) (by decide) (hexChar_val _ (by omega)) (hexChar_val _ (by omega))
    (by unfold isSurrogate; simp; omega) h
  have e : ((0 * 16 + 0) * 16 + b.toNat / 16) * 16 + b.toNat % 16 = b.toNat := by omega
  rw [e, encodeRune_ascii b hb] at this
  simpa using this

theorem escapeLoop_multi (c : Nat) (hs : isScalar c) (hc : 0x80 ≤ c) (t : Bytes) :
    escapeLoop (encodeRune c ++ t) =
      if c = 0x2028 ∨ c = 0x2029 then [0x5C, 0x75, 0x32, 0x30, 0x32, hexChar (c % 16)] ++ escapeLoop t
      else encodeRune c ++ escapeLoop t := by
  obtain ⟨n0, n1, cs, he, hrow, -⟩ := row_of_scalar hs hc
  have hd := (encode_spec c hs t).2
  have h0 := hrow.high n0 (by simp)
  rw [he] at hd ⊢
  rw [List.cons_append, List.cons_append] at hd ⊢
  rw [escapeLoop, if_neg (by rw [byteOf_toNat]; omega), hd]
  have hdrop : (byteOf n1 :: (cs.map byteOf ++ t)).drop (cs.length + 1) = t := by simp
  have htake : (byteOf n1 :: (cs.map byteOf ++ t)).take (cs.length + 1) = byteOf n1 :: cs.map byteOf := by simp
  simp only [List.length_cons, List.length_map, Nat.add_one_sub_one, hdrop, htake]
  rw [if_neg (by omega)]
  rfl

theorem escape_denotes (s : Bytes) (hv : utf8Valid s = true) : JDec (escapeLoop s) s := by
  have hw := wellFormed_of_valid s hv
  clear hv
  induction hw with
  | nil => rw [escapeLoop]; exact .nil
  | cons c t hs _ ih =>
    by_cases hc : c < 0x80
    · have hb : (byteOf c).toNat = c := by rw [byteOf_toNat]; omega
      rw [encodeRune1 (by omega), List.cons_append, List.nil_append, escapeLoop, if_pos (by omega)]
      split
      next hsafe =>
        have := safe_plain _ (by omega) hsafe
        exact .plain _ _ _ ⟨this.1, by omega, this.2.1, this.2.2⟩ ih
      · exact escAscii_denotes _ (by omega) _ _ ih
    · rw [escapeLoop_multi c hs (by omega) t]
      split
      · have := JDec.uesc 0x32 0x30 0x32 (hexChar (c % 16)) 2 0 2 (c % 16) _ _
          (by decide) (by decide) (by decide) (hexChar_val _ (by omega))
          (by unfold isSurrogate; simp; omega) ih
        have e : ((2 * 16 + 0) * 16 + 2) * 16 + c % 16 = c := by omega
        rwa [e] at this
      · exact .multi c _ _ hs (by omega) ih

theorem unescape_cons_plain (b : UInt8) (t : Bytes) (hb : b ≠ 0x5C) :
    unescape (b :: t) = (unescape t).map (b :: ·) := by
  rw [unescape]
  simp [hb]
  cases unescape t <;> rfl

theorem scan_plain (b : UInt8) (t : Bytes) (h : b ≠ 0x22 ∧ b ≠ 0x5C) :
    scanString (b :: t) = (scanString t).map (fun p => (b :: p.1, p.2)) := by
  rw [scanString.eq_def]
  simp [h.1, h.2]
  cases scanString t <;> rfl

theorem scan_pair (c : UInt8) (t : Bytes) :
    scanString (0x5C :: c :: t) = (scanString t).map (fun p => (0x5C :: c :: p.1, p.2)) := by
  rw [scanString.eq_def]
  simp
  cases scanString t <;> rfl

theorem plain_prefix (p : Bytes) (hp : ∀ b ∈ p, b ≠ 0x22 ∧ b ≠ 0x5C) (t : Bytes) :
    scanString (p ++ t) = (scanString t).map (fun q => (p ++ q.1, q.2)) ∧ unescape (p ++ t) = (unescape t).map (p ++ ·) := by
  induction p with
  | nil =>
    rw [List.nil_append]
    cases scanString t <;> cases unescape t <;> exact ⟨rfl, rfl⟩
  | cons b p ih =>
    have hb := hp b List.mem_cons_self
    obtain ⟨i1, i2⟩ := ih fun x hx => hp x (List.mem_cons_of_mem _ hx)
    rw [List.cons_append, scan_plain b _ hb, unescape_cons_plain b _ hb.2, i1, i2]
    cases scanString t <;> cases unescape t <;> exact ⟨rfl, rfl⟩

theorem encodeRune_ne (c : Nat) (hs : isScalar c) (hc : 0x80 ≤ c) : ∀ b ∈ encodeRune c, b ≠ 0x22 ∧ b ≠ 0x5C := by
  obtain ⟨n0, n1, cs, he, hrow, -⟩ := row_of_scalar hs hc
  rw [he, ← List.map_cons, ← List.map_cons]
  intro b hb
  obtain ⟨n, hn, rfl⟩ := List.mem_map.1 hb
  have := hrow.high n hn
  constructor <;> exact ne_of_toNat_ne (by rw [byteOf_toNat]; simp; omega)

theorem escValue_decode (e : UInt8) (v : Nat) (t : Bytes) (h : escValue e = some v) :
    decodeEscape (0x5C :: e :: t) = some (v, 2) ∧ v < 0x80 := by
  revert h
  fun_cases escValue e
  all_goals intro h; cases h
  all_goals subst e; exact ⟨rfl, by decide⟩

theorem JDec.sound {raw u : Bytes} (h : JDec raw u) : JChars raw ∧ unescape raw = some u := by
  induction h with
  | nil => exact ⟨.nil, by rw [unescape]⟩
  | plain b t u hb _ ih =>
    refine ⟨.plain b t hb ih.1, ?_⟩
    rw [unescape_cons_plain b t (plain_ne b hb).2, ih.2]; rfl
  | multi c t u hs hc _ ih =>
    refine ⟨.multi c t hs hc ih.1, ?_⟩
    rw [(plain_prefix _ (encodeRune_ne c hs hc) t).2, ih.2]; rfl
  | esc e v t u he _ ih =>
    refine ⟨.esc e v t he ih.1, ?_⟩
    obtain ⟨hd, hv⟩ := escValue_decode e v t he
    rw [unescape]
    simp only [beq_self_eq_true, ↓reduceIte, hd, Nat.add_one_sub_one, List.drop_succ_cons, List.drop_zero, ih.2]
    rw [encodeRune1 (by omega)]; rfl
  | uesc h1 h2 h3 h4 x1 x2 x3 x4 t u a1 a2 a3 a4 hsur _ ih =>
    refine ⟨.uesc h1 h2 h3 h4 x1 x2 x3 x4 t a1 a2 a3 a4 ih.1, ?_⟩
    rw [unescape]
    have hd : decodeEscape (0x5C :: 0x75 :: h1 :: h2 :: h3 :: h4 :: t) = some (((x1 * 16 + x2) * 16 + x3) * 16 + x4, 6) := by
      simp [decodeEscape, getu4, a1, a2, a3, a4, hsur]
    simp [hd, ih.2]
  | upair h1 h2 h3 h4 l1 l2 l3 l4 x1 x2 x3 x4 y1 y2 y3 y4 t u a1 a2 a3 a4 b1 b2 b3 b4 c1 c2 c3 c4 _ ih =>
    refine ⟨.uesc h1 h2 h3 h4 x1 x2 x3 x4 _ a1 a2 a3 a4 (.uesc l1 l2 l3 l4 y1 y2 y3 y4 t b1 b2 b3 b4 ih.1), ?_⟩
    rw [unescape]
    have hd : decodeEscape (0x5C :: 0x75 :: h1 :: h2 :: h3 :: h4 :: 0x5C :: 0x75 :: l1 :: l2 :: l3 :: l4 :: t) =
        some ((((x1 * 16 + x2) * 16 + x3) * 16 + x4 - 0xD800) * 1024
          + (((y1 * 16 + y2) * 16 + y3) * 16 + y4 - 0xDC00) + 0x10000, 12) := by
      have hs : isSurrogate (((x1 * 16 + x2) * 16 + x3) * 16 + x4) = true := by unfold isSurrogate; simp; omega
      simp [decodeEscape, getu4, a1, a2, a3, a4, b1, b2, b3, b4, hs, utf16Decode, c1, c2, c3, c4, runeError]
    simp [hd, ih.2]

theorem hex_plain (h : UInt8) (x : Nat) (hx : hexVal4 h = some x) : h ≠ 0x22 ∧ h ≠ 0x5C := by
  have e1 : hexVal4 0x22 = none := by decide
  have e2 : hexVal4 0x5C = none := by decide
  constructor <;> (intro e; subst e; simp_all)

theorem scan_of_chars {raw : Bytes} (h : JChars raw) (rest : Bytes) :
    scanString (raw ++ 0x22 :: rest) = some (raw, rest) := by
  induction h with
  | nil => rw [scanString.eq_def]; simp
  | plain b t hb _ ih =>
    rw [List.cons_append, scan_plain b _ (plain_ne b hb), ih]; rfl
  | multi c t hs hc _ ih =>
    rw [List.append_assoc]
    rw [(plain_prefix _ (encodeRune_ne c hs hc) _).1, ih]; rfl
  | esc e v t _ _ ih =>
    rw [List.cons_append, List.cons_append, scan_pair, ih]; rfl
  | uesc h1 h2 h3 h4 x1 x2 x3 x4 t a1 a2 a3 a4 _ ih =>
    simp only [List.cons_append]
    rw [scan_pair, scan_plain h1 _ (hex_plain h1 x1 a1), scan_plain h2 _ (hex_plain h2 x2 a2),
      scan_plain h3 _ (hex_plain h3 x3 a3), scan_plain h4 _ (hex_plain h4 x4 a4), ih]
    rfl

theorem fetchToken_string (st : LexSt) (raw rest : Bytes) (hw : st.wantSep = 0)
    (h : scanString (raw ++ 0x22 :: rest) = some (raw, rest)) :
    fetchToken st (0x22 :: (raw ++ 0x22 :: rest)) = some (.str raw, st, rest) := by
  rw [fetchToken]
  simp [isWS, hw, h]

theorem writeString_valid (s : Bytes) (hv : utf8Valid s = true) : writeString s = 0x22 :: (escapeLoop s ++ [0x22]) := by
  unfold writeString; simp [hv]

theorem writeString_invalid (s : Bytes) (hv : utf8Valid s = false) :
    writeString s = [0x7B, 0x22, 0x62, 0x61, 0x73, 0x65, 0x36, 0x34, 0x22, 0x3A, 0x22] ++ b64encode s ++ [0x22, 0x7D] := by
  unfold writeString; simp [hv, b64Start_eq, b64End_eq]

theorem fetchToken_quoted {raw u : Bytes} (h : JDec raw u) (st : LexSt) (hw : st.wantSep = 0) (rest : Bytes) :
    fetchToken st (0x22 :: (raw ++ 0x22 :: rest)) = some (.str raw, st, rest) ∧ unescape raw = some u :=
  ⟨fetchToken_string st raw rest hw (scan_of_chars h.sound.1 rest), h.sound.2⟩

theorem quoted_pos (raw rest : Bytes) : (0x22 :: (raw ++ 0x22 :: rest)).length - rest.length = raw.length + 2 := by
  simp only [List.length_cons, List.length_append]; omega

theorem readString_quoted {raw u : Bytes} (h : JDec raw u) (rest : Bytes) :
    readString (0x22 :: (raw ++ 0x22 :: rest)) = .ok u (raw.length + 2) := by
  obtain ⟨h1, h2⟩ := fetchToken_quoted h {} rfl rest
  simp only [readString, h1, h2, quoted_pos]

theorem readString_valid (s rest : Bytes) (hv : utf8Valid s = true) :
    readString (writeString s ++ rest) = .ok s (writeString s).length := by
  rw [writeString_valid s hv]
  have := readString_quoted (escape_denotes s hv) rest
  simp only [List.cons_append, List.append_assoc, List.nil_append, List.length_cons, List.length_append,
    List.length_nil] at this ⊢
  exact this

theorem fetchToken_open (st : LexSt) (t : Bytes) (hw : st.wantSep = 0) :
    fetchToken st (0x7B :: t) = some (.delim 0x7B, { st with firstElement := true }, t) := by
  rw [fetchToken]
  simp [isWS, hw]

theorem fetchToken_colon (st : LexSt) (t : Bytes) (hw : st.wantSep = 0x3A) :
    fetchToken st (0x3A :: t) = fetchToken { st with wantSep := 0 } t := by
  rw [fetchToken]
  simp [hw]

theorem fetchToken_close (st : LexSt) (t : Bytes) (hw : st.wantSep = 0x2C) :
    fetchToken st (0x7D :: t) = some (.delim 0x7D, { st with wantSep := 0 }, t) := by
  rw [fetchToken]
  simp [isWS, hw]

/-- fuel `+ 2`: two turns of the reader's loop, the member and then `}` -/
theorem readB64Object_form (fuel : Nat) (st : LexSt) (hw : st.wantSep = 0) (p v rest : Bytes)
    (hp : ∀ b ∈ p, plainByte b) (hv : b64decode p = some v) :
    readB64Object (fuel + 2) st
      (0x22 :: ([0x62, 0x61, 0x73, 0x65, 0x36, 0x34] ++ 0x22 :: 0x3A :: 0x22 :: (p ++ 0x22 :: 0x7D :: rest))) none = some (v, rest) := by
  have key := JDec.ofPlain [0x62, 0x61, 0x73, 0x65, 0x36, 0x34] (by unfold plainByte; decide)
  rw [readB64Object, (fetchToken_quoted key st hw _).1]
  simp only [ne_eq, not_true_eq_false, if_false, Option.isSome_none, Bool.false_eq_true]
  rw [fetchToken_colon _ _ rfl, (fetchToken_quoted (JDec.ofPlain p hp) _ rfl _).1]
  simp only [(fetchToken_quoted (JDec.ofPlain p hp) st hw rest).2, hv]
  rw [readB64Object, fetchToken_close _ _ rfl]
  rfl

theorem readString_b64_form (s rest : Bytes) :
    readString ([0x7B, 0x22, 0x62, 0x61, 0x73, 0x65, 0x36, 0x34, 0x22, 0x3A, 0x22] ++ b64encode s ++ [0x22, 0x7D] ++ rest)
      = .ok s ((b64encode s).length + 13) := by    -- 13 = the 11 bytes of `{"base64":"` and the 2 of `"}`
  have hobj := fun fuel => readB64Object_form fuel { firstElement := true } rfl (b64encode s) s rest
    (b64encode_spec s).2 (b64encode_spec s).1
  unfold readString
  simp only [List.cons_append, List.append_assoc, List.nil_append] at hobj ⊢
  rw [fetchToken_open {} _ rfl]
  simp only [List.length_cons, hobj, beq_self_eq_true, if_true, List.length_append]
  congr 1
  omega

theorem readString_invalid (s rest : Bytes) (hv : utf8Valid s = false) :
    readString (writeString s ++ rest) = .ok s (writeString s).length := by
  rw [writeString_invalid s hv, readString_b64_form s rest]
  simp +arith only [List.length_append, List.length_cons, List.length_nil]

theorem decodeRune_size_pos (b : UInt8) (t : Bytes) : 1 ≤ (decodeRune (b :: t)).2 := by
  generalize hp : b :: t = p
  fun_cases decodeRune p
  · cases hp
  all_goals simp

theorem take_pending (run : Bytes) (n : Nat) : (if 0 < n then run.take n else []) = run.take n := by
  cases n with
  | zero => rfl
  | succ _ => rfl

theorem take_of_drop_nil {run : Bytes} {n : Nat} (h : [] = run.drop n) : run.take n = run := by
  have := List.take_append_drop n run
  rw [← h] at this; simpa using this

theorem escapeGo_eq_aux (run : Bytes) (n : Nat) (cur : Bytes) (hc : cur = run.drop n) :
    escapeGo run n cur = run.take n ++ escapeLoop cur := by
  fun_induction escapeGo run n cur with
  | case1 run n _ => rw [escapeLoop, take_of_drop_nil hc, List.append_nil]
  | case2 run n hr => rw [escapeLoop, take_of_drop_nil hc]; simpa using hr
  | case3 run n b t hb hs ih =>
    rw [escapeLoop, if_pos hb, if_pos hs, ih (by rw [← List.drop_drop, ← hc]; rfl), List.take_add, ← hc]
    simp
  | case4 run n b t hb hs ih =>
    rw [escapeLoop, if_pos hb, if_neg hs, take_pending, ih rfl]; simp
  | case5 run n b t hb cs h1 ih =>
    rw [escapeLoop, if_neg hb]
    simp only
    rw [if_pos h1, take_pending, ih rfl]; simp
  | case6 run n b t hb cs h1 h2 ih =>
    rw [escapeLoop, if_neg hb]
    simp only
    rw [if_neg h1, if_pos h2, take_pending, ih rfl]; simp [cs]
  | case7 run n b t hb cs h1 h2 ih =>
    rw [escapeLoop, if_neg hb]
    simp only
    rw [if_neg h1, if_neg h2]
    obtain ⟨m, hm⟩ : ∃ m, cs.2 = m + 1 := ⟨cs.2 - 1, by have : 1 ≤ cs.2 := decodeRune_size_pos b t; omega⟩
    rw [hm] at ih ⊢
    rw [ih (by rw [← List.drop_drop, ← hc]; rfl), List.take_add, ← hc]
    simp

theorem escapeGo_eq (s : Bytes) : escapeGo s 0 s = escapeLoop s := by
  have := escapeGo_eq_aux s 0 s rfl
  simpa using this

end TLVerif.Jsonp
