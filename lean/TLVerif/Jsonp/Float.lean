import TLVerif.Jsonp.Reader
/-!
Executable specification of what `JSONWriteFloat32/64` and `Json2ReadFloat32/64` ask of `strconv` for
*finite* values (the standard library itself is not analysed; this model is tied to it differentially):

* `roundToFloat`   : IEEE-754 round-to-nearest-even of an exact non-negative rational to a bit pattern
                     (what `strconv.ParseFloat` computes for decimal input; overflow is its `ErrRange`);
* `parseFloatText` : `strconv.ParseFloat(s, bitSize)` on decimal text (the grammar of `strconv`'s own `readFloat`, atof.go; no hex, no `_`);
* `formatFloat`    : `strconv.AppendFloat(_, v, 'f', -1, bitSize)`: the shortest digit string — nearest to `v`,
                     ties to the even digit — whose `%f` rendering `ParseFloat` maps back to `v`.
                     The search accepts a candidate exactly when the model parser maps its rendering back to the
                     pattern, so "what was written reads back bit-exactly" holds for the model by construction;
                     that Go prints the same digits is what the differential run checks.
All arithmetic is exact (`Nat`/`Int`).
-/
namespace TLVerif.Jsonp

structure FloatFmt where
  ebits : Nat
  mbits : Nat

def fmt32 : FloatFmt := ⟨8, 23⟩
def fmt64 : FloatFmt := ⟨11, 52⟩

/-- the common denominator: a finite pattern with exponent field `e` and mantissa `m` has magnitude
`(m + [e≠0]·2^mbits) · 2^max(e,1) / scale` -/
def FloatFmt.scale (f : FloatFmt) : Nat := 2 ^ (2 ^ (f.ebits - 1) - 1 + f.mbits)

def FloatFmt.expField (f : FloatFmt) (bits : Nat) : Nat := bits / 2 ^ f.mbits % 2 ^ f.ebits
def FloatFmt.mantField (f : FloatFmt) (bits : Nat) : Nat := bits % 2 ^ f.mbits
def FloatFmt.signBit (f : FloatFmt) (bits : Nat) : Bool := bits / 2 ^ (f.mbits + f.ebits) % 2 = 1
/-- the pattern without its sign bit -/
def FloatFmt.absBits (f : FloatFmt) (bits : Nat) : Nat := bits % 2 ^ (f.mbits + f.ebits)

/-- exact magnitude of a finite pattern (sign dropped) as `num / f.scale` -/
def FloatFmt.magNum (f : FloatFmt) (abits : Nat) : Nat :=
  let e := f.expField abits
  let m := f.mantField abits
  if e = 0 then m * 2 else (m + 2 ^ f.mbits) * 2 ^ e

/-- round-to-nearest-even of `num/den` (`den > 0`) to the magnitude bits of the format; `none` on overflow -/
def roundToFloat (f : FloatFmt) (num den : Nat) : Option Nat :=
  if num = 0 then some 0
  else
    let a := num * f.scale
    let t := a / (den * 2 ^ f.mbits)
    let e := max 1 (Nat.log2 t)
    let d := den * 2 ^ e
    let q0 := a / d
    let r := a % d
    let q := if 2 * r > d ∨ (2 * r = d ∧ q0 % 2 = 1) then q0 + 1 else q0
    let bits := (e - 1) * 2 ^ f.mbits + q
    if bits ≥ (2 ^ f.ebits - 1) * 2 ^ f.mbits then none else some bits

/-- `10^e` applied to a fraction -/
def scale10 (num den : Nat) (e : Int) : Nat × Nat :=
  if e ≥ 0 then (num * 10 ^ e.toNat, den) else (num, den * 10 ^ (-e).toNat)

/-- a run of decimal digits: value, count, and the rest -/
def takeDigits : Bytes → Nat → Nat → Nat × Nat × Bytes
  | [], v, n => (v, n, [])
  | c :: t, v, n => if isDigit c then takeDigits t (v * 10 + (c.toNat - 48)) (n + 1) else (v, n, c :: t)

/-- the exponent accumulator of `strconv`'s `readFloat` (atof.go): stops growing at 10000 -/
def takeExpDigits : Bytes → Nat → Nat → Nat × Nat × Bytes
  | [], v, n => (v, n, [])
  | c :: t, v, n =>
    if isDigit c then takeExpDigits t (if v < 10000 then v * 10 + (c.toNat - 48) else v) (n + 1) else (v, n, c :: t)

/-- `strconv`'s `readFloat` + exact value for decimal text: sign, digits `D`, power of ten `p` (value `D·10^p`);
`none` is a syntax error (`ParseFloat` demands the whole string) -/
def parseDecimal (s : Bytes) : Option (Bool × Nat × Int) :=
  let (neg, s1) := match s with
    | c :: t => if c == 0x2B then (false, t) else if c == 0x2D then (true, t) else (false, c :: t)
    | [] => (false, [])
  let (vi, ni, s2) := takeDigits s1 0 0
  let (v, nf, nd, s3) := match s2 with
    | c :: t => if c == 0x2E then (let (v, n, r) := takeDigits t vi 0; (v, n, ni + n, r)) else (vi, 0, ni, c :: t)
    | [] => (vi, 0, ni, [])
  if nd = 0 then none
  else
    match s3 with
    | [] => some (neg, v, - (nf : Int))
    | c :: t =>
      if c == 0x65 || c == 0x45 then
        let (eneg, t1) := match t with
          | c :: t' => if c == 0x2B then (false, t') else if c == 0x2D then (true, t') else (false, c :: t')
          | [] => (false, [])
        let (e, ne, t2) := takeExpDigits t1 0 0
        if ne = 0 then none
        else match t2 with
          | [] => some (neg, v, (if eneg then - (e : Int) else (e : Int)) - (nf : Int))
          | _ => none
      else none

/-- `strconv.ParseFloat(s, bitSize)` on decimal text: the full bit pattern; `none` for syntax and range errors -/
def parseFloatText (f : FloatFmt) (s : Bytes) : Option Nat :=
  match parseDecimal s with
  | none => none
  | some (neg, d, p) =>
    let (num, den) := scale10 d 1 p
    match roundToFloat f num den with
    | none => none
    | some b => some (if neg then b + 2 ^ (f.mbits + f.ebits) else b)

/-- decimal digits of `n`, most significant first (`[]` for 0) -/
def digitsOf (n : Nat) : List Nat :=
  if _h : n = 0 then [] else digitsOf (n / 10) ++ [n % 10]
termination_by n
decreasing_by omega

def stripTrailingZeros (ds : List Nat) : List Nat := (ds.reverse.dropWhile (· == 0)).reverse

/-- `fmtF` with `prec = max(nd - dp, 0)`: digits `ds` (no trailing zeros), value `0.ds × 10^dp` -/
def fmtF (neg : Bool) (ds : List Nat) (dp : Int) : Bytes :=
  let ch (d : Nat) : UInt8 := byteOf (48 + d)
  let intPart : Bytes :=
    if dp > 0 then (ds.take dp.toNat).map ch ++ List.replicate (dp.toNat - ds.length) 0x30 else [0x30]
  let fracPart : Bytes :=
    if (ds.length : Int) > dp then
      0x2E :: (List.replicate (-dp).toNat 0x30 ++ (ds.drop dp.toNat).map ch)
    else []
  (if neg then [0x2D] else []) ++ intPart ++ fracPart

/-- smallest `k` with `num/den < 10^k` (for `0 < num`), searched from the bit lengths -/
def decExponent (num den : Nat) : Int :=
  -- 10^k > num/den.  Start below and walk up; the start is at most a few steps off.
  let est : Int := ((Nat.log2 num : Int) - (Nat.log2 den : Int) - 1) * 30103 / 100000 - 1
  let rec up (fuel : Nat) (k : Int) : Int :=
    match fuel with
    | 0 => k
    | fuel + 1 =>
      let (n, d) := scale10 num den (-k)
      if n < d then k else up fuel (k + 1)
  up 8 est

/-- rendering of the candidate `c · 10^(k-n)` -/
def renderCandidate (neg : Bool) (c : Nat) (k : Int) (n : Nat) : Bytes :=
  let ds := digitsOf c
  fmtF neg (stripTrailingZeros ds) ((ds.length : Int) + (k - n))

/-- the search of `formatFloat` over the number of digits -/
def shortestSearch (f : FloatFmt) (neg : Bool) (bits num den : Nat) (k : Int) : Nat → Nat → Option Bytes
  | 0, _ => none
  | fuel + 1, n =>
    let (sn, sd) := scale10 num den ((n : Int) - k)
    let t := sn / sd
    let r := sn % sd
    let lo := renderCandidate neg t k n
    let hi := renderCandidate neg (t + 1) k n
    let okLo := t ≠ 0 ∧ parseFloatText f lo = some bits
    let okHi := parseFloatText f hi = some bits
    if okLo ∧ okHi then
      some (if 2 * r < sd ∨ (2 * r = sd ∧ t % 2 = 0) then lo else hi)
    else if okLo then some lo
    else if okHi then some hi
    else shortestSearch f neg bits num den k fuel (n + 1)

/-- `strconv.AppendFloat(nil, v, 'f', -1, bitSize)` for a finite pattern; `none` if 20 digits do not suffice
(never observed; 9 resp. 17 are known to suffice) -/
def formatFloat (f : FloatFmt) (bits : Nat) : Option Bytes :=
  let neg := f.signBit bits
  let num := f.magNum (f.absBits bits)
  if num = 0 then some (fmtF neg [] 0)
  else shortestSearch f neg bits num f.scale (decExponent num f.scale) 20 1

/-- `JSONWriteFloat32/64`: the special strings, else `AppendFloat(…,'f',-1,bitSize)` -/
def writeFloat (f : FloatFmt) (bits : Nat) : Option Bytes :=
  match writeFloatSpecial (floatClass f.ebits f.mbits bits) with
  | some t => some t
  | none => formatFloat f bits

def decimalAlphabet (s : Bytes) : Bool :=
  s.all (fun c => isDigit c || c == 0x2E || c == 0x65 || c == 0x45 || c == 0x2B || c == 0x2D)

/-- `Json2ReadFloat32/64` on decimal text: number token or string token, parsed by `ParseFloat`.
`none` = not decimal text the model covers (specials, hex floats, underscores): see `readFloatSpecial`. -/
def readFloat (f : FloatFmt) (data : Bytes) : Option (ROut Nat) :=
  match readNumberText data with
  | none => some .err
  | some (s, pos) =>
    if decimalAlphabet s then
      match parseFloatText f s with
      | none => some .err
      | some b => some (.ok b pos)
    else none

end TLVerif.Jsonp
