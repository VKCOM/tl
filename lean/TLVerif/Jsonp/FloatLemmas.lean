import TLVerif.Jsonp.StringLemmas
/-! Lemmas about the float specials: the three documented strings are JSON strings and are read back by
`Json2ReadFloat32/64` (through `strconv.ParseFloat`'s `special`) as the same class. -/
namespace TLVerif.Jsonp

theorem readFloatSpecial_quoted {raw u : Bytes} (h : JDec raw u) (rest : Bytes) :
    readFloatSpecial (0x22 :: (raw ++ 0x22 :: rest)) = (parseFloatSpecial u).map fun c => (c, raw.length + 2) := by
  obtain ⟨h1, h2⟩ := fetchToken_quoted h {} rfl rest
  simp only [readFloatSpecial, h1, h2, quoted_pos]
  cases parseFloatSpecial u <;> rfl

theorem special_quoted (c : FloatClass) (p rest : Bytes) (hp : ∀ b ∈ p, plainByte b)
    (hw : writeFloatSpecial c = some (0x22 :: (p ++ [0x22]))) (hr : parseFloatSpecial p = some c) :
    ∃ t, writeFloatSpecial c = some t ∧ IsJsonString t ∧ readFloatSpecial (t ++ rest) = some (c, t.length) := by
  have hd := JDec.ofPlain p hp
  refine ⟨_, hw, ⟨p, rfl, hd.sound.1⟩, ?_⟩
  have := readFloatSpecial_quoted hd rest
  simp only [List.cons_append, List.append_assoc, List.nil_append, List.length_cons, List.length_append,
    List.length_nil, hr, Option.map] at this ⊢
  exact this

theorem float_special_roundtrip (c : FloatClass) (hc : c ≠ .finite) (rest : Bytes) :
    ∃ t, writeFloatSpecial c = some t ∧ IsJsonString t ∧ readFloatSpecial (t ++ rest) = some (c, t.length) := by
  cases c with
  | finite => exact absurd rfl hc
  | nan => exact special_quoted _ [0x4E, 0x61, 0x4E] rest (by unfold plainByte; decide) (by decide) (by decide)
  | pinf => exact special_quoted _ [0x2B, 0x49, 0x6E, 0x66] rest (by unfold plainByte; decide) (by decide) (by decide)
  | ninf => exact special_quoted _ [0x2D, 0x49, 0x6E, 0x66] rest (by unfold plainByte; decide) (by decide) (by decide)

theorem floatClass_spec (ebits mbits bits : Nat) :
    let e := bits / 2 ^ mbits % 2 ^ ebits
    let m := bits % 2 ^ mbits
    let neg := bits / 2 ^ (mbits + ebits) % 2 = 1
    (floatClass ebits mbits bits = .finite ↔ e ≠ 2 ^ ebits - 1) ∧
    (floatClass ebits mbits bits = .nan ↔ e = 2 ^ ebits - 1 ∧ m ≠ 0) ∧
    (floatClass ebits mbits bits = .pinf ↔ e = 2 ^ ebits - 1 ∧ m = 0 ∧ ¬ neg) ∧
    (floatClass ebits mbits bits = .ninf ↔ e = 2 ^ ebits - 1 ∧ m = 0 ∧ neg) := by
  fun_cases floatClass ebits mbits bits <;> simp_all +zetaDelta

end TLVerif.Jsonp
