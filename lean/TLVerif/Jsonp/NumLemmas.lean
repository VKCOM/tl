import TLVerif.Jsonp.Reader
import TLVerif.Jsonp.Base64Lemmas
/-! Lemmas about the integer writers and readers: decimal print/parse round trip for all values; a number
without exponent (integers and what the float writer emits alike) is lexed whole. -/
namespace TLVerif.Props.C34
open TLVerif.Jsonp

/-- the condition under which a number token ends where the writer stopped (named in `Props.C34`, whose statements
mention it; it stands here because the lemmas below and in `TokenLemmas` are stated with it) -/
def TokenEnds (rest : Bytes) : Prop := rest = [] ∨ ∃ e r, rest = e :: r ∧ isTokenEnd e = true

end TLVerif.Props.C34

namespace TLVerif.Jsonp
open TLVerif.Props.C34 (TokenEnds)

theorem digitByte_toNat {d : Nat} (h : d < 10) : (byteOf (48 + d)).toNat = 48 + d := by
  rw [byteOf_toNat]; omega

theorem isDigit_byteOf (d : Nat) (h : d < 10) : isDigit (byteOf (48 + d)) = true := by
  simp [isDigit, digitByte_toNat h]; omega

/-- RFC 8259 section 6 restricted to integers: `int = zero / ( digit1-9 *DIGIT )` here, `[ minus ] int` in `IsJsonInt` -/
def IsJsonUInt (bs : Bytes) : Prop :=
  bs = [0x30] ∨ ∃ d ds, bs = d :: ds ∧ 0x31 ≤ d.toNat ∧ d.toNat ≤ 0x39 ∧ ds.all isDigit = true

def IsJsonInt (bs : Bytes) : Prop := IsJsonUInt bs ∨ ∃ body, bs = 0x2D :: body ∧ IsJsonUInt body

theorem formatUint_val (n : Nat) : (formatUint n).foldl (fun acc c => acc * 10 + (c.toNat - 48)) 0 = n := by
  fun_induction formatUint n with
  | case1 n h =>
    simp only [List.foldl_cons, List.foldl_nil, digitByte_toNat h, Nat.zero_mul, Nat.zero_add, Nat.add_sub_cancel_left]
  | case2 n _ ih =>
    rw [List.foldl_append, ih, List.foldl_cons, List.foldl_nil, digitByte_toNat (Nat.mod_lt n (by decide)),
      Nat.add_sub_cancel_left, Nat.div_add_mod' n 10]

theorem formatUint_json (n : Nat) : IsJsonUInt (formatUint n) := by
  fun_induction formatUint n with
  | case1 n h =>
    by_cases h0 : n = 0
    · subst h0; exact Or.inl rfl
    · refine Or.inr ⟨byteOf (48 + n), [], rfl, ?_, ?_, rfl⟩
      · rw [digitByte_toNat h]; omega
      · rw [digitByte_toNat h]; omega
  | case2 n h ih =>
    have hd : isDigit (byteOf (48 + n % 10)) = true := isDigit_byteOf _ (by omega)
    rcases ih with h0 | ⟨d, ds, he, h1, h2, h3⟩
    -- the text of `n / 10` is not `0`: its value is `n / 10`
    · have hv : 0 = n / 10 := by rw [← formatUint_val (n / 10), h0]; rfl
      omega
    · rw [he]
      exact Or.inr ⟨d, ds ++ [byteOf (48 + n % 10)], rfl, h1, h2, by simp [h3, hd]⟩

theorem IsJsonUInt.digits {b : Bytes} (h : IsJsonUInt b) :
    b ≠ [] ∧ b.all isDigit = true ∧ (b = [0x30] ∨ b.head? ≠ some 0x30) := by
  rcases h with rfl | ⟨d, ds, rfl, h1, h2, h3⟩
  · exact ⟨by simp, by decide, .inl rfl⟩
  · refine ⟨by simp, by simp [isDigit, h2, h3]; omega, .inr ?_⟩
    rw [List.head?_cons, ne_eq, Option.some.injEq]
    rintro rfl
    exact absurd h1 (by decide)

theorem parseUint_formatUint_eq (n bits : Nat) :
    parseUint (formatUint n) bits = if n < 2 ^ bits then some n else none := by
  obtain ⟨h3, h1, _⟩ := (formatUint_json n).digits
  have h2 := formatUint_val n
  unfold parseUint
  have : (formatUint n).isEmpty = false := by simpa using h3
  rw [this]
  simp only [Bool.false_eq_true, ↓reduceIte, h1, h2]

theorem parseUint_formatUint (n bits : Nat) (h : n < 2 ^ bits) : parseUint (formatUint n) bits = some n := by
  rw [parseUint_formatUint_eq, if_pos h]

/-- a character that starts a number is none of the characters `FetchToken` looks for before it looks for a number -/
theorem digit_facts (c : UInt8) (h : isDigit c = true ∨ c = 0x2D) :
    c ≠ 0x3A ∧ c ≠ 0x2C ∧ isWS c = false ∧ c ≠ 0x22 ∧ c ≠ 0x7B ∧ c ≠ 0x5B ∧ c ≠ 0x7D ∧ c ≠ 0x5D := by
  have ne (k : UInt8) (hk : (k.toNat < 0x30 ∨ 0x39 < k.toNat) ∧ k ≠ 0x2D) : c ≠ k := by
    rcases h with h | rfl
    · simp only [isDigit, Bool.and_eq_true, decide_eq_true_eq] at h
      exact ne_of_toNat_ne (by omega)
    · exact hk.2.symm
  have ws : isWS c = false := by
    simp [isWS, ne 0x20 (by decide), ne 0x09 (by decide), ne 0x0D (by decide), ne 0x0A (by decide)]
  exact ⟨ne _ (by decide), ne _ (by decide), ws, ne _ (by decide), ne _ (by decide), ne _ (by decide), ne _ (by decide),
    ne _ (by decide)⟩

theorem tokenEnd_facts (e : UInt8) (h : isTokenEnd e = true) :
    isDigit e = false ∧ e ≠ 0x2E ∧ e ≠ 0x65 ∧ e ≠ 0x45 := by
  simp only [isTokenEnd, Bool.or_eq_true, beq_iff_eq] at h
  rcases h with ((((((((h | h) | h) | h) | h) | h) | h) | h) | h) | h <;> (subst h; decide)

theorem scanNumber_digits (ds rest : Bytes) (hd : ds.all isDigit = true) (hasE hasDot : Bool) :
    scanNumber hasE false hasDot (ds ++ rest) =
      (ds ++ (scanNumber hasE false hasDot rest).1, (scanNumber hasE false hasDot rest).2) := by
  induction ds with
  | nil => simp
  | cons d ds ih =>
    simp only [List.all_cons, Bool.and_eq_true] at hd
    simp [scanNumber, hd.1, ih hd.2]

theorem scanNumber_end (rest : Bytes) (hr : TokenEnds rest) (hasE hasDot : Bool) :
    scanNumber hasE false hasDot rest = ([], rest) := by
  rcases hr with rfl | ⟨e, r, rfl, he⟩
  · simp [scanNumber]
  · obtain ⟨h1, h2, h3, h4⟩ := tokenEnd_facts e he
    simp [scanNumber, h1, h2, h3, h4]

theorem readNumberText_token (c : UInt8) (body rest : Bytes) (hc : isDigit c = true ∨ c = 0x2D)
    (hs : scanNumber false false false (body ++ rest) = (body, rest))
    (hr : TokenEnds rest) :
    readNumberText (c :: (body ++ rest)) = some (c :: body, body.length + 1) := by
  unfold readNumberText
  rw [fetchToken]
  obtain ⟨f1, f2, f3, f4, f5, f6, f7, f8⟩ := digit_facts c hc
  have hd : (isDigit c || c == 0x2D) = true := by rcases hc with hc | rfl <;> simp [*]
  simp [f1, f2, f3, f4, f5, f6, f7, f8, hd, hs]
  rcases hr with rfl | ⟨e, r, rfl, he⟩
  · simp
  · simp [he]; omega

theorem parseInt_formatInt (bits : Nat) (v : Int) (hb2 : bits ≤ 64)
    (hlo : -(2 ^ (bits - 1) : Int) ≤ v) (hhi : v < (2 ^ (bits - 1) : Int)) :
    parseInt (formatInt v) bits = some v := by
  have hpow : (2 : Int) ^ (bits - 1) = ((2 ^ (bits - 1) : Nat) : Int) := by simp
  have hle : 2 ^ (bits - 1) < 2 ^ 64 := Nat.pow_lt_pow_right (by omega) (by omega)
  unfold formatInt
  split
  · have hn : (-v).toNat ≤ 2 ^ (bits - 1) := by omega
    unfold parseInt
    simp [parseUint_formatUint (-v).toNat 64 (by omega)]
    omega
  · have hn : v.toNat < 2 ^ (bits - 1) := by omega
    obtain ⟨h3, h1, _⟩ := (formatUint_json v.toNat).digits
    have hp := parseUint_formatUint v.toNat 64 (by omega)
    match hf : formatUint v.toNat, h3, h1 with
    | c :: t, _, h1 =>
      rw [hf] at hp
      simp only [List.all_cons, Bool.and_eq_true] at h1
      have hc : c ≠ 0x2B ∧ c ≠ 0x2D := by
        have := h1.1; simp [isDigit] at this
        exact ⟨ne_of_toNat_ne (by simp; omega), ne_of_toNat_ne (by simp; omega)⟩
      unfold parseInt
      simp [hc.1, hc.2, hp]
      omega

theorem formatInt_json (v : Int) : IsJsonInt (formatInt v) := by
  unfold formatInt
  split
  · exact Or.inr ⟨_, rfl, formatUint_json _⟩
  · exact Or.inl (formatUint_json _)

/-- RFC 8259 section 6 without `exp`: `[ minus ] int [ frac ]` -/
def IsJsonFixed (t : Bytes) : Prop :=
  ∃ sgn ip fp, t = sgn ++ ip ++ fp ∧ (sgn = [] ∨ sgn = [0x2D]) ∧ ip ≠ [] ∧ ip.all isDigit = true
    ∧ (ip = [0x30] ∨ ip.head? ≠ some 0x30)
    ∧ (fp = [] ∨ ∃ fd, fp = 0x2E :: fd ∧ fd ≠ [] ∧ fd.all isDigit = true)

theorem scanNumber_fixed (ds fp rest : Bytes) (hd : ds.all isDigit = true)
    (hfp : fp = [] ∨ ∃ fd, fp = 0x2E :: fd ∧ fd ≠ [] ∧ fd.all isDigit = true)
    (hr : TokenEnds rest) :
    scanNumber false false false (ds ++ fp ++ rest) = (ds ++ fp, rest) := by
  rcases hfp with rfl | ⟨fd, rfl, _, hfd⟩
  · rw [List.append_nil, scanNumber_digits ds rest hd, scanNumber_end rest hr]; simp
  · rw [List.append_assoc, scanNumber_digits ds _ hd]
    have h1 : scanNumber false false false (0x2E :: fd ++ rest) = (0x2E :: fd, rest) := by
      rw [List.cons_append, scanNumber]
      simp [isDigit]
      rw [scanNumber_digits fd rest hfd, scanNumber_end rest hr]; simp
    rw [h1]

theorem IsJsonFixed.bytes {t : Bytes} (h : IsJsonFixed t) : ∀ b ∈ t, isDigit b = true ∨ b = 0x2D ∨ b = 0x2E := by
  obtain ⟨sgn, ip, fp, rfl, hs, _, hip, _, hfp⟩ := h
  intro b hb
  simp only [List.mem_append] at hb
  rcases hb with (hb | hb) | hb
  · rcases hs with rfl | rfl
    · cases hb
    · exact .inr (.inl (List.mem_singleton.mp hb))
  · exact .inl (List.all_eq_true.mp hip b hb)
  · rcases hfp with rfl | ⟨fd, rfl, _, hfd⟩
    · cases hb
    · rcases List.mem_cons.mp hb with rfl | hb
      · exact .inr (.inr rfl)
      · exact .inl (List.all_eq_true.mp hfd b hb)

theorem digit_plain {b : UInt8} (h : isDigit b = true) : plainByte b := by
  simp only [isDigit, Bool.and_eq_true, decide_eq_true_eq] at h
  unfold plainByte
  omega

theorem IsJsonFixed.plain {t : Bytes} (h : IsJsonFixed t) : ∀ b ∈ t, plainByte b := by
  intro b hb
  rcases h.bytes b hb with hd | rfl | rfl
  · exact digit_plain hd
  · unfold plainByte; decide
  · unfold plainByte; decide

theorem readNumberText_fixed (t rest : Bytes) (h : IsJsonFixed t)
    (hr : TokenEnds rest) :
    readNumberText (t ++ rest) = some (t, t.length) := by
  obtain ⟨sgn, ip, fp, rfl, hs, hne, hip, _, hfp⟩ := h
  rcases hs with rfl | rfl
  · match ip, hne, hip with
    | d :: ds, _, hip =>
      simp only [List.all_cons, Bool.and_eq_true] at hip
      have := readNumberText_token d (ds ++ fp) rest (.inl hip.1) (scanNumber_fixed ds fp rest hip.2 hfp hr) hr
      simpa using this
  · have := readNumberText_token 0x2D (ip ++ fp) rest (.inr rfl) (scanNumber_fixed ip fp rest hip hfp hr) hr
    simpa using this

theorem IsJsonInt.fixed {t : Bytes} (h : IsJsonInt t) : IsJsonFixed t := by
  rcases h with hu | ⟨body, rfl, hu⟩
  · exact ⟨[], t, [], by simp, .inl rfl, hu.digits.1, hu.digits.2.1, hu.digits.2.2, .inl rfl⟩
  · exact ⟨[0x2D], body, [], by simp, .inr rfl, hu.digits.1, hu.digits.2.1, hu.digits.2.2, .inl rfl⟩

end TLVerif.Jsonp
