import TLVerif.Jsonp.ByteLemmas
/-! Lemmas about the UTF-8 model: Go's table-driven `utf8.Valid`/`DecodeRune` against the Unicode
definition (a string is well-formed iff it is a concatenation of encodings of scalar values).

The two sides meet in Table 3-7 of the Unicode standard (well-formed byte sequences), stated on byte
values as `Row`: arithmetic relates its rows to `encodeRune` of scalar values, and the `first`/`acceptRanges`
tables make Go's decoder accept exactly its rows. -/
namespace TLVerif.Jsonp

theorem encodeRune1 {c : Nat} (h : c ≤ 0x7F) : encodeRune c = [byteOf c] := by
  unfold encodeRune
  rw [if_pos h]

theorem encodeRune_ascii (b : UInt8) (h : b.toNat < 0x80) : encodeRune b.toNat = [b] := by
  rw [encodeRune1 (by omega), byteOf_eq]

/-! ### Code points as base-64 digits

`encodeRune` cuts a code point into 6-bit digits by `/` and `%`. Here the digits are variables and the code point is
their Horner sum, so that every range argument further down is linear arithmetic. -/

theorem digits2 {c q p : Nat} (h : p < 64) : c = q * 64 + p ↔ c / 64 = q ∧ c % 64 = p :=
  ⟨fun e => e ▸ div_mod_digit h, fun ⟨e1, e2⟩ => e1 ▸ e2 ▸ (Nat.div_add_mod' c 64).symm⟩

theorem exists_digits (c : Nat) : ∃ q p, p < 64 ∧ c = q * 64 + p :=
  ⟨c / 64, c % 64, Nat.mod_lt _ (by decide), (Nat.div_add_mod' c 64).symm⟩

theorem digits3 {c p0 p1 p2 : Nat} (h1 : p1 < 64) (h2 : p2 < 64) :
    c = (p0 * 64 + p1) * 64 + p2 ↔ c / 4096 = p0 ∧ c / 64 % 64 = p1 ∧ c % 64 = p2 := by
  rw [digits2 h2, digits2 h1, Nat.div_div_eq_div_mul, and_assoc]

theorem digits4 {c p0 p1 p2 p3 : Nat} (h1 : p1 < 64) (h2 : p2 < 64) (h3 : p3 < 64) :
    c = ((p0 * 64 + p1) * 64 + p2) * 64 + p3 ↔
      c / 262144 = p0 ∧ c / 4096 % 64 = p1 ∧ c / 64 % 64 = p2 ∧ c % 64 = p3 := by
  rw [digits2 h3, digits3 h1 h2, Nat.div_div_eq_div_mul, Nat.div_div_eq_div_mul, and_assoc, and_assoc]

theorem encodeRune2 {c p0 p1 : Nat} (hc : c = p0 * 64 + p1) (h1 : p1 < 64) (r1 : 0x80 ≤ c) (r2 : c ≤ 0x7FF) :
    encodeRune c = [byteOf (0xC0 + p0), byteOf (0x80 + p1)] := by
  obtain ⟨d0, d1⟩ := (digits2 h1).1 hc
  unfold encodeRune
  rw [if_neg (Nat.not_le.2 r1), if_pos r2, d0, d1]

theorem encodeRune3 {c p0 p1 p2 : Nat} (hc : c = (p0 * 64 + p1) * 64 + p2) (h1 : p1 < 64) (h2 : p2 < 64)
    (r1 : 0x800 ≤ c) (r2 : c < 0xD800 ∨ (0xDFFF < c ∧ c ≤ 0xFFFF)) :
    encodeRune c = [byteOf (0xE0 + p0), byteOf (0x80 + p1), byteOf (0x80 + p2)] := by
  obtain ⟨d0, d1, d2⟩ := (digits3 h1 h2).1 hc
  unfold encodeRune
  rw [if_neg (Nat.not_le.2 (Nat.lt_of_lt_of_le (by decide) r1)), if_neg (Nat.not_le.2 r1), if_pos r2, d0, d1, d2]

theorem encodeRune4 {c p0 p1 p2 p3 : Nat} (hc : c = ((p0 * 64 + p1) * 64 + p2) * 64 + p3) (h1 : p1 < 64) (h2 : p2 < 64)
    (h3 : p3 < 64) (r1 : 0x10000 ≤ c) (r2 : c ≤ 0x10FFFF) :
    encodeRune c = [byteOf (0xF0 + p0), byteOf (0x80 + p1), byteOf (0x80 + p2), byteOf (0x80 + p3)] := by
  obtain ⟨d0, d1, d2, d3⟩ := (digits4 h1 h2 h3).1 hc
  clear hc
  unfold encodeRune maxRune
  rw [if_neg (by omega), if_neg (by omega), if_neg (by omega), if_pos ⟨r1, r2⟩, d0, d1, d2, d3]

/-! ### Table 3-7: the well-formed sequences above ASCII, as lead byte, second byte and further continuation bytes -/

/-- The second column of the table: the range of the second byte, narrowed after four of the lead bytes. -/
def Second (b0 b1 : Nat) : Prop :=
  (0x80 ≤ b1 ∧ (b0 = 0xE0 → 0xA0 ≤ b1) ∧ (b0 = 0xF0 → 0x90 ≤ b1)) ∧
  b1 ≤ 0xBF ∧ (b0 = 0xED → b1 ≤ 0x9F) ∧ (b0 = 0xF4 → b1 ≤ 0x8F)

def Row (b0 b1 : Nat) : List Nat → Prop
  | [] => 0xC2 ≤ b0 ∧ b0 < 0xE0 ∧ Second b0 b1
  | [b2] => 0xE0 ≤ b0 ∧ b0 < 0xF0 ∧ Second b0 b1 ∧ 0x80 ≤ b2 ∧ b2 ≤ 0xBF
  | [b2, b3] => 0xF0 ≤ b0 ∧ b0 < 0xF5 ∧ Second b0 b1 ∧ (0x80 ≤ b2 ∧ b2 ≤ 0xBF) ∧ 0x80 ≤ b3 ∧ b3 ≤ 0xBF
  | _ => False

theorem Row.high {n0 n1 : Nat} {cs : List Nat} (h : Row n0 n1 cs) : ∀ n ∈ n0 :: n1 :: cs, 0x80 ≤ n ∧ n < 256 := by
  match cs, h with
  | [], h | [_], h | [_, _], h => unfold Row Second at h; simp; omega

theorem cont_mod {p : Nat} (h : p < 64) : (0x80 + p) % 64 = p := by omega

/-- The fold is how `decodeRune` puts the payload bits of a row together (`go_row`). -/
theorem row_of_scalar {c : Nat} (hs : isScalar c) (hc : 0x80 ≤ c) :
    ∃ n0 n1 cs, encodeRune c = byteOf n0 :: byteOf n1 :: cs.map byteOf ∧ Row n0 n1 cs ∧
      (n1 :: cs).foldl (fun a b => a * 64 + b % 64) (n0 % 2 ^ (5 - cs.length)) = c := by
  unfold isScalar at hs
  obtain ⟨q, d1, k1, rfl⟩ := exists_digits c
  by_cases h2 : q * 64 + d1 ≤ 0x7FF
  · refine ⟨_, _, [], encodeRune2 rfl k1 hc h2, ?_, ?_⟩
    · unfold Row Second; omega
    · simp only [List.foldl, List.length, cont_mod k1]; omega
  obtain ⟨q, d2, k2, rfl⟩ := exists_digits q
  by_cases h3 : (q * 64 + d2) * 64 + d1 ≤ 0xFFFF
  · refine ⟨_, _, [_], encodeRune3 rfl k2 k1 (by omega) (by omega), ?_, ?_⟩
    · unfold Row Second; omega
    · simp only [List.foldl, List.length, cont_mod k1, cont_mod k2]; omega
  obtain ⟨q, d3, k3, rfl⟩ := exists_digits q
  refine ⟨_, _, [_, _], encodeRune4 rfl k3 k2 k1 (by omega) (by omega), ?_, ?_⟩
  · unfold Row Second; omega
  · simp only [List.foldl, List.length, cont_mod k1, cont_mod k2, cont_mod k3]; omega

theorem row_encode {n0 n1 : Nat} {cs : List Nat} (h : Row n0 n1 cs) :
    ∃ c, isScalar c ∧ encodeRune c = byteOf n0 :: byteOf n1 :: cs.map byteOf := by
  have cont {n : Nat} (h : 0x80 ≤ n) (h' : n ≤ 0xBF) : ∃ p, p < 64 ∧ n = 0x80 + p := ⟨n - 0x80, by omega⟩
  match cs, h with
  | [], h =>
    obtain ⟨_, _, ⟨h1, -, -⟩, h1', -, -⟩ := h
    obtain ⟨p0, rfl⟩ : ∃ p, n0 = 0xC0 + p := ⟨n0 - 0xC0, by omega⟩
    obtain ⟨p1, l1, rfl⟩ := cont h1 h1'
    exact ⟨_, .inl (by omega), encodeRune2 rfl l1 (by omega) (by omega)⟩
  | [n2], h =>
    obtain ⟨_, _, ⟨⟨h1, _, -⟩, h1', _, -⟩, h2, h2'⟩ := h
    obtain ⟨p0, rfl⟩ : ∃ p, n0 = 0xE0 + p := ⟨n0 - 0xE0, by omega⟩
    obtain ⟨p1, l1, rfl⟩ := cont h1 h1'
    obtain ⟨p2, l2, rfl⟩ := cont h2 h2'
    obtain ⟨c, hc⟩ : ∃ c, c = (p0 * 64 + p1) * 64 + p2 := ⟨_, rfl⟩
    have r : 0x800 ≤ c ∧ (c < 0xD800 ∨ 0xDFFF < c ∧ c ≤ 0xFFFF) := by omega
    exact ⟨c, r.2.imp_right fun h => ⟨h.1, by omega⟩, encodeRune3 hc l1 l2 r.1 r.2⟩
  | [n2, n3], h =>
    obtain ⟨_, _, ⟨⟨h1, -, _⟩, h1', -, _⟩, ⟨h2, h2'⟩, h3, h3'⟩ := h
    obtain ⟨p0, rfl⟩ : ∃ p, n0 = 0xF0 + p := ⟨n0 - 0xF0, by omega⟩
    obtain ⟨p1, l1, rfl⟩ := cont h1 h1'
    obtain ⟨p2, l2, rfl⟩ := cont h2 h2'
    obtain ⟨p3, l3, rfl⟩ := cont h3 h3'
    obtain ⟨c, hc⟩ : ∃ c, c = ((p0 * 64 + p1) * 64 + p2) * 64 + p3 := ⟨_, rfl⟩
    have r : 0x10000 ≤ c ∧ c ≤ 0x10FFFF := by omega
    exact ⟨c, .inr ⟨by omega, r.2⟩, encodeRune4 hc l1 l2 l3 r.1 r.2⟩

/-! ### Go's 256-entry table `first`, read by range of the lead byte: the decoder's two lead tests, the size and the
accepted second bytes -/

theorem first_size : ∀ b, b < 0xF5 → 0xC2 ≤ b →
    first b ≠ 0xF1 ∧ ¬ 0xF0 ≤ first b ∧
    (b < 0xE0 → first b % 8 = 2) ∧ (0xE0 ≤ b → b < 0xF0 → first b % 8 = 3) ∧ (0xF0 ≤ b → first b % 8 = 4) := by
  decide +kernel

theorem first_lo : ∀ b, b < 0xF5 → 0xC2 ≤ b →
    (b = 0xE0 → acceptLo (first b / 16) = 0xA0) ∧ (b = 0xF0 → acceptLo (first b / 16) = 0x90) ∧
    (b = 0xE0 ∨ b = 0xF0 ∨ acceptLo (first b / 16) = 0x80) := by
  decide +kernel

theorem first_hi : ∀ b, b < 0xF5 → 0xC2 ≤ b →
    (b = 0xED → acceptHi (first b / 16) = 0x9F) ∧ (b = 0xF4 → acceptHi (first b / 16) = 0x8F) ∧
    (b = 0xED ∨ b = 0xF4 ∨ acceptHi (first b / 16) = 0xBF) := by
  decide +kernel

/-- The decoders test the second byte against `acceptRanges[first[b0] >> 4]`. -/
theorem second_iff {b0 b1 : Nat} (h : 0xC2 ≤ b0) (h' : b0 < 0xF5) :
    Second b0 b1 ↔ acceptLo (first b0 / 16) ≤ b1 ∧ b1 ≤ acceptHi (first b0 / 16) := by
  obtain ⟨l1, l2, l3⟩ := first_lo b0 h' h
  obtain ⟨u1, u2, u3⟩ := first_hi b0 h' h
  exact and_congr (by clear u1 u2 u3; omega) (by clear l1 l2 l3; omega)

theorem go_row {n0 n1 : Nat} {cs : List Nat} (h : Row n0 n1 cs) (t : Bytes) :
    utf8Valid (byteOf n0 :: byteOf n1 :: (cs.map byteOf ++ t)) = utf8Valid t ∧
    decodeRune (byteOf n0 :: byteOf n1 :: (cs.map byteOf ++ t)) =
      ((n1 :: cs).foldl (fun a b => a * 64 + b % 64) (n0 % 2 ^ (5 - cs.length)), cs.length + 2) := by
  have byte {n : Nat} (h : n < 256) : (byteOf n).toNat = n := by rw [byteOf_toNat]; omega
  have cont {n : Nat} (h : 0x80 ≤ n) (h' : n ≤ 0xBF) : (byteOf n).toNat = n ∧ notCont n = false := by
    rw [byteOf_toNat]; simp [notCont]; omega
  have lead (h0 : 0xC2 ≤ n0) (h0' : n0 < 0xF5) (hs : Second n0 n1) :
      (byteOf n0).toNat = n0 ∧ (byteOf n1).toNat = n1 ∧ ¬ n0 < 0x80 ∧ first n0 ≠ 0xF1 ∧ ¬ 0xF0 ≤ first n0 ∧
      ¬ n1 < acceptLo (first n0 / 16) ∧ ¬ acceptHi (first n0 / 16) < n1 := by
    obtain ⟨a1, a2⟩ := (second_iff h0 h0').1 hs
    exact ⟨byte (by omega), byte (by have := hs.2.1; omega), by omega, (first_size n0 h0' h0).1, (first_size n0 h0' h0).2.1,
      Nat.not_lt.2 a1, Nat.not_lt.2 a2⟩
  -- per length: `lead`, `first_size` and `cont` decide every test of the two decoders, and `+arith` matches the fold
  -- from `n0 % 2 ^ (5 - len)` with Go's `p0 % 32 * 64 + …` (`% 16 * 4096 + …`, `% 8 * 262144 + …`)
  match cs, h with
  | [], ⟨h0, h0', hs⟩ =>
    simp +arith [utf8Valid, decodeRune, lead h0 (by omega) hs, (first_size n0 (by omega) h0).2.2.1 h0']
  | [n2], ⟨h0, h0', hs, h2, h2'⟩ =>
    simp +arith [utf8Valid, decodeRune, lead (by omega) (by omega) hs, (first_size n0 (by omega) (by omega)).2.2.2.1 h0 h0',
      cont h2 h2']
  | [n2, n3], ⟨h0, h0', hs, ⟨h2, h2'⟩, h3, h3'⟩ =>
    simp +arith [utf8Valid, decodeRune, lead (by omega) h0' hs, (first_size n0 h0' (by omega)).2.2.2.2 h0, cont h2 h2',
      cont h3 h3']

theorem first_invalid : ∀ b, b < 256 → 0x80 ≤ b → b < 0xC2 ∨ 0xF5 ≤ b → first b = 0xF1 := by decide +kernel

theorem lead_invalid {b : UInt8} (t : Bytes) (h : 0x80 ≤ b.toNat) (h' : b.toNat < 0xC2 ∨ 0xF5 ≤ b.toNat) :
    utf8Valid (b :: t) = false := by
  rw [utf8Valid, if_neg (by omega)]
  simp [first_invalid _ b.toNat_lt h h']

theorem row_inv {b0 : UInt8} {t : Bytes} (h0 : 0xC2 ≤ b0.toNat) (h0' : b0.toNat < 0xF5) (hv : utf8Valid (b0 :: t) = true) :
    ∃ n1 cs rest, t = byteOf n1 :: (cs.map byteOf ++ rest) ∧ Row b0.toNat n1 cs ∧ utf8Valid rest = true := by
  obtain ⟨x1, x2, s2, s3, s4⟩ := first_size _ h0' h0
  have hs {n1 : Nat} := (second_iff (b1 := n1) h0 h0').2
  rw [utf8Valid, if_neg (by omega)] at hv
  obtain _ | ⟨b1, t1⟩ := t
  · simp at hv
  by_cases w2 : b0.toNat < 0xE0
  · simp [s2 w2, x1] at hv
    exact ⟨b1.toNat, [], t1, by simp [byteOf], ⟨h0, w2, hs hv.1⟩, hv.2⟩
  by_cases w3 : b0.toNat < 0xF0
  · obtain _ | ⟨b2, t2⟩ := t1
    · simp [s3 (by omega) w3] at hv
    simp [s3 (by omega) w3, x1, notCont] at hv
    exact ⟨b1.toNat, [b2.toNat], t2, by simp [byteOf], ⟨by omega, w3, hs hv.1, hv.2.1⟩, hv.2.2⟩
  · obtain _ | ⟨b2, _ | ⟨b3, t3⟩⟩ := t1
    · simp [s4 (by omega)] at hv
    · simp [s4 (by omega)] at hv
    simp [s4 (by omega), x1, notCont] at hv
    exact ⟨b1.toNat, [b2.toNat, b3.toNat], t3, by simp [byteOf], ⟨by omega, h0', hs hv.1, hv.2.1, hv.2.2.1⟩, hv.2.2.2⟩

theorem valid_ascii (b : UInt8) (t : Bytes) (h : b.toNat < 0x80) : utf8Valid (b :: t) = utf8Valid t := by
  rw [utf8Valid, if_pos h]

theorem encode_spec (c : Nat) (hs : isScalar c) (t : Bytes) :
    utf8Valid (encodeRune c ++ t) = utf8Valid t ∧ decodeRune (encodeRune c ++ t) = (c, (encodeRune c).length) := by
  by_cases h1 : c ≤ 0x7F
  · have e : (byteOf c).toNat = c := by rw [byteOf_toNat]; omega
    have hf : first c = 0xF0 := by unfold first; rw [if_pos (by omega)]
    rw [encodeRune1 h1, List.cons_append, List.nil_append, valid_ascii _ _ (by omega), decodeRune]
    simp [e, hf]
  · obtain ⟨n0, n1, cs, he, hrow, hval⟩ := row_of_scalar hs (by omega)
    rw [he, List.cons_append, List.cons_append, (go_row hrow t).1, (go_row hrow t).2, hval]
    simp

/-- Unicode's definition of well-formed UTF-8: a concatenation of encoded scalar values -/
inductive WellFormedUtf8 : Bytes → Prop
  | nil : WellFormedUtf8 []
  | cons (c : Nat) (t : Bytes) : isScalar c → WellFormedUtf8 t → WellFormedUtf8 (encodeRune c ++ t)

theorem encodeRune_length_pos (c : Nat) : 1 ≤ (encodeRune c).length := by
  fun_cases encodeRune c
  all_goals simp

theorem wellFormed_of_valid : (s : Bytes) → utf8Valid s = true → WellFormedUtf8 s
  | [], _ => .nil
  | b :: t, hv => by
    by_cases hb : b.toNat < 0x80
    · rw [valid_ascii b t hb] at hv
      have := WellFormedUtf8.cons b.toNat t (by unfold isScalar; omega) (wellFormed_of_valid t hv)
      rwa [encodeRune_ascii b hb] at this
    · by_cases h1 : b.toNat < 0xC2 ∨ 0xF5 ≤ b.toNat
      · rw [lead_invalid t (by omega) h1] at hv; contradiction
      obtain ⟨n1, cs, rest, ht, hrow, hr⟩ := row_inv (by omega) (by omega) hv
      obtain ⟨c, hs, he⟩ := row_encode hrow
      have := WellFormedUtf8.cons c rest hs (wellFormed_of_valid rest hr)
      rw [ht]
      rwa [he, byteOf_eq] at this
termination_by s => s.length
decreasing_by
  · simp
  · simp [ht]; omega

end TLVerif.Jsonp
