import TLVerif.Jsonp.StringLemmas
import TLVerif.Jsonp.FloatFiniteLemmas
/-! The number readers on what the number writers emit. A number without exponent is one token, bare and between quotes;
the integer and float readers are `readNumberText` followed by a parser, so what parses reads back in both forms. -/
namespace TLVerif.Jsonp
open TLVerif.Props.C34 (TokenEnds)

theorem readNumberText_quoted {raw u : Bytes} (h : JDec raw u) (rest : Bytes) :
    readNumberText (0x22 :: (raw ++ 0x22 :: rest)) = some (u, raw.length + 2) := by
  obtain ⟨h1, h2⟩ := fetchToken_quoted h {} rfl rest
  simp only [readNumberText, h1, h2, quoted_pos]

theorem readNumberText_json {t : Bytes} (h : IsJsonFixed t) (rest : Bytes) :
    (TokenEnds rest → readNumberText (t ++ rest) = some (t, t.length)) ∧
    readNumberText (0x22 :: (t ++ 0x22 :: rest)) = some (t, t.length + 2) :=
  ⟨readNumberText_fixed t rest h, readNumberText_quoted (JDec.ofPlain t h.plain) rest⟩

theorem readUint_json {t : Bytes} (h : IsJsonFixed t) {bits v : Nat} (hp : parseUint t bits = some v) (rest : Bytes)
    (hr : TokenEnds rest) :
    readUint bits (t ++ rest) = .ok v t.length ∧ readUint bits (0x22 :: (t ++ 0x22 :: rest)) = .ok v (t.length + 2) := by
  obtain ⟨h1, h2⟩ := readNumberText_json h rest
  simp only [readUint, h1 hr, h2, hp, and_self]

theorem readInt_json {t : Bytes} (h : IsJsonFixed t) {bits : Nat} {v : Int} (hp : parseInt t bits = some v) (rest : Bytes)
    (hr : TokenEnds rest) :
    readInt bits (t ++ rest) = .ok v t.length ∧ readInt bits (0x22 :: (t ++ 0x22 :: rest)) = .ok v (t.length + 2) := by
  obtain ⟨h1, h2⟩ := readNumberText_json h rest
  simp only [readInt, h1 hr, h2, hp, and_self]

theorem readFloat_json {t : Bytes} (h : IsJsonFixed t) {f : FloatFmt} {bits : Nat} (hp : parseFloatText f t = some bits)
    (rest : Bytes) (hr : TokenEnds rest) :
    readFloat f (t ++ rest) = some (.ok bits t.length) ∧
    readFloat f (0x22 :: (t ++ 0x22 :: rest)) = some (.ok bits (t.length + 2)) := by
  obtain ⟨h1, h2⟩ := readNumberText_json h rest
  simp only [readFloat, h1 hr, h2, hp, fixed_alphabet t h, if_true, and_self]

end TLVerif.Jsonp
