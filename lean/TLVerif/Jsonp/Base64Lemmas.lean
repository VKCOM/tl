import TLVerif.Jsonp.Base64
import TLVerif.Jsonp.ByteLemmas
/-! Lemmas about the base64 model: `Decode ∘ Encode = id` for every byte string; the output alphabet. -/
namespace TLVerif.Jsonp

theorem b64val_char : ∀ n, n < 64 → b64val (b64char n) = some n := by decide +kernel

theorem b64val_pad : b64val 61 = none := by decide

theorem dec_quantum (v0 v1 v2 v3 : Nat) (h0 : v0 < 64) (h1 : v1 < 64) (h2 : v2 < 64) (h3 : v3 < 64) (t : Bytes) :
    b64decodeAux (b64char v0 :: b64char v1 :: b64char v2 :: b64char v3 :: t) [] =
      match b64decodeAux t [] with
      | none => none
      | some r => some (byteOf (v0 * 4 + v1 / 16) :: byteOf (v1 % 16 * 16 + v2 / 4) :: byteOf (v2 % 4 * 64 + v3) :: r) := by
  simp [b64decodeAux, b64val_char, h0, h1, h2, h3]
  cases b64decodeAux t [] <;> rfl

theorem dec_pad2 (v0 v1 : Nat) (h0 : v0 < 64) (h1 : v1 < 64) :
    b64decodeAux [b64char v0, b64char v1, 61, 61] [] = some [byteOf (v0 * 4 + v1 / 16)] := by
  simp [b64decodeAux, b64val_char, h0, h1, b64val_pad, isNL, skipNL]

theorem dec_pad1 (v0 v1 v2 : Nat) (h0 : v0 < 64) (h1 : v1 < 64) (h2 : v2 < 64) :
    b64decodeAux [b64char v0, b64char v1, b64char v2, 61] [] =
      some [byteOf (v0 * 4 + v1 / 16), byteOf (v1 % 16 * 16 + v2 / 4)] := by
  simp [b64decodeAux, b64val_char, h0, h1, h2, b64val_pad, isNL, skipNL]

/-- three bytes cut into four sextets and put together again, as `Encode` and `Decode` do it: the two middle sextets
are a low part of one byte above a high part of the next -/
theorem regroup (a b c : Nat) (ha : a < 256) (hb : b < 256) (hc : c < 256) :
    (a / 4 < 64 ∧ a % 4 * 16 + b / 16 < 64 ∧ b % 16 * 4 + c / 64 < 64 ∧ c % 64 < 64) ∧
    a = a / 4 * 4 + (a % 4 * 16 + b / 16) / 16 ∧
    b = (a % 4 * 16 + b / 16) % 16 * 16 + (b % 16 * 4 + c / 64) / 4 ∧
    c = (b % 16 * 4 + c / 64) % 4 * 64 + c % 64 := by
  have hb' : b / 16 < 16 := Nat.div_lt_of_lt_mul hb
  have hc' : c / 64 < 4 := Nat.div_lt_of_lt_mul hc
  rw [(div_mod_digit hb').1, (div_mod_digit hb').2, (div_mod_digit hc').1, (div_mod_digit hc').2, Nat.div_add_mod',
    Nat.div_add_mod', Nat.div_add_mod']
  exact ⟨⟨Nat.div_lt_of_lt_mul ha, by omega, by omega, Nat.mod_lt _ (by decide)⟩, rfl, rfl, rfl⟩

/-- a byte that may stand unescaped in a JSON string and is ASCII -/
def plainByte (c : UInt8) : Prop := 0x20 ≤ c.toNat ∧ c.toNat < 0x80 ∧ c.toNat ≠ 0x22 ∧ c.toNat ≠ 0x5C

/-- indices from 63 on give `/` -/
theorem b64char_plain (n : Nat) : plainByte (b64char n) := by
  unfold plainByte
  by_cases h : n < 63
  · revert n; decide +kernel
  · unfold b64char; rw [if_neg (by omega), if_neg (by omega), if_neg (by omega), if_neg (by omega)]; decide

theorem b64encode_spec (s : Bytes) : b64decode (b64encode s) = some s ∧ ∀ c ∈ b64encode s, plainByte c := by
  have hp : plainByte 61 := by unfold plainByte; decide
  unfold b64decode
  fun_induction b64encode s with
  | case1 => simp [b64decodeAux]
  | case2 a =>
    have r := regroup a.toNat 0 0 a.toNat_lt (by decide) (by decide)
    simp only [Nat.zero_div, Nat.add_zero] at r
    obtain ⟨⟨h0, h1, -, -⟩, ea, -, -⟩ := r
    refine ⟨?_, by simp [b64char_plain, hp]⟩
    rw [dec_pad2 _ _ h0 h1, ← ea, byteOf_eq]
  | case3 a b =>
    have r := regroup a.toNat b.toNat 0 a.toNat_lt b.toNat_lt (by decide)
    simp only [Nat.zero_div, Nat.add_zero] at r
    obtain ⟨⟨h0, h1, h2, -⟩, ea, eb, -⟩ := r
    refine ⟨?_, by simp [b64char_plain, hp]⟩
    rw [dec_pad1 _ _ _ h0 h1 h2, ← ea, ← eb, byteOf_eq, byteOf_eq]
  | case4 a b c t ih =>
    obtain ⟨⟨h0, h1, h2, h3⟩, ea, eb, ec⟩ := regroup a.toNat b.toNat c.toNat a.toNat_lt b.toNat_lt c.toNat_lt
    refine ⟨?_, by simpa [b64char_plain] using ih.2⟩
    rw [dec_quantum _ _ _ _ h0 h1 h2 h3, ih.1]
    simp only
    rw [← ea, ← eb, ← ec, byteOf_eq, byteOf_eq, byteOf_eq]

end TLVerif.Jsonp
