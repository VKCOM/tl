import TLVerif.Jsonp.Writer
/-!
Model of the JSON primitive *readers* that generated code uses: the `Json2ReadString`,
`Json2ReadStringBytes`, `Json2ReadUint32/Int32/Int64/Uint64` and (here for strings that spell a special
value, `readFloatSpecial`; for decimal text see `readFloat` in `Float.lean`) `Json2ReadFloat32/64` helpers of `internal/puregen/gengo/qt_helpers.qtpl`, run on a fresh
`jlexer.Lexer{Data: data}`, together with the parts of `github.com/mailru/easyjson/jlexer` they call
(`FetchToken`, `fetchString`/`findStringLen`, `unescapeStringToken`/`decodeEscape`/`getu4`,
`fetchNumber`, `Delim`, `IsDelim`, `UnsafeFieldName`, `WantColon`, `WantComma`, `Bytes`) and
`strconv.ParseUint/ParseInt` in base 10.

Every lexer error is sticky (`fatalError`), and every helper reports it, so a lexer error is modelled as
`none`/`.err`; the one exception (kept): `Json2ReadString` on a string token does not look at `in.Ok()`,
so a bad escape yields a nil error with an empty value and a failed lexer: outcome `.lexerr`.

`findStringLen` looks backwards from each `"` and counts backslashes; the model scans forwards over
`\x` pairs, which finds the same closing quote.
-/
namespace TLVerif.Jsonp

/-- hex digit value as in `getu4` -/
def hexVal4 (c : UInt8) : Option Nat :=
  let n := c.toNat
  if 48 ≤ n ∧ n ≤ 57 then some (n - 48)
  else if 97 ≤ n ∧ n ≤ 102 then some (n - 97 + 10)
  else if 65 ≤ n ∧ n ≤ 70 then some (n - 65 + 10)
  else none

/-- `getu4`: `none` is `-1` -/
def getu4 (s : Bytes) : Option Nat :=
  match s with
  | 0x5C :: 0x75 :: a :: b :: c :: d :: _ =>
    match hexVal4 a, hexVal4 b, hexVal4 c, hexVal4 d with
    | some x, some y, some z, some w => some (((x * 16 + y) * 16 + z) * 16 + w)
    | _, _, _, _ => none
  | _ => none

/-- `decodeEscape(data)`, `data` starts with the backslash: `(rune, bytesProcessed)` -/
def decodeEscape (data : Bytes) : Option (Nat × Nat) :=
  match data with
  | _ :: c :: _ =>
    if c == 0x22 || c == 0x2F || c == 0x5C then some (c.toNat, 2)
    else if c == 0x62 then some (8, 2)
    else if c == 0x66 then some (12, 2)
    else if c == 0x6E then some (10, 2)
    else if c == 0x72 then some (13, 2)
    else if c == 0x74 then some (9, 2)
    else if c == 0x75 then
      match getu4 data with
      | none => none
      | some rr =>
        if isSurrogate rr then
          let dec := utf16Decode rr (getu4 (data.drop 6))
          if dec ≠ runeError then some (dec, 12) else some (runeError, 6)
        else some (rr, 6)
    else none
  | _ => none

/-- `unescapeStringToken` applied to the raw token bytes -/
def unescape (data : Bytes) : Option Bytes :=
  match data with
  | [] => some []
  | b :: t =>
    if b == 0x5C then
      match decodeEscape (b :: t) with
      | none => none
      | some (r, n) =>
        match unescape (t.drop (n - 1)) with
        | none => none
        | some u => some (encodeRune r ++ u)
    else
      match unescape t with
      | none => none
      | some u => some (b :: u)
termination_by data.length
decreasing_by all_goals (simp only [List.length_cons, List.length_drop]; omega)

/-- `fetchString` after the opening quote: raw token bytes and the input after the closing quote -/
def scanString : Bytes → Option (Bytes × Bytes)
  | [] => none
  | b :: t =>
    if b == 0x22 then some ([], t)
    else if b == 0x5C then
      match t with
      | [] => none
      | c :: t' =>
        match scanString t' with
        | none => none
        | some (raw, rest) => some (b :: c :: raw, rest)
    else
      match scanString t with
      | none => none
      | some (raw, rest) => some (b :: raw, rest)

/-- `isTokenEnd` -/
def isTokenEnd (c : UInt8) : Bool :=
  c == 0x20 || c == 0x09 || c == 0x0D || c == 0x0A || c == 0x5B || c == 0x5D || c == 0x7B || c == 0x7D
    || c == 0x2C || c == 0x3A

def isDigit (c : UInt8) : Bool := 0x30 ≤ c.toNat && c.toNat ≤ 0x39

/-- the loop of `fetchNumber` after the first character: token tail and the rest -/
def scanNumber (hasE afterE hasDot : Bool) : Bytes → Bytes × Bytes
  | [] => ([], [])
  | c :: t =>
    if isDigit c then let r := scanNumber hasE false hasDot t; (c :: r.1, r.2)
    else if c == 0x2E && !hasDot then let r := scanNumber hasE afterE true t; (c :: r.1, r.2)
    else if (c == 0x65 || c == 0x45) && !hasE then let r := scanNumber true true true t; (c :: r.1, r.2)
    else if (c == 0x2B || c == 0x2D) && afterE then let r := scanNumber hasE false hasDot t; (c :: r.1, r.2)
    else ([], c :: t)

inductive Tok where
  | str (raw : Bytes)
  | delim (c : UInt8)
  | num (text : Bytes)
  deriving Repr

/-- the part of the lexer state that outlives a token -/
structure LexSt where
  wantSep : UInt8 := 0
  firstElement : Bool := false

def isWS (c : UInt8) : Bool := c == 0x20 || c == 0x09 || c == 0x0D || c == 0x0A

/-- `FetchToken`: token, new state, remaining input; `none` is a fatal error (including `io.EOF` and the
`null`/`true`/`false` keywords, which no reader modelled here accepts). -/
def fetchToken (st : LexSt) : Bytes → Option (Tok × LexSt × Bytes)
  | [] => none
  | c :: t =>
    if c == 0x3A || c == 0x2C then
      if st.wantSep == c then fetchToken { st with wantSep := 0 } t else none
    else if isWS c then fetchToken st t
    else if c == 0x22 then
      if st.wantSep != 0 then none
      else match scanString t with
        | none => none
        | some (raw, rest) => some (.str raw, st, rest)
    else if c == 0x7B || c == 0x5B then
      if st.wantSep != 0 then none else some (.delim c, { st with firstElement := true }, t)
    else if c == 0x7D || c == 0x5D then
      if !st.firstElement && st.wantSep != 0x2C then none
      else some (.delim c, { st with wantSep := 0 }, t)
    else if isDigit c || c == 0x2D then
      if st.wantSep != 0 then none
      else
        let r := scanNumber false false false t
        match r.2 with
        | [] => some (.num (c :: r.1), st, [])
        | e :: rest => if isTokenEnd e then some (.num (c :: r.1), st, e :: rest) else none
    else none

/-- outcome of a reader: value and number of bytes consumed (`in.GetPos()`) -/
inductive ROut (α : Type) where
  | ok (v : α) (pos : Nat)
  | err                      -- the helper returned an error
  | lexerr                   -- nil error, but the lexer is in the failed state
  deriving Repr

/-- the `for !in.IsDelim('}')` loop of `Json2ReadString` with the final `in.Delim('}')`.
`fuel` bounds the number of members (every iteration consumes input). -/
def readB64Object (fuel : Nat) (st : LexSt) (data : Bytes) (found : Option Bytes) : Option (Bytes × Bytes) :=
  match fuel with
  | 0 => none
  | fuel + 1 =>
    match fetchToken st data with
    | none => none
    | some (.delim c, _, rest) =>
      if c == 0x7D then (match found with | some v => some (v, rest) | none => none) else none
    | some (.num _, _, _) => none
    | some (.str key, st1, rest) =>
      -- key := in.UnsafeFieldName(true) : raw bytes, not unescaped;  in.WantColon()
      if key ≠ [0x62, 0x61, 0x73, 0x65, 0x36, 0x34] then none
      else if found.isSome then none
      else
        match fetchToken { st1 with wantSep := 0x3A, firstElement := false } rest with
        | some (.str raw, st2, rest2) =>
          match unescape raw with
          | none => none
          | some tok =>
            match b64decode tok with
            | none => none
            | some v => readB64Object fuel { st2 with wantSep := 0x2C, firstElement := false } rest2 (some v)
        | _ => none

/-- `Json2ReadString` / `Json2ReadStringBytes` on a fresh lexer over `data` -/
def readString (data : Bytes) : ROut Bytes :=
  match fetchToken {} data with
  | none => .err
  | some (.str raw, _, rest) =>
    match unescape raw with
    | none => .lexerr
    | some s => .ok s (data.length - rest.length)
  | some (.delim c, st, rest) =>
    if c == 0x7B then
      match readB64Object (data.length + 1) st rest none with
      | none => .err
      | some (v, rest2) => .ok v (data.length - rest2.length)
    else .err
  | some (.num _, _, _) => .err

/-- `strconv.ParseUint(s, 10, bits)`: `none` for syntax and range errors -/
def parseUint (s : Bytes) (bits : Nat) : Option Nat :=
  if s.isEmpty then none
  else if s.all isDigit then
    let n := s.foldl (fun acc c => acc * 10 + (c.toNat - 48)) 0
    if n < 2 ^ bits then some n else none
  else none

/-- `strconv.ParseInt(s, 10, bits)` -/
def parseInt (s : Bytes) (bits : Nat) : Option Int :=
  match s with
  | [] => none
  | c :: t =>
    let neg := c == 0x2D
    let body := if c == 0x2B || c == 0x2D then t else c :: t
    match parseUint body 64 with
    | none => none
    | some un =>
      if !neg && un ≥ 2 ^ (bits - 1) then none
      else if neg && un > 2 ^ (bits - 1) then none
      else some (if neg then - (un : Int) else (un : Int))

/-- the number helpers: a string token is unescaped and parsed, a number token is parsed -/
def readNumberText (data : Bytes) : Option (Bytes × Nat) :=
  match fetchToken {} data with
  | some (.str raw, _, rest) =>
    match unescape raw with
    | none => none
    | some s => some (s, data.length - rest.length)
  | some (.num text, _, rest) => some (text, data.length - rest.length)
  | _ => none

/-- `Json2ReadUint32` (`bits = 32`) / `Json2ReadUint64` (`bits = 64`) -/
def readUint (bits : Nat) (data : Bytes) : ROut Nat :=
  match readNumberText data with
  | none => .err
  | some (s, pos) => match parseUint s bits with
    | none => .err
    | some v => .ok v pos

/-- `Json2ReadInt32` / `Json2ReadInt64` -/
def readInt (bits : Nat) (data : Bytes) : ROut Int :=
  match readNumberText data with
  | none => .err
  | some (s, pos) => match parseInt s bits with
    | none => .err
    | some v => .ok v pos

/-- ASCII lower-casing as in `commonPrefixLenIgnoreCase` -/
def lowerAZ (c : UInt8) : UInt8 := if 65 ≤ c.toNat ∧ c.toNat ≤ 90 then c + 32 else c

/-- `commonPrefixLenIgnoreCase(s, prefix)` -/
def commonPrefixLenIgnoreCase : Bytes → Bytes → Nat
  | c :: s, p :: ps => if lowerAZ c == p then 1 + commonPrefixLenIgnoreCase s ps else 0
  | _, _ => 0

/-- `strconv.ParseFloat` on the inputs that `special()` accepts in full: `some` class, `none` for everything
else (finite numbers and syntax errors are `strconv`'s business, not modelled). -/
def parseFloatSpecial (s : Bytes) : Option FloatClass :=
  match s with
  | [] => none
  | c :: t =>
    if c == 0x2B || c == 0x2D || c == 0x69 || c == 0x49 then
      let signed := c == 0x2B || c == 0x2D
      let body := if signed then t else c :: t
      let n0 := commonPrefixLenIgnoreCase body (asciiBytes "infinity")
      let n := if 3 < n0 ∧ n0 < 8 then 3 else n0
      if (n = 3 ∨ n = 8) ∧ body.length = n then some (if c == 0x2D then .ninf else .pinf) else none
    else if c == 0x6E || c == 0x4E then
      if commonPrefixLenIgnoreCase (c :: t) (asciiBytes "nan") = 3 ∧ t.length = 2 then some .nan else none
    else none

/-- `Json2ReadFloat32/64` restricted to string tokens holding a special value -/
def readFloatSpecial (data : Bytes) : Option (FloatClass × Nat) :=
  match fetchToken {} data with
  | some (.str raw, _, rest) =>
    match unescape raw with
    | none => none
    | some s => match parseFloatSpecial s with
      | none => none
      | some c => some (c, data.length - rest.length)
  | _ => none

end TLVerif.Jsonp
