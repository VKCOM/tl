import TLVerif.Jsonp.Utf8
/-! `byteOf` against `UInt8.toNat`, and a digit of a number in a base: used by the UTF-8, base64 and number lemmas alike. -/
namespace TLVerif.Jsonp

theorem byteOf_toNat (n : Nat) : (byteOf n).toNat = n % 256 := by simp [byteOf]

theorem byteOf_eq (b : UInt8) : byteOf b.toNat = b := UInt8.ofNat_toNat

theorem ne_of_toNat_ne {a b : UInt8} (h : a.toNat ≠ b.toNat) : a ≠ b := fun e => h (by rw [e])

theorem div_mod_digit {m q r : Nat} (h : r < m) : (q * m + r) / m = q ∧ (q * m + r) % m = r := by
  have hm : 0 < m := by omega
  exact ⟨by rw [Nat.mul_comm, Nat.mul_add_div hm, Nat.div_eq_of_lt h, Nat.add_zero],
    by rw [Nat.mul_comm, Nat.mul_add_mod, Nat.mod_eq_of_lt h]⟩

end TLVerif.Jsonp
