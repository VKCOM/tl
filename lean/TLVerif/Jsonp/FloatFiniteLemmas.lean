import TLVerif.Jsonp.Float
import TLVerif.Jsonp.NumLemmas
/-! Lemmas about the finite-float model: what the digit search returns is parsed back to the same pattern (by
construction of the search) and is an RFC 8259 number without exponent (so `TokenLemmas.readFloat_json` applies). -/
namespace TLVerif.Jsonp

theorem shortestSearch_some (f : FloatFmt) (neg : Bool) (bits num den : Nat) (k : Int) (fuel n : Nat) (t : Bytes)
    (h : shortestSearch f neg bits num den k fuel n = some t) :
    parseFloatText f t = some bits ∧ ∃ c m, c ≠ 0 ∧ t = renderCandidate neg c k m := by
  fun_induction shortestSearch f neg bits num den k fuel n
  · cases h    -- no fuel
  · -- both candidates read back (`hc : okLo ∧ okHi`, `okLo` = `t ≠ 0 ∧ lo reads back`): the nearer one
    rename_i hc
    cases h
    split
    · exact ⟨hc.1.2, _, _, hc.1.1, rfl⟩
    · exact ⟨hc.2, _, _, Nat.succ_ne_zero _, rfl⟩
  · -- only `lo`
    rename_i hc; injection h with h; subst h; exact ⟨hc.2, _, _, hc.1, rfl⟩
  · -- only `hi`
    rename_i hc; injection h with h; subst h; exact ⟨hc, _, _, Nat.succ_ne_zero _, rfl⟩
  · -- neither: one more digit
    rename_i ih; exact ih h

/-- One candidate that reads back decides a test vector; the kernel need not evaluate the whole search. -/
theorem shortestSearch_isSome (f : FloatFmt) (neg : Bool) (bits num den : Nat) (k : Int) (fuel n j : Nat) (hj : j < fuel)
    (hp : parseFloatText f (renderCandidate neg
        ((scale10 num den ((n + j : Nat) - k)).1 / (scale10 num den ((n + j : Nat) - k)).2) k (n + j)) = some bits)
    (h0 : (scale10 num den ((n + j : Nat) - k)).1 / (scale10 num den ((n + j : Nat) - k)).2 ≠ 0) :
    (shortestSearch f neg bits num den k fuel n).isSome = true := by
  fun_induction shortestSearch f neg bits num den k fuel n generalizing j with
  | case1 => omega
  | case5 fuel n sn sd x t lo hi okLo okHi _ hLo _ ih =>
    -- neither candidate read back (`hLo : ¬okLo`; `x` is the equation of the `let (sn, sd)`), so `j ≠ 0`
    cases j with
    | zero => rw [Nat.add_zero, x] at hp h0; exact absurd ⟨h0, hp⟩ hLo
    | succ j =>
      rw [Nat.add_succ, ← Nat.succ_add] at hp h0
      exact ih j (by omega) hp h0
  | _ => rfl    -- a candidate is returned

theorem zero_pattern (f : FloatFmt) (bits : Nat) (hb : bits < 2 ^ (1 + (f.mbits + f.ebits)))
    (hz : f.magNum (f.absBits bits) = 0) :
    bits = if f.signBit bits then 2 ^ (f.mbits + f.ebits) else 0 := by
  have hM : 0 < 2 ^ f.mbits := Nat.pow_pos (by decide)
  have hP : 0 < 2 ^ (f.mbits + f.ebits) := Nat.pow_pos (by decide)
  -- the magnitude is zero only for exponent field 0 and mantissa 0
  have habs : f.absBits bits = 0 := by
    have hq : f.absBits bits / 2 ^ f.mbits < 2 ^ f.ebits :=
      Nat.div_lt_of_lt_mul (by rw [← Nat.pow_add]; exact Nat.mod_lt _ hP)
    have hdm := Nat.div_add_mod (f.absBits bits) (2 ^ f.mbits)
    unfold FloatFmt.magNum FloatFmt.expField FloatFmt.mantField at hz
    simp only [Nat.mod_eq_of_lt hq] at hz
    split at hz
    · rename_i he; rw [he] at hdm; omega
    · exact absurd hz (Nat.mul_ne_zero (by omega) (Nat.ne_of_gt (Nat.pow_pos (by decide))))
  have hdm := Nat.div_add_mod bits (2 ^ (f.mbits + f.ebits))
  have hs : bits / 2 ^ (f.mbits + f.ebits) < 2 :=
    Nat.div_lt_of_lt_mul (by rwa [Nat.add_comm 1, Nat.pow_succ] at hb)
  unfold FloatFmt.absBits at habs
  unfold FloatFmt.signBit
  rw [habs] at hdm
  generalize bits / 2 ^ (f.mbits + f.ebits) = s at hdm hs ⊢
  obtain rfl | rfl : s = 0 ∨ s = 1 := by omega
  all_goals simp; omega

theorem parse_zero_text (f : FloatFmt) (neg : Bool) :
    parseFloatText f (fmtF neg [] 0) = some (if neg then 2 ^ (f.mbits + f.ebits) else 0) := by
  cases neg <;> simp [fmtF, parseFloatText, parseDecimal, takeDigits, isDigit, scale10, roundToFloat]

theorem fixed_alphabet (t : Bytes) (h : IsJsonFixed t) : decimalAlphabet t = true := by
  unfold decimalAlphabet
  rw [List.all_eq_true]
  intro b hb
  rcases h.bytes b hb with hd | rfl | rfl
  · simp only [hd, Bool.true_or]
  · decide
  · decide

theorem digitsOf_spec (n : Nat) : (∀ d ∈ digitsOf n, d < 10) ∧ (n ≠ 0 → ∃ h tl, digitsOf n = h :: tl ∧ h ≠ 0) := by
  fun_induction digitsOf n with
  | case1 => exact ⟨by simp, fun hn => absurd rfl hn⟩
  | case2 n h ih =>
    obtain ⟨h1, h2⟩ := ih
    constructor
    · intro d hd
      simp only [List.mem_append, List.mem_cons, List.not_mem_nil, or_false] at hd
      rcases hd with hd | rfl
      · exact h1 d hd
      · omega
    · intro _
      by_cases h0 : n / 10 = 0
      · rw [h0, digitsOf]; simp; omega
      · obtain ⟨x, tl, he, hx⟩ := h2 h0
        exact ⟨x, tl ++ [n % 10], by rw [he]; rfl, hx⟩

theorem strip_cons (h : Nat) (tl : List Nat) (hh : h ≠ 0) :
    stripTrailingZeros (h :: tl) = h :: stripTrailingZeros tl := by
  unfold stripTrailingZeros
  rw [List.reverse_cons, List.dropWhile_append]
  split <;> simp_all

theorem strip_subset (l : List Nat) : stripTrailingZeros l ⊆ l := fun _ hx =>
  List.mem_reverse.1 ((List.dropWhile_sublist _).subset (List.mem_reverse.1 hx))

theorem map_ch_digits (l : List Nat) (h : ∀ d ∈ l, d < 10) : (l.map (fun d => byteOf (48 + d))).all isDigit = true :=
  List.all_eq_true.mpr (List.forall_mem_map.mpr fun d hd => isDigit_byteOf d (h d hd))

theorem replicate_zero_digits (n : Nat) : (List.replicate n (0x30 : UInt8)).all isDigit = true :=
  List.all_eq_true.mpr (List.forall_mem_replicate.mpr (.inr rfl))

theorem fmtF_fixed (neg : Bool) (h : Nat) (tl : List Nat) (dp : Int) (hd : ∀ d ∈ h :: tl, d < 10) (hh : h ≠ 0) :
    IsJsonFixed (fmtF neg (h :: tl) dp) := by
  have hh10 : h < 10 := hd h (by simp)
  unfold fmtF
  simp only
  refine ⟨if neg then [0x2D] else [], _, _, rfl, by cases neg <;> simp, ?_, ?_, ?_, ?_⟩
  · split
    · rename_i hpos
      obtain ⟨m, hm⟩ : ∃ m, dp.toNat = m + 1 := ⟨dp.toNat - 1, by omega⟩
      rw [hm]; simp
    · simp
  · split
    · rw [List.all_append, map_ch_digits _ (fun d hd' => hd d (List.mem_of_mem_take hd')), replicate_zero_digits]; rfl
    · decide
  · split
    · right
      rename_i hpos
      obtain ⟨m, hm⟩ : ∃ m, dp.toNat = m + 1 := ⟨dp.toNat - 1, by omega⟩
      rw [hm]
      simp only [List.take_succ_cons, List.map_cons, List.cons_append, List.head?_cons, ne_eq, Option.some.injEq]
      exact ne_of_toNat_ne (by rw [digitByte_toNat hh10]; simp; omega)
    · left; rfl
  · split
    · right
      rename_i hlen
      refine ⟨_, rfl, ?_, ?_⟩
      · intro he
        have hl := congrArg List.length he
        simp only [List.length_append, List.length_replicate, List.length_map, List.length_drop, List.length_cons,
          List.length_nil] at hl
        simp only [List.length_cons] at hlen
        omega
      · rw [List.all_append, replicate_zero_digits, map_ch_digits _ (fun d hd' => hd d (List.mem_of_mem_drop hd'))]; rfl
    · left; rfl

theorem renderCandidate_fixed (neg : Bool) (c : Nat) (k : Int) (n : Nat) (hc : c ≠ 0) :
    IsJsonFixed (renderCandidate neg c k n) := by
  obtain ⟨h1, h2⟩ := digitsOf_spec c
  obtain ⟨h, tl, he, hh⟩ := h2 hc
  unfold renderCandidate
  simp only
  rw [he] at h1 ⊢
  rw [strip_cons h tl hh]
  exact fmtF_fixed _ _ _ _ (fun d hd => h1 d (List.cons_subset_cons h (strip_subset tl) hd)) hh

theorem formatFloat_spec (f : FloatFmt) (bits : Nat) (t : Bytes) (h : formatFloat f bits = some t) :
    IsJsonFixed t ∧ (bits < 2 ^ (1 + (f.mbits + f.ebits)) → parseFloatText f t = some bits) := by
  unfold formatFloat at h
  simp only at h
  split at h
  · rename_i hz
    injection h with h; subst h
    refine ⟨⟨if f.signBit bits then [0x2D] else [], [0x30], [], ?_, by cases f.signBit bits <;> simp, by simp, by decide,
      Or.inl rfl, Or.inl rfl⟩, fun hb => ?_⟩
    · cases f.signBit bits <;> simp [fmtF]
    · rw [parse_zero_text]
      exact congrArg some (zero_pattern f bits hb hz).symm
  · obtain ⟨hp, c, m, hc, rfl⟩ := shortestSearch_some _ _ _ _ _ _ _ _ _ h
    exact ⟨renderCandidate_fixed _ _ _ _ hc, fun _ => hp⟩

end TLVerif.Jsonp
