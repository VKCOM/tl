import TLVerif.Tool.Deconflict
import Std.Data.String.ToNat
/-! `findFree` answers with the first candidate not in use. Candidates with different counters are different strings,
so of `len(used)+1` of them one is free: the fuel suffices (pigeonhole). -/
namespace TLVerif.Tool

theorem candidate_zero_ne_succ (s : String) (j : Nat) : candidate s 0 ≠ candidate s (j + 1) := fun h =>
  Nat.repr_ne_empty (n := j)
    ((String.append_right_inj s).mp (show s ++ "" = s ++ toString j by rwa [String.append_empty])).symm

theorem candidate_injective (s : String) : ∀ {i j : Nat}, candidate s i = candidate s j → i = j
  | 0, 0, _ => rfl
  | 0, j + 1, h => absurd h (candidate_zero_ne_succ s j)
  | i + 1, 0, h => absurd h.symm (candidate_zero_ne_succ s i)
  | i + 1, j + 1, h => by rw [Nat.repr_inj.mp ((String.append_right_inj s).mp h)]

theorem findFree_spec (used : List String) (s : String) (fuel k : Nat) :
    (∀ r, findFree used s k fuel = some r →
      ∃ j, j < fuel ∧ r = candidate s (k + j) ∧ r ∉ used ∧ ∀ i, i < j → candidate s (k + i) ∈ used) ∧
    (findFree used s k fuel = none → ∀ j, j < fuel → candidate s (k + j) ∈ used) := by
  fun_induction findFree used s k fuel with
  | case1 k => exact ⟨nofun, fun _ j hj => absurd hj (Nat.not_lt_zero j)⟩
  | case2 k f hc ih =>
    have shift : ∀ j, k + 1 + j = k + (j + 1) := fun j => Nat.add_right_comm k 1 j
    obtain ⟨isome, inone⟩ := ih
    refine ⟨fun r hr => ?_, fun hn j hj => ?_⟩
    · obtain ⟨j, hj, hr, hn, hall⟩ := isome r hr
      refine ⟨j + 1, Nat.succ_lt_succ hj, shift j ▸ hr, hn, fun i hi => ?_⟩
      cases i with
      | zero => exact hc
      | succ i => exact shift i ▸ hall i (Nat.lt_of_succ_lt_succ hi)
    · cases j with
      | zero => exact hc
      | succ j => exact shift j ▸ inone hn j (Nat.lt_of_succ_lt_succ hj)
  | case3 k f hc =>
    exact ⟨fun r hr => Option.some.inj hr ▸ ⟨0, Nat.zero_lt_succ f, rfl, hc, fun i hi => absurd hi (Nat.not_lt_zero i)⟩,
      nofun⟩

theorem findFree_terminates (used : List String) (s : String) :
    ∃ r, findFree used s 0 (used.length + 1) = some r := by
  cases h : findFree used s 0 (used.length + 1) with
  | some r => exact ⟨r, rfl⟩
  | none =>
    have hall := (findFree_spec used s (used.length + 1) 0).2 h
    have hnd : ((List.range (used.length + 1)).map (candidate s)).Nodup :=
      List.pairwise_map.mpr (List.nodup_range.imp fun hab e => hab (candidate_injective s e))
    have := hnd.length_le_of_subset fun x hx => by
      obtain ⟨j, hj, rfl⟩ := List.mem_map.mp hx
      simpa using hall j (List.mem_range.mp hj)
    simp only [List.length_map, List.length_range] at this
    omega

theorem deconflictName_spec (d : Deconflicter) (s : String) :
    ∃ j, d.deconflictName s = (some (candidate s j), ⟨candidate s j :: d.usedNames⟩) ∧
      candidate s j ∉ d.usedNames ∧ ∀ i, i < j → candidate s i ∈ d.usedNames := by
  obtain ⟨r, hr⟩ := findFree_terminates d.usedNames s
  obtain ⟨j, _, rfl, hn, hall⟩ := (findFree_spec d.usedNames s _ 0).1 r hr
  rw [Nat.zero_add] at hr hn
  exact ⟨j, by rw [Deconflicter.deconflictName, hr], hn, fun i hi => Nat.zero_add i ▸ hall i hi⟩

end TLVerif.Tool
