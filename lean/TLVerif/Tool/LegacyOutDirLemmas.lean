import TLVerif.Tool.LegacyOutDir
import TLVerif.Tool.OutDirLemmas
/-! `legacyWrite` is `write`'s phases run on the code map with the marker file added and `keep` exempting files from
deletion, behind one more guard; its outcomes are read off `OutDirLemmas`. -/
namespace TLVerif.Tool

theorem legacyWrite_refused {fmt : Path → String → String} {keep : Path → Bool} {fs : FS} {code : List (Path × String)}
    {marker mc : String} (h : refuseCond fs marker) :
    legacyWrite fmt keep fs code marker mc =
      { outcome := .refused, fs := fs, written := [], deleted := [], notTouched := 0 } := by
  unfold legacyWrite; simp only []
  rw [if_pos ((refuse_guard_iff fs marker).mpr h)]

theorem legacyWrite_twice {fmt : Path → String → String} {keep : Path → Bool} {fs : FS} {code : List (Path × String)}
    {marker mc : String} (h : ¬ refuseCond fs marker) (hm : marker ∈ keys code) :
    legacyWrite fmt keep fs code marker mc =
      { outcome := .twice, fs := fs, written := [], deleted := [], notTouched := 0 } := by
  unfold legacyWrite; simp only []
  rw [if_neg (fun g => h ((refuse_guard_iff fs marker).mp g)), if_pos (List.contains_iff_mem.mpr hm)]

theorem legacyWrite_ok {fmt : Path → String → String} {keep : Path → Bool} {fs : FS} {code : List (Path × String)}
    {marker mc : String} (h : ¬ refuseCond fs marker) (hm : marker ∉ keys code) :
    legacyWrite fmt keep fs code marker mc =
      { outcome := .ok, fs := fsAfter fmt keep fs (withMarker code marker mc),
        written := (afterFiles fmt fs (withMarker code marker mc)).written,
        deleted := stale fmt keep fs (withMarker code marker mc),
        notTouched := (afterFiles fmt fs (withMarker code marker mc)).notTouched } := by
  unfold legacyWrite; simp only []
  rw [if_neg (fun g => h ((refuse_guard_iff fs marker).mp g)),
    if_neg (fun g => hm (List.contains_iff_mem.mp g))]
  rfl

theorem legacy_outcome_cases (fmt : Path → String → String) (keep : Path → Bool) (fs : FS) (code : List (Path × String))
    (marker mc : String) :
    ((legacyWrite fmt keep fs code marker mc).outcome = .refused ↔ refuseCond fs marker) ∧
    ((legacyWrite fmt keep fs code marker mc).outcome = .twice ↔ ¬ refuseCond fs marker ∧ marker ∈ keys code) ∧
    ((legacyWrite fmt keep fs code marker mc).outcome = .ok ↔ ¬ refuseCond fs marker ∧ marker ∉ keys code) := by
  by_cases h : refuseCond fs marker
  · rw [legacyWrite_refused h]; simp [h]
  · by_cases hm : marker ∈ keys code
    · rw [legacyWrite_twice h hm]; simp [h, hm]
    · rw [legacyWrite_ok h hm]; simp [h, hm]

theorem keys_withMarker (code : List (Path × String)) (marker mc : String) :
    keys (withMarker code marker mc) = keys code ++ [marker] := by
  simp [keys, withMarker]

theorem nodup_withMarker (code : List (Path × String)) (marker mc : String)
    (hnd : (keys code).Nodup) (hm : marker ∉ keys code) : (keys (withMarker code marker mc)).Nodup := by
  rw [keys_withMarker]
  exact List.perm_append_comm.nodup_iff.mpr (List.nodup_cons.mpr ⟨hm, hnd⟩)

theorem legacy_ok_lookup (fmt : Path → String → String) (keep : Path → Bool) (fs : FS) (code : List (Path × String))
    (marker mc : String) (hnd : (keys code).Nodup) (hc : ¬ refuseCond fs marker) (hm : marker ∉ keys code) (p : Path) :
    (legacyWrite fmt keep fs code marker mc).fs.lookup p =
      match alookup p (withMarker code marker mc) with
      | some c => some (fmt p c)
      | none => if p ∈ relativeFiles fs ∧ keep p = false then none else fs.lookup p := by
  rw [legacyWrite_ok hc hm]
  exact fsAfter_lookup fmt keep fs _ (nodup_withMarker code marker mc hnd hm) p

theorem legacy_ok_written (fmt : Path → String → String) (keep : Path → Bool) (fs : FS) (code : List (Path × String))
    (marker mc : String) (hnd : (keys code).Nodup) (hc : ¬ refuseCond fs marker) (hm : marker ∉ keys code) (p : Path) :
    p ∈ (legacyWrite fmt keep fs code marker mc).written ↔
      ∃ c, alookup p (withMarker code marker mc) = some c ∧ ¬ (p ∈ relativeFiles fs ∧ fs.lookup p = some (fmt p c)) := by
  rw [legacyWrite_ok hc hm]
  exact afterFiles_written fmt fs _ (nodup_withMarker code marker mc hnd hm) p

end TLVerif.Tool
