import TLVerif.Tool.OutDir
/-! `write` in closed form. The per-file fold is followed field by field of its state (`stepFile_spec`, `fold_spec`);
deletion then removes the stale files and pruning touches no file, so `fsAfter_lookup` gives every lookup after a run. -/
namespace TLVerif.Tool

theorem alookup_eq (p : Path) (l : List (Path × String)) :
    alookup p l = (l.find? (fun kv => kv.1 = p)).map (·.2) := by
  induction l with
  | nil => rfl
  | cons kv t ih => by_cases h : kv.1 = p <;> simp [alookup, h, ih]

theorem alookup_filter_ne (p q : Path) (l : List (Path × String)) :
    alookup p (l.filter (fun kv => kv.1 ≠ q)) = if p = q then none else alookup p l := by
  rw [alookup_eq, alookup_eq, List.find?_filter]
  split
  · next e => rw [List.find?_eq_none.mpr fun kv _ => by simp [e]]; rfl
  · next e =>
    congr 2; funext kv
    by_cases h : kv.1 = p <;> simp [h, e]

theorem alookup_none_iff (p : Path) (l : List (Path × String)) : alookup p l = none ↔ p ∉ keys l := by
  rw [alookup_eq, Option.map_eq_none_iff, List.find?_eq_none]
  simp only [keys, decide_eq_true_eq, List.mem_map, not_exists, not_and, Prod.forall]

theorem alookup_isSome_iff (p : Path) (l : List (Path × String)) : (alookup p l).isSome = true ↔ p ∈ keys l := by
  rw [Option.isSome_iff_ne_none, ne_eq, alookup_none_iff, Classical.not_not]

theorem alookup_eq_some_iff {p : Path} {c : String} {l : List (Path × String)} (hnd : (keys l).Nodup) :
    alookup p l = some c ↔ (p, c) ∈ l := by
  induction l with
  | nil => simp [alookup]
  | cons kv t ih =>
    rcases kv with ⟨k, v⟩
    simp only [keys, List.map_cons, List.nodup_cons] at hnd
    have hkt : (k, c) ∉ t := fun e => hnd.1 (List.mem_map_of_mem (f := (·.1)) e)
    rw [alookup, List.mem_cons, Prod.mk.injEq]
    split
    · next e => subst e; simp only [Option.some.injEq, true_and, hkt, or_false, eq_comm]
    · next e => rw [ih hnd.2]; exact ⟨.inr, fun h => h.resolve_left fun h => e h.1.symm⟩

namespace FS
theorem lookup_writeFile (fs : FS) (p q : Path) (c : String) :
    (fs.writeFile q c).lookup p = if p = q then some c else fs.lookup p := by
  simp only [lookup, writeFile, alookup]
  by_cases h : q = p
  · simp [h]
  · rw [if_neg h, alookup_filter_ne, if_neg (fun e => h e.symm), if_neg (fun e => h e.symm)]

theorem lookup_removeFile (fs : FS) (p q : Path) :
    (fs.removeFile q).lookup p = if p = q then none else fs.lookup p := by
  simp only [lookup, removeFile]; exact alookup_filter_ne p q fs.files

theorem lookup_mkdirAll (fs : FS) (n p : Path) : (fs.mkdirAll n).lookup p = fs.lookup p := rfl
end FS

theorem mem_relativeFiles (fs : FS) (p : Path) :
    p ∈ relativeFiles fs ↔ isOutside p = false ∧ (fs.lookup p).isSome = true := by
  simp only [relativeFiles, List.mem_filter, FS.lookup, alookup_isSome_iff, keys, Bool.not_eq_true', and_comm]

theorem stepFile_spec (fmt : Path → String → String) (st : WState) (item : Path × String) :
    (∀ p, (stepFile fmt st item).fs.lookup p = if p = item.1 then some (fmt item.1 item.2) else st.fs.lookup p) ∧
    (stepFile fmt st item).rel = st.rel.filter (· ≠ item.1) ∧
    (∀ p, p ∈ (stepFile fmt st item).written ↔
      p ∈ st.written ∨ (p = item.1 ∧ ¬ (item.1 ∈ st.rel ∧ st.fs.lookup item.1 = some (fmt item.1 item.2)))) ∧
    (stepFile fmt st item).written.Sublist (item.1 :: st.written) ∧
    (stepFile fmt st item).notTouched + (stepFile fmt st item).written.length =
      st.notTouched + st.written.length + 1 := by
  have hl : ∀ q, (if isOutside item.1 then st.fs else st.fs.mkdirAll item.1).lookup q = st.fs.lookup q :=
    fun q => by split <;> rfl
  have hc : (decide (item.1 ∈ st.rel) &&
      ((if isOutside item.1 then st.fs else st.fs.mkdirAll item.1).lookup item.1 == some (fmt item.1 item.2))) = true ↔
      (item.1 ∈ st.rel ∧ st.fs.lookup item.1 = some (fmt item.1 item.2)) := by
    simp only [Bool.and_eq_true, beq_iff_eq, decide_eq_true_eq, hl]
  by_cases h : item.1 ∈ st.rel ∧ st.fs.lookup item.1 = some (fmt item.1 item.2)
  · rw [show stepFile fmt st item = _ from if_pos (hc.mpr h)]
    refine ⟨fun p => ?_, rfl, fun p => ?_, List.sublist_cons_self _ _, Nat.add_right_comm _ 1 _⟩
    · show (if isOutside item.1 then st.fs else st.fs.mkdirAll item.1).lookup p = _
      rw [hl]
      split
      · next hp => rw [hp, h.2]
      · rfl
    · simp only [h, and_self, not_true_eq_false, and_false, or_false]
  · rw [show stepFile fmt st item = _ from if_neg fun g => h (hc.mp g)]
    refine ⟨fun p => ?_, rfl, fun p => ?_, List.Sublist.refl _, rfl⟩
    · show ((if isOutside item.1 then st.fs else st.fs.mkdirAll item.1).writeFile _ _).lookup p = _
      rw [FS.lookup_writeFile, hl]
    · simp only [List.mem_cons, h, not_false_eq_true, and_true, or_comm]

structure FoldSpec (fmt : Path → String → String) (code : List (Path × String)) (st : WState) : Prop where
  rel : ∀ q, q ∈ (code.foldl (stepFile fmt) st).rel ↔ q ∈ st.rel ∧ q ∉ keys code
  sublist : (code.foldl (stepFile fmt) st).written.Sublist ((keys code).reverse ++ st.written)
  count : (code.foldl (stepFile fmt) st).notTouched + (code.foldl (stepFile fmt) st).written.length =
      st.notTouched + st.written.length + code.length
  lookup_written : (keys code).Nodup → ∀ p,
      (code.foldl (stepFile fmt) st).fs.lookup p =
        (match alookup p code with
         | some c => some (fmt p c)
         | none => st.fs.lookup p) ∧
      (p ∈ (code.foldl (stepFile fmt) st).written ↔
        p ∈ st.written ∨ ∃ c, alookup p code = some c ∧ ¬ (p ∈ st.rel ∧ st.fs.lookup p = some (fmt p c)))

theorem fold_spec (fmt : Path → String → String) : ∀ (code : List (Path × String)) (st : WState), FoldSpec fmt code st
  | [], st => ⟨fun q => by simp [keys], List.Sublist.refl _, rfl, fun _ p => by simp [alookup]⟩
  | (k, c) :: rest, st => by
    obtain ⟨sl, sr, sw, ss, sc⟩ := stepFile_spec fmt st (k, c)
    obtain ⟨ir, is, ic, ih⟩ := fold_spec fmt rest (stepFile fmt st (k, c))
    refine ⟨fun q => ?_, ?_, ?_, fun hnd p => ?_⟩ <;> rw [List.foldl_cons]
    · rw [ir, sr]
      simp only [keys, List.map_cons, List.mem_cons, not_or, List.mem_filter, ne_eq, decide_not,
        Bool.not_eq_true', decide_eq_false_iff_not, and_assoc]
    · rw [keys, List.map_cons, List.reverse_cons, List.append_assoc]
      exact is.trans (ss.append_left _)
    · rw [ic, sc, List.length_cons, Nat.add_assoc, Nat.add_comm 1]
    · simp only [keys, List.map_cons, List.nodup_cons] at hnd
      obtain ⟨il, iw⟩ := ih hnd.2 p
      rw [il, iw, sl, sw, sr]
      simp only [alookup]
      by_cases hk : k = p
      · subst hk
        have hn : alookup k rest = none := (alookup_none_iff k rest).mpr hnd.1
        simp only [hn, if_true, Option.some.injEq, true_and, reduceCtorEq, false_and, exists_false, or_false,
          exists_eq_left']
      · have hpk : ¬ p = k := fun e => hk e.symm
        simp only [hk, hpk, if_false, false_and, or_false, List.mem_filter, ne_eq, not_false_eq_true, decide_true,
          and_true]

theorem fold_remove_lookup (L : List Path) : ∀ (fs : FS) (p : Path),
    (L.foldl (fun fs q => fs.removeFile q) fs).lookup p = if p ∈ L then none else fs.lookup p := by
  induction L with
  | nil => intro fs p; simp
  | cons q t ih =>
    intro fs p
    rw [List.foldl_cons, ih, FS.lookup_removeFile]
    by_cases h1 : p ∈ t
    · simp [h1]
    · by_cases h2 : p = q
      · simp [h2]
      · simp [h1, h2]

theorem pruneDirs_cons (fs : FS) (d : Path) (t : List Path) :
    pruneDirs fs (d :: t) =
      pruneDirs (if hasEntryBeneath fs d then fs else { fs with dirs := fs.dirs.filter (· ≠ d) }) t := rfl

theorem pruneDirs_files (L : List Path) : ∀ (fs : FS), (pruneDirs fs L).files = fs.files := by
  induction L with
  | nil => intro fs; rfl
  | cons d t ih => intro fs; rw [pruneDirs_cons, ih]; split <;> rfl

theorem pruneDirs_lookup (L : List Path) (fs : FS) (p : Path) : (pruneDirs fs L).lookup p = fs.lookup p := by
  simp only [FS.lookup, pruneDirs_files]

/-! ### the phases after the guards, shared by `write` and `legacyWrite`

Per-file phase, deletion of the stale files that `keep` does not exempt (`write` exempts none), pruning. -/

def refuseCond (fs : FS) (marker : Path) : Prop := relativeFiles fs ≠ [] ∧ marker ∉ relativeFiles fs

theorem refuse_guard_iff (fs : FS) (marker : Path) :
    ((!(relativeFiles fs).isEmpty && !((relativeFiles fs).contains marker)) = true) ↔ refuseCond fs marker := by
  unfold refuseCond
  simp only [Bool.and_eq_true, Bool.not_eq_true', List.isEmpty_eq_false_iff, ne_eq, List.contains_eq_mem,
    decide_eq_false_iff_not]

def afterFiles (fmt : Path → String → String) (fs : FS) (code : List (Path × String)) : WState :=
  code.foldl (stepFile fmt) { fs := fs, rel := relativeFiles fs, written := [], notTouched := 0 }

def stale (fmt : Path → String → String) (keep : Path → Bool) (fs : FS) (code : List (Path × String)) : List Path :=
  (afterFiles fmt fs code).rel.filter (fun p => !keep p)

def fsAfter (fmt : Path → String → String) (keep : Path → Bool) (fs : FS) (code : List (Path × String)) : FS :=
  pruneDirs ((stale fmt keep fs code).foldl (fun fs p => fs.removeFile p) (afterFiles fmt fs code).fs)
    (collectedDirs fs).reverse

section
variable (fmt : Path → String → String) (keep : Path → Bool) (fs : FS) (code : List (Path × String))

theorem mem_stale (p : Path) :
    p ∈ stale fmt keep fs code ↔ p ∈ relativeFiles fs ∧ p ∉ keys code ∧ keep p = false := by
  simp only [stale, afterFiles, List.mem_filter, Bool.not_eq_true', (fold_spec fmt code _).rel, and_assoc]

theorem fsAfter_lookup (hnd : (keys code).Nodup) (p : Path) :
    (fsAfter fmt keep fs code).lookup p =
      match alookup p code with
      | some c => some (fmt p c)
      | none => if p ∈ relativeFiles fs ∧ keep p = false then none else fs.lookup p := by
  simp only [fsAfter, pruneDirs_lookup, fold_remove_lookup, mem_stale]
  rw [afterFiles, ((fold_spec fmt code _).lookup_written hnd p).1]
  cases ha : alookup p code with
  | some c => exact if_neg fun h => h.2.1 ((alookup_isSome_iff p code).mp (by rw [ha]; rfl))
  | none => simp only [(alookup_none_iff p code).mp ha, not_false_eq_true, true_and]

theorem fsAfter_exact (hnd : (keys code).Nodup) (p : Path) (hp : isOutside p = false) (hk : keep p = false) :
    (fsAfter fmt keep fs code).lookup p = (alookup p code).map (fmt p) := by
  rw [fsAfter_lookup fmt keep fs code hnd p]
  cases alookup p code with
  | some c => rfl
  | none =>
    have hr := mem_relativeFiles fs p
    cases hl : fs.lookup p with
    | none => simp only [Option.map_none, ite_self]
    | some v => exact if_pos ⟨hr.mpr ⟨hp, by rw [hl]; rfl⟩, hk⟩

theorem fsAfter_untouched (hnd : (keys code).Nodup) (p : Path) (hk : p ∉ keys code)
    (hp : p ∈ relativeFiles fs → keep p = true) : (fsAfter fmt keep fs code).lookup p = fs.lookup p := by
  rw [fsAfter_lookup fmt keep fs code hnd p, (alookup_none_iff p code).mpr hk]
  exact if_neg fun h => by simp [hp h.1] at h

theorem afterFiles_written (hnd : (keys code).Nodup) (p : Path) :
    p ∈ (afterFiles fmt fs code).written ↔
      ∃ c, alookup p code = some c ∧ ¬ (p ∈ relativeFiles fs ∧ fs.lookup p = some (fmt p c)) := by
  rw [afterFiles, ((fold_spec fmt code _).lookup_written hnd p).2]
  simp

theorem afterFiles_count :
    (afterFiles fmt fs code).notTouched + (afterFiles fmt fs code).written.length = code.length := by
  simpa [afterFiles] using (fold_spec fmt code { fs := fs, rel := relativeFiles fs, written := [], notTouched := 0 }).count

theorem stale_of_no_exemption : stale fmt (fun _ => false) fs code = (afterFiles fmt fs code).rel :=
  List.filter_eq_self.mpr fun _ _ => rfl

end

theorem write_refused {fmt : Path → String → String} {fs : FS} {code : List (Path × String)} {marker : Path}
    (h : refuseCond fs marker) :
    write fmt fs code marker = { outcome := .refused, fs := fs, written := [], deleted := [], notTouched := 0 } := by
  unfold write; simp only []
  rw [if_pos ((refuse_guard_iff fs marker).mpr h)]

theorem write_ok {fmt : Path → String → String} {fs : FS} {code : List (Path × String)} {marker : Path}
    (h : ¬ refuseCond fs marker) :
    write fmt fs code marker =
      { outcome := .ok, fs := fsAfter fmt (fun _ => false) fs code, written := (afterFiles fmt fs code).written,
        deleted := stale fmt (fun _ => false) fs code, notTouched := (afterFiles fmt fs code).notTouched } := by
  unfold write; simp only []
  rw [if_neg (fun g => h ((refuse_guard_iff fs marker).mp g))]
  rw [fsAfter, stale_of_no_exemption]
  rfl

theorem write_outcome_cases (fmt : Path → String → String) (fs : FS) (code : List (Path × String)) (marker : Path) :
    ((write fmt fs code marker).outcome = .refused ↔ refuseCond fs marker) ∧
    ((write fmt fs code marker).outcome = .ok ↔ ¬ refuseCond fs marker) := by
  by_cases h : refuseCond fs marker
  · rw [write_refused h]; simp [h]
  · rw [write_ok h]; simp [h]

theorem write_written_nodup (fmt : Path → String → String) (fs : FS) (code : List (Path × String)) (marker : Path)
    (hnd : (keys code).Nodup) : (write fmt fs code marker).written.Nodup := by
  by_cases hc : refuseCond fs marker
  · rw [write_refused hc]; exact List.nodup_nil
  · rw [write_ok hc]
    exact (fold_spec fmt code _).sublist.nodup (by rw [List.append_nil]; exact (List.reverse_perm _).nodup_iff.2 hnd)

end TLVerif.Tool
