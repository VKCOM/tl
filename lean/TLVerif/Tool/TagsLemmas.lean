import TLVerif.Tool.Tags
/-! One loop specification serves both tag checks: the TL2 loop is the TL1 loop on the non-zero tags, and the loop over
an appended list continues from the state the first part leaves, so the kernel's check is the legacy one on `tl1 ++ tl2≠0`. -/
namespace TLVerif.Tool

theorem tl1Loop_spec (l : List Tag) (seen : List Tag) (idx : Nat) :
    (∀ s, tl1Loop seen idx l = .ok s ↔
      s = l.reverse ++ seen ∧ (∀ t ∈ l, t ≠ 0) ∧ (∀ t ∈ l, t ∉ seen) ∧ l.Nodup) ∧
    (∀ e, tl1Loop seen idx l = .error e →
      (∃ i, e = .zero (idx + i) ∧ l[i]? = some 0) ∨
      (∃ t, e = .dup t ∧ t ≠ 0 ∧ 2 ≤ l.count t + seen.count t)) := by
  fun_induction tl1Loop seen idx l with
  | case1 seen idx => exact ⟨fun s => by simp; exact eq_comm, nofun⟩
  | case2 seen idx rest =>
    refine ⟨fun s => ⟨nofun, fun h => absurd rfl (h.2.1 0 List.mem_cons_self)⟩, fun e h => ?_⟩
    cases h
    exact .inl ⟨0, rfl, rfl⟩
  | case3 seen idx t rest h0 hs =>
    refine ⟨fun s => ⟨nofun, fun h => absurd hs (h.2.2.1 t List.mem_cons_self)⟩, fun e h => ?_⟩
    cases h
    have := List.count_pos_iff.mpr hs
    exact .inr ⟨t, rfl, h0, by rw [List.count_cons_self]; omega⟩
  | case4 seen idx t rest h0 hs ih =>
    obtain ⟨iok, ierr⟩ := ih
    refine ⟨fun s => ?_, fun e h => ?_⟩
    · rw [iok]
      simp only [List.reverse_cons, List.append_assoc, List.singleton_append, List.mem_cons,
        List.nodup_cons, forall_eq_or_imp, not_or]
      constructor
      · rintro ⟨h1, h2, h3, h4⟩
        refine ⟨h1, ⟨h0, h2⟩, ⟨hs, fun r hr => (h3 r hr).2⟩, ?_, h4⟩
        intro hm; exact (h3 t hm).1 rfl
      · rintro ⟨h1, ⟨_, h2⟩, ⟨_, h3⟩, h4, h5⟩
        refine ⟨h1, h2, fun r hr => ⟨?_, h3 r hr⟩, h5⟩
        intro e; subst e; exact h4 hr
    · rcases ierr e h with ⟨i, he, hz⟩ | ⟨u, he, hu0, h2⟩
      · exact .inl ⟨i + 1, by rw [he, Nat.add_assoc, Nat.add_comm 1], hz⟩
      · exact .inr ⟨u, he, hu0, by simp only [List.count_cons] at h2 ⊢; omega⟩

theorem tl1Loop_append (l₁ l₂ : List Tag) : ∀ (seen : List Tag) (idx : Nat),
    tl1Loop seen idx (l₁ ++ l₂) =
      match tl1Loop seen idx l₁ with
      | .error e => .error e
      | .ok s => tl1Loop s (idx + l₁.length) l₂ := by
  induction l₁ with
  | nil => intro seen idx; rfl
  | cons t rest ih =>
    intro seen idx
    simp only [List.cons_append, tl1Loop, List.length_cons]
    split
    · rfl
    · split
      · rfl
      · rw [ih, Nat.add_right_comm, Nat.add_assoc]

theorem tl2Loop_eq_tl1Loop (l : List Tag) : ∀ (seen : List Tag) (idx : Nat),
    tl2Loop seen l = tl1Loop seen idx (l.filter (· ≠ 0)) := by
  induction l with
  | nil => intro seen idx; rfl
  | cons t rest ih =>
    intro seen idx
    by_cases h0 : t = 0
    · simp only [tl2Loop, h0, if_true, ih _ idx, ne_eq, not_true_eq_false, decide_false, List.filter_cons_of_neg,
        Bool.false_eq_true, not_false_eq_true]
    · simp only [tl2Loop, tl1Loop, h0, if_false, ne_eq, not_false_eq_true, decide_true, List.filter_cons_of_pos,
        ih _ (idx + 1)]

theorem kernelCheckTags_eq (tl1 tl2 : List Tag) :
    kernelCheckTags tl1 tl2 = legacyCheckTags (tl1 ++ tl2.filter (· ≠ 0)) := by
  unfold kernelCheckTags legacyCheckTags
  rw [tl1Loop_append]
  cases tl1Loop [] 0 tl1 with
  | error e => rfl
  | ok s => simp only [tl2Loop_eq_tl1Loop tl2 s (0 + tl1.length)]

end TLVerif.Tool
