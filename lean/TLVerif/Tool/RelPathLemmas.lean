import TLVerif.Tool.RelPath
namespace TLVerif.Tool

theorem commonPrefixLen_spec (a b : List String) :
    commonPrefixLen a b ≤ a.length ∧ commonPrefixLen a b ≤ b.length ∧
    a.take (commonPrefixLen a b) = b.take (commonPrefixLen a b) := by
  fun_induction commonPrefixLen a b with
  | case1 x xs ys ih =>
    obtain ⟨h1, h2, h3⟩ := ih
    exact ⟨Nat.succ_le_succ h1, Nat.succ_le_succ h2, by rw [List.take_succ_cons, List.take_succ_cons, h3]⟩
  | case2 => simp
  | case3 => simp

end TLVerif.Tool
