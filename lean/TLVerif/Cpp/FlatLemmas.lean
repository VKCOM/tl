import TLVerif.Cpp.Flat
import TLVerif.Prim.TL1StringLemmas
/-! Each layer of the flat codec (primitives `readP`, element sequences `readN`, fields `readF`, structs `readS`) is exact:
what the reader accepts is a written encoding followed by the unread rest (`*_canonical`), and written bytes are read
back with any suffix left over (`*_written`). -/
namespace TLVerif.Cpp
open TLVerif.Prim

theorem length_take_of_not_lt {bs : Bytes} {k : Nat} (h : ¬ bs.length < k) : (bs.take k).length = k := by
  rw [List.length_take]; omega

theorem split_prefix {bs : Bytes} {k : Nat} (h : bs.length = k) (rest : Bytes) :
    ¬ (bs ++ rest).length < k ∧ (bs ++ rest).take k = bs ∧ (bs ++ rest).drop k = rest := by
  subst h
  exact ⟨by rw [List.length_append]; omega, List.take_left, List.drop_left⟩

theorem readP_canonical (p : PKind) (bs : Bytes) (v : PVal) (rest : Bytes)
    (h : readP p bs = .ok (v, rest)) : ∃ out, writeP p v = some out ∧ bs = out ++ rest := by
  cases p with
  | raw k =>
    simp only [readP] at h
    split at h
    · cases h
    next hl =>
      cases h
      exact ⟨bs.take k, by simp [writeP, length_take_of_not_lt hl], (List.take_append_drop k bs).symm⟩
  | str =>
    simp only [readP] at h
    split at h
    · cases h
    next s r hs =>
      cases h
      exact string_read_canonical bs s rest hs
  | alt a b =>
    simp only [readP] at h
    split at h
    · cases h
    next hl =>
      split at h
      next ht =>
        cases h
        exact ⟨bs.take 4, by simp [writeP, length_take_of_not_lt hl, ht], (List.take_append_drop 4 bs).symm⟩
      · cases h

theorem readP_written (p : PKind) (v : PVal) (out rest : Bytes) (h : writeP p v = some out) :
    readP p (out ++ rest) = .ok (v, rest) := by
  unfold writeP at h
  split at h
  next k bs =>
    split at h
    next hl =>
      cases h
      obtain ⟨h1, h2, h3⟩ := split_prefix hl rest
      rw [readP, if_neg h1, h2, h3]
    · cases h
  next s =>
    rw [readP, string_roundtrip s rest out h]
  next a b bs =>
    split at h
    next hc =>
      cases h
      obtain ⟨h1, h2, h3⟩ := split_prefix hc.1 rest
      rw [readP, if_neg h1, h2, h3, if_pos hc.2]
    · cases h
  · cases h

theorem readN_canonical (p : PKind) (n : Nat) (bs : Bytes) (vs : List PVal) (rest : Bytes)
    (h : readN p n bs = .ok (vs, rest)) : ∃ out, writeN p vs = some out ∧ bs = out ++ rest ∧ vs.length = n := by
  fun_induction readN p n bs generalizing vs rest with
  | case1 => cases h; exact ⟨[], rfl, rfl, rfl⟩
  | case2 => cases h
  | case3 => cases h
  | case4 n bs v r1 h1 vs' r2 h2 ih =>
    cases h
    obtain ⟨o1, hw1, rfl⟩ := readP_canonical p bs v r1 h1
    obtain ⟨o2, hw2, rfl, hl⟩ := ih _ _ h2
    exact ⟨o1 ++ o2, by simp only [writeN, hw1, hw2], (List.append_assoc ..).symm, by rw [List.length_cons, hl]⟩

theorem readN_written (p : PKind) (vs : List PVal) (out rest : Bytes) (h : writeN p vs = some out) :
    readN p vs.length (out ++ rest) = .ok (vs, rest) := by
  fun_induction writeN p vs generalizing out rest with
  | case1 => cases h; rfl
  | case2 v vs a b h2 h1 ih =>  -- `h1`: the element gives `a`; `h2`: the tail gives `b`
    cases h
    simp only [List.length_cons, readN, List.append_assoc, readP_written p v a (b ++ rest) h1, ih b rest h2]
  | case3 => cases h

theorem readF_canonical (k : FKind) (bs : Bytes) (v : FVal) (rest : Bytes)
    (h : readF k bs = .ok (v, rest)) : ∃ out, writeF k v = some out ∧ bs = out ++ rest := by
  cases k with
  | one p =>
    simp only [readF] at h
    split at h
    · cases h
    next pv r h1 =>
      cases h
      exact readP_canonical p bs pv rest h1
  | tag t =>
    simp only [readF] at h
    split at h
    · cases h
    next hl =>
      split at h
      next ht =>
        cases h
        subst ht
        exact ⟨bs.take 4, by simp [writeF, length_take_of_not_lt hl], (List.take_append_drop 4 bs).symm⟩
      · cases h
  | vec p =>
    simp only [readF] at h
    split at h
    next a b c d r0 =>
      split at h
      · cases h
      next vs r h1 =>
        cases h
        obtain ⟨o, hw, rfl, hl⟩ := readN_canonical p _ r0 vs rest h1
        have hc : LE.toNat [a, b, c, d] < 4294967296 := LE.toNat_lt (k := 4) rfl
        rw [LE.toNat4_mul] at hl
        refine ⟨[a, b, c, d] ++ o, ?_, rfl⟩
        simp only [writeF, hw]
        rw [hl, if_pos hc, le32, LE.ofNat4_div, LE.ofNat_toNat (k := 4) rfl]
    · cases h
  | tup n p =>
    simp only [readF] at h
    split at h
    · cases h
    next vs r h1 =>
      cases h
      obtain ⟨o, hw, hb, hl⟩ := readN_canonical p n bs vs rest h1
      exact ⟨o, by simp [writeF, hl, hw], hb⟩

theorem readF_written (k : FKind) (v : FVal) (out rest : Bytes) (h : writeF k v = some out) :
    readF k (out ++ rest) = .ok (v, rest) := by
  unfold writeF at h
  split at h
  next p pv =>
    rw [readF, readP_written p pv out rest h]
  next t =>
    split at h
    next h4 =>
      cases h
      obtain ⟨h1, h2, h3⟩ := split_prefix h4 rest
      rw [readF, if_neg h1, h2, h3, if_pos rfl]
    · cases h
  next p vs =>
    split at h
    next hl =>
      split at h
      next b hw =>
        cases h
        simp only [le32, readF, List.cons_append, List.nil_append]
        rw [LE.toNat4_mul, LE.ofNat4_div, LE.toNat_ofNat_of_lt hl, readN_written p vs b rest hw]
      · cases h
    · cases h
  next n p vs =>
    split at h
    next hl =>
      subst hl
      rw [readF, readN_written p vs out rest h]
    · cases h
  · cases h

theorem readS_canonical : ∀ (d : Desc) (bs : Bytes) (vs : List FVal) (rest : Bytes),
    readS d bs = .ok (vs, rest) → ∃ out, writeS d vs = some out ∧ bs = out ++ rest := by
  intro d bs vs rest h
  fun_induction readS d bs generalizing vs rest with
  | case1 => cases h; exact ⟨[], rfl, rfl⟩
  | case2 => cases h
  | case3 => cases h
  | case4 k ks bs v r1 h1 vs' r2 h2 ih =>
    cases h
    obtain ⟨o1, hw1, rfl⟩ := readF_canonical k bs v r1 h1
    obtain ⟨o2, hw2, rfl⟩ := ih _ _ h2
    exact ⟨o1 ++ o2, by simp only [writeS, hw1, hw2], (List.append_assoc ..).symm⟩

theorem readS_written : ∀ (d : Desc) (vs : List FVal) (out rest : Bytes),
    writeS d vs = some out → readS d (out ++ rest) = .ok (vs, rest) := by
  intro d vs out rest h
  fun_induction writeS d vs generalizing out rest with
  | case1 => cases h; rfl
  | case2 k ks v vs a b h2 h1 ih =>  -- `h1`: the field gives `a`; `h2`: the rest gives `b`
    cases h
    simp only [readS, List.append_assoc, readF_written k v a (b ++ rest) h1, ih b rest h2]
  | case3 => cases h
  | case4 => cases h

end TLVerif.Cpp
