import TLVerif.Cpp.Masked
import TLVerif.Cpp.FlatLemmas
/-! Read-back = consumed prefix and acceptance of written bytes, for masked flat structs. -/
namespace TLVerif.Cpp
open TLVerif.Prim

theorem readM_canonical (d : MDesc) (prev : List MVal) (bs : Bytes) (vs : List MVal) (rest : Bytes)
    (h : readM prev d bs = .ok (vs, rest)) : ∃ out, writeM prev d vs = some out ∧ bs = out ++ rest := by
  fun_induction readM prev d bs generalizing vs rest with
  | case1 => cases h; exact ⟨[], rfl, rfl⟩
  | case2 => cases h
  | case3 => cases h
  | case4 prev m ms bs hp v r1 h1 vs' r2 h2 ih =>  -- present
    cases h
    obtain ⟨o1, hw1, rfl⟩ := readF_canonical _ bs v r1 h1
    obtain ⟨o2, hw2, rfl⟩ := ih _ _ h2
    exact ⟨o1 ++ o2, by simp only [writeM, hp, if_true, hw1, hw2], (List.append_assoc ..).symm⟩
  | case5 => cases h
  | case6 prev m ms bs hp vs' r2 h2 ih =>  -- absent
    cases h
    rw [Bool.not_eq_true] at hp
    obtain ⟨o2, hw2, hb2⟩ := ih _ _ h2
    exact ⟨o2, by simp only [writeM, hp, Bool.false_eq_true, if_false, hw2], hb2⟩

theorem readM_written (d : MDesc) (prev : List MVal) (vs : List MVal) (out rest : Bytes)
    (h : writeM prev d vs = some out) : readM prev d (out ++ rest) = .ok (vs, rest) := by
  fun_induction writeM prev d vs generalizing out rest with
  | case1 => cases h; rfl
  | case2 prev m ms vs hp fv a b h2 h1 ih =>  -- present; `h1`: the field gives `a`; `h2`: the rest gives `b`
    cases h
    simp only [readM, hp, if_true, List.append_assoc, readF_written _ fv a (b ++ rest) h1, ih b rest h2]
  | case3 => cases h
  | case4 => cases h
  | case5 prev m ms vs hp ih =>  -- absent
    rw [Bool.not_eq_true] at hp
    simp only [readM, hp, Bool.false_eq_true, if_false, ih out rest h]
  | case6 => cases h
  | case7 => cases h

end TLVerif.Cpp
