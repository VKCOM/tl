import TLVerif.Udp.WindowLemmas
/-! Sender acknowledgement bookkeeping and the invariant of sender + network + receiver. -/
namespace TLVerif.Udp

def Send.acked (s : Send) (q : Nat) : Prop :=
  q < s.ackPrefix ∨ (s.ackPrefix ≤ q ∧ ∃ c, s.window[q - s.ackPrefix]? = some c ∧ c.acked = true)

theorem unref_window (s : Send) (m : Nat) : (s.unref m).window = s.window := rfl
theorem unref_ackPrefix (s : Send) (m : Nat) : (s.unref m).ackPrefix = s.ackPrefix := rfl

theorem acked_tail {s s' : Send} {c : OChunk} (hp : s'.ackPrefix = s.ackPrefix + 1) (hw : s.window = c :: s'.window)
    (q : Nat) : s'.acked q ↔ q = s.ackPrefix ∨ s.acked q := by
  unfold Send.acked
  rw [hp, hw]
  rcases Nat.lt_trichotomy q s.ackPrefix with h | h | h
  · exact ⟨fun _ => Or.inr (Or.inl h), fun _ => Or.inl (Nat.lt_succ_of_lt h)⟩
  · exact ⟨fun _ => Or.inl h, fun _ => Or.inl (h ▸ Nat.lt_succ_self _)⟩
  · -- beyond the front both sides look at the same window entry
    have hidx : (c :: s'.window)[q - s.ackPrefix]? = s'.window[q - (s.ackPrefix + 1)]? := by
      rw [show q - s.ackPrefix = q - (s.ackPrefix + 1) + 1 from (Nat.succ_pred_eq_of_pos (Nat.sub_pos_of_lt h)).symm]; rfl
    rw [hidx]
    exact ⟨fun hl => Or.inr (hl.imp (fun x => absurd x (Nat.not_lt_of_le h)) (And.imp_left Nat.le_of_succ_le)),
      fun hr => (hr.resolve_left (Nat.ne_of_gt h)).imp (fun x => absurd x (Nat.lt_asymm h)) (And.imp_left fun _ => h)⟩

structure AckStep (P : Nat → Prop) (s s' : Send) : Prop where
  acked : ∀ q, s'.acked q → s.acked q ∨ P q
  next : s'.nextSeq = s.nextSeq
  pfx : s.ackPrefix ≤ s'.ackPrefix

theorem dropOne_step {P : Nat → Prop} {s : Send} {c : OChunk} {rest : List OChunk} (hw : s.window = c :: rest)
    (hc : c.acked = true) :
    AckStep P s (({ s with window := rest, ackPrefix := s.ackPrefix + 1 } : Send).unref c.msg) where
  acked q hq := by
    rcases (acked_tail rfl hw q).mp hq with e | e
    · exact Or.inl (Or.inr ⟨Nat.le_of_eq e.symm, c, by rw [e, Nat.sub_self, hw]; rfl, hc⟩)
    · exact Or.inl e
  next := by
    show s.ackPrefix + 1 + rest.length = s.ackPrefix + s.window.length
    rw [hw, List.length_cons, Nat.add_assoc, Nat.add_comm 1]
  pfx := Nat.le_succ _

theorem markAcked_eq_modify (i : Nat) (w : List OChunk) :
    markAcked i w = w.modify i fun c => { c with acked := true } := by
  fun_induction markAcked i w
  case case1 => exact (List.modify_nil _ _).symm
  case case2 => rfl
  case case3 ih => rw [ih]; rfl

theorem markAcked_length (i : Nat) (w : List OChunk) : (markAcked i w).length = w.length := by
  rw [markAcked_eq_modify, List.length_modify]

theorem markAcked_get {i k : Nat} {w : List OChunk} {d : OChunk} (h : (markAcked i w)[k]? = some d)
    (hd : d.acked = true) : k = i ∨ ∃ d', w[k]? = some d' ∧ d'.acked = true := by
  rw [markAcked_eq_modify, List.getElem?_modify] at h
  by_cases hik : i = k
  · exact Or.inl hik.symm
  · exact Or.inr ⟨d, by simpa [hik] using h, hd⟩

theorem mark_step {P : Nat → Prop} (s : Send) (i : Nat) (h : P (s.ackPrefix + i)) :
    AckStep P s { s with window := markAcked i s.window } where
  acked q hq := by
    rcases hq with hq | ⟨hle, d, hd, hda⟩
    · exact Or.inl (Or.inl hq)
    · rcases markAcked_get hd hda with e | ⟨d', h3, h4⟩
      · exact Or.inr (by rw [← Nat.add_sub_cancel' hle, e]; exact h)
      · exact Or.inl (Or.inr ⟨hle, d', h3, h4⟩)
  next := congrArg (s.ackPrefix + ·) (markAcked_length i s.window)
  pfx := Nat.le_refl _

/-- Everything `AckChunk` and `AckPrefix` do to the sender is a sequence of moves of two kinds: `mark`, setting the
acknowledged flag of a window position whose sequence number is in `P`, and `drop`, removing the front chunk once it
is marked and un-referencing its message. `ackFront`, `dropFront`, `ackChunk`, `ackUpTo`, `ackPrefixTo` and the fold
over an acknowledgement set are each shown once to be such a sequence (`*_moves`); a property of all of them is then
checked on the two moves: `Moves.ackStep` here, `Moves.relInv` in `ReleaseLemmas`. -/
inductive Moves (P : Nat → Prop) : Send → Send → Prop
  | refl (s : Send) : Moves P s s
  | mark (s : Send) (i : Nat) (h : P (s.ackPrefix + i)) : Moves P s { s with window := markAcked i s.window }
  | drop {s : Send} {c : OChunk} {rest : List OChunk} (hw : s.window = c :: rest) (hc : c.acked = true) :
      Moves P s (({ s with window := rest, ackPrefix := s.ackPrefix + 1 } : Send).unref c.msg)
  | trans {s s1 s2 : Send} : Moves P s s1 → Moves P s1 s2 → Moves P s s2

theorem Moves.ackStep {P : Nat → Prop} {s s' : Send} (h : Moves P s s') : AckStep P s s' := by
  induction h with
  | refl s => exact ⟨fun _ h => Or.inl h, rfl, Nat.le_refl _⟩
  | mark s i h => exact mark_step s i h
  | drop hw hc => exact dropOne_step hw hc
  | trans _ _ h1 h2 =>
    exact ⟨fun q h => (h2.acked q h).elim (h1.acked q) Or.inr, h2.next.trans h1.next, Nat.le_trans h1.pfx h2.pfx⟩

theorem dropFront_moves (P : Nat → Prop) (fuel : Nat) (s : Send)
    (hfront : ∀ c rest, s.window = c :: rest → c.acked = true) : Moves P s (Send.dropFront fuel s) := by
  fun_induction Send.dropFront fuel s
  case case1 | case2 => exact .refl _  -- no fuel, empty window
  case case3 hw _ | case5 hw _ => exact .drop hw (hfront _ _ hw)  -- the front is the last one, or the next is not acknowledged
  case case4 hd hw _ ih =>  -- the next chunk is acknowledged too
    refine (Moves.drop hw (hfront _ _ hw)).trans (ih fun c rest h => ?_)
    cases h; exact hd

theorem ackFront_moves {P : Nat → Prop} (s : Send) (h : P s.ackPrefix) : Moves P s s.ackFront := by
  unfold Send.ackFront
  cases hw : s.window with
  | nil => exact .refl _
  | cons c rest =>
    have hmark := Moves.mark s 0 h
    rw [hw] at hmark
    exact hmark.trans (dropFront_moves _ _ _ fun c' r' h => by cases h; rfl)

theorem ackChunk_moves {P : Nat → Prop} (s : Send) {seq : Nat} (h : P seq) : Moves P s (s.ackChunk seq) := by
  fun_cases Send.ackChunk s seq
  case case1 => exact .refl _
  case case2 _ h2 => exact ackFront_moves s (h2 ▸ h)
  case case3 h1 _ =>
    have hle : s.ackPrefix ≤ seq := by
      simp only [Send.inWindow, Bool.not_eq_true', Bool.not_eq_false, Bool.and_eq_true, decide_eq_true_eq] at h1
      exact h1.1
    exact .mark s _ ((Nat.add_sub_cancel' hle).symm ▸ h)

theorem ackUpTo_moves (target fuel : Nat) (s : Send) : Moves (· < target) s (Send.ackUpTo target fuel s) := by
  fun_induction Send.ackUpTo target fuel s
  case case1 | case3 => exact .refl _
  case case2 hlt ih => exact (ackFront_moves _ hlt).trans ih

theorem ackPrefixTo_moves (s : Send) (p : Nat) : Moves (· < p) s (s.ackPrefixTo p) := by
  fun_cases Send.ackPrefixTo s p
  case case1 | case2 => exact .refl _
  case case3 => exact ackUpTo_moves p _ s

theorem foldl_ackChunk_moves (set : List Nat) (s : Send) : Moves (· ∈ set) s (set.foldl Send.ackChunk s) :=
  List.foldlRecOn set Send.ackChunk (.refl s) fun s' h _ ha => h.trans (ackChunk_moves s' ha)

theorem push_spec (s : Send) (n : Nat) :
    (∀ q, (s.push n).acked q → s.acked q) ∧ (s.push n).nextSeq = s.nextSeq + n := by
  refine ⟨fun q hq => hq.imp_right fun ⟨hle, d, hd, hda⟩ => ⟨hle, d, ?_, hda⟩,
    by simp only [Send.push, Send.nextSeq, List.length_append, List.length_replicate, Nat.add_assoc]⟩
  have hd : (s.window ++ List.replicate n ⟨s.nextMsg, false⟩)[q - s.ackPrefix]? = some d := hd
  rw [List.getElem?_append] at hd
  split at hd
  · exact hd
  · -- the new chunks are not acknowledged
    rw [List.getElem?_replicate] at hd
    split at hd
    · cases hd; cases hda
    · cases hd

/-- what a datagram in flight may claim, given the receiver's prefix and the arrivals so far -/
def dgramOk (pfx : Nat) (arrived : List Nat) : Dgram → Prop
  | .data _ => True
  | .ack p set => p ≤ pfx ∧ ∀ q ∈ set, q ∈ arrived

structure SInv (σ : Sys) : Prop where
  parts : ∀ m ∈ σ.msgs, m ≠ []
  rcv : RStable (chunksOf σ.msgs) σ.arrived σ.rcv
  next : σ.snd.nextSeq = (chunksOf σ.msgs).length
  acked : ∀ q, σ.snd.acked q → q ∈ σ.arrived
  net : ∀ d ∈ σ.net, dgramOk σ.rcv.ackPrefix σ.arrived d

theorem sinv_init : SInv {} where
  parts := by intro m h; cases h
  rcv := rstable_init _
  next := rfl
  acked := by
    rintro q (h | ⟨_, c, h, _⟩)
    · cases h
    · cases h
  net := by intro d h; cases h

theorem dgramOk_mono {pfx pfx' : Nat} {arr arr' : List Nat} {d : Dgram} (h : dgramOk pfx arr d)
    (hp : pfx ≤ pfx') (ha : ∀ q, q ∈ arr → q ∈ arr') : dgramOk pfx' arr' d := by
  cases d with
  | data s => trivial
  | ack p set => exact ⟨Nat.le_trans h.1 hp, fun q hq => ha q (h.2 q hq)⟩

theorem sinv_emit (σ : Sys) (d : Dgram) (h : SInv σ) (hd : dgramOk σ.rcv.ackPrefix σ.arrived d) :
    SInv { σ with net := σ.net ++ [d] } :=
  ⟨h.parts, h.rcv, h.next, h.acked, fun d' hd' =>
    (List.mem_append.mp hd').elim (h.net d') fun e => List.mem_singleton.mp e ▸ hd⟩

theorem sinv_step (σ : Sys) (a : Act) (h : SInv σ) : SInv (σ.step a) := by
  fun_cases Sys.step σ a
  case case1 | case4 | case7 | case8 => exact h  -- empty submit, unsendable `send`, `dup`/`deliver` of a missing datagram
  case case2 parts he =>  -- submit
    have hne : parts ≠ [] := fun e => he (by rw [e]; rfl)
    obtain ⟨p1, p2⟩ := push_spec σ.snd parts.length
    refine ⟨fun m hm => (List.mem_append.mp hm).elim (h.parts m) fun e => List.mem_singleton.mp e ▸ hne,
      ⟨?_, h.rcv.post⟩, ?_, fun q hq => h.acked q (p1 q hq), h.net⟩
    · dsimp only; rw [chunksOf_snoc]; exact rinv_extend _ h.rcv.toRInv
    · dsimp only; rw [p2, h.next, chunksOf_snoc, List.length_append, length_chunksOfMsg]
  case case3 => exact sinv_emit σ _ h trivial  -- send
  case case5 => exact ⟨h.parts, h.rcv, h.next, h.acked, fun d hd => h.net d (List.mem_of_mem_eraseIdx hd)⟩  -- lose
  case case6 d0 hg => exact sinv_emit σ d0 h (h.net d0 (List.mem_of_getElem? hg))  -- dup
  case case9 seq _ _ =>  -- a chunk is delivered
    exact ⟨h.parts, arrive_inv seq h.rcv, h.next, fun q hq => mem_ite_cons seq (h.acked q hq), fun d hd =>
      dgramOk_mono (h.net d (List.mem_of_mem_eraseIdx hd)) (arrive_mono seq h.rcv) fun _ => mem_ite_cons seq⟩
  case case10 p set hg _ =>  -- an acknowledgement is delivered
    have hok := h.net _ (List.mem_of_getElem? hg)
    have hp := (ackPrefixTo_moves σ.snd p).ackStep
    have hf := (foldl_ackChunk_moves set (σ.snd.ackPrefixTo p)).ackStep
    refine ⟨h.parts, h.rcv, (hf.next.trans hp.next).trans h.next, fun q hq => ?_, fun d hd =>
      h.net d (List.mem_of_mem_eraseIdx hd)⟩
    -- what became acknowledged is below the prefix the datagram claims, or in its set
    rcases hf.acked q hq with e | e
    · rcases hp.acked q e with e' | e'
      · exact h.acked q e'
      · exact h.rcv.below (Nat.lt_of_lt_of_le e' hok.1)
    · exact hok.2 q e
  case case11 p pick =>  -- sendAck
    exact sinv_emit σ _ h ⟨Nat.min_le_right _ _, fun q hq => List.contains_iff_mem.mp (List.mem_filter.mp hq).2⟩

theorem sinv_run (acts : List Act) : SInv (Sys.run acts) :=
  List.foldlRecOn acts Sys.step sinv_init fun σ h a _ => sinv_step σ a h

end TLVerif.Udp
