import TLVerif.Udp.Window
/-!
# C36 — model of `OutgoingConnection.GetChunksToSend` (core only, executable)

The sender of `Window.lean` extended with what decides *which chunks go into one datagram*:
chunk sizes, the four send cursors (`timeoutedSeqNum`, `nonTimeoutedSeqNum`, `notSendedSeqNum`,
`chunkToSendSeqNum`) with `updatedSeqNums` / `OnResendTimeout`, and the resend request of the peer
(`resendRanges`, `resendIndex`, `rangeInnerIndex`).  Written the way outgoing.go is written.

A datagram carries only the first sequence number and a count, so the chunks `getChunks` returns must
have consecutive sequence numbers: `getChunks_contiguous` (Props/C36Window.lean).
-/
namespace TLVerif.Udp

structure SendX where
  base : Send := {}
  /-- payload length of every chunk of the window (same indexing as `base.window`) -/
  sizes : List Nat := []
  timeouted : Nat := 0
  nonTimeouted : Nat := 0
  notSended : Nat := 0
  chunkToSend : Nat := 0
  ranges : List (Nat × Nat) := []
  resendIndex : Nat := 0
  rangeInner : Nat := 0
  deriving Repr

/-- `t.maxOutgoingPayloadSize` and `t.maxOutgoingWindowSize` -/
structure SendCfg where
  maxPayload : Nat := 32
  maxWindow : Nat := 1000

/-- a new message whose chunks have the given payload lengths enters the window -/
def SendX.push (x : SendX) (lens : List Nat) : SendX :=
  { x with base := x.base.push lens.length, sizes := x.sizes ++ lens }

/-- `updatedSeqNums` -/
def SendX.updatedSeqNums (x : SendX) (a : Nat) : SendX :=
  if a ≥ x.timeouted then
    let x1 : SendX := { x with timeouted := a + 1 }
    let x2 : SendX := if a ≥ x1.nonTimeouted then
                let y : SendX := { x1 with nonTimeouted := a + 1 }
                if a ≥ y.notSended then { y with notSended := a + 1 } else y
              else x1
    if a ≥ x2.chunkToSend then
      let z : SendX := { x2 with chunkToSend := a + 1 }
      if z.nonTimeouted ≤ z.chunkToSend ∧ z.chunkToSend < z.notSended then { z with chunkToSend := z.notSended } else z
    else x2
  else x

/-- the base bookkeeping moved the prefix: drop the sizes of the chunks that left the window -/
def SendX.withBase (x : SendX) (b : Send) : SendX :=
  { x with base := b, sizes := x.sizes.drop (b.ackPrefix - x.base.ackPrefix) }

/-- `AckChunk` -/
def SendX.ackChunk (x : SendX) (seq : Nat) : SendX :=
  if !x.base.inWindow seq then x else (x.updatedSeqNums seq).withBase (x.base.ackChunk seq)

/-- `AckPrefix` -/
def SendX.ackPrefixTo (x : SendX) (p : Nat) : SendX :=
  if p = 0 then x
  else if !x.base.inWindow (p - 1) then x
  else (x.updatedSeqNums (p - 1)).withBase (x.base.ackPrefixTo p)

/-- `OnResendTimeout` -/
def SendX.onResendTimeout (x : SendX) : SendX :=
  let x1 : SendX := if x.nonTimeouted > x.timeouted then { x with nonTimeouted := x.timeouted }
            else { x with nonTimeouted := x.notSended }
  let x2 : SendX := { x1 with notSended := x1.chunkToSend }
  if x2.timeouted < x2.nonTimeouted then { x2 with chunkToSend := x2.timeouted } else x2

/-- a resend request of the peer arrives (goWriteStep: `resendRanges = req; resendIndex = 0; rangeInnerIndex = 0`) -/
def SendX.setResend (x : SendX) (rs : List (Nat × Nat)) : SendX :=
  { x with ranges := rs, resendIndex := 0, rangeInner := 0 }

/-- what is being collected for one datagram -/
structure Pick where
  /-- sequence numbers of the chunks taken, in the order they are put into the datagram -/
  seqs : List Nat := []
  payloadSize : Nat := 0
  prevMsg : Option Nat := none
  single : Bool := true
  /-- the Go code would dereference a nil window entry -/
  nilDeref : Bool := false
  deriving Repr

def SendX.chunkAt (x : SendX) (seq : Nat) : Option (OChunk × Nat) :=
  if seq < x.base.ackPrefix then none
  else match x.base.window[seq - x.base.ackPrefix]?, x.sizes[seq - x.base.ackPrefix]? with
    | some c, some n => some (c, n)
    | _, _ => none

/-- The inner `for seqNum := …; seqNum <= r.PacketNumTo; seqNum++` loop over one requested range.
Returns the cursor inside the range, what was picked, and whether the function returned from inside
the loop (second chunk of the same message). -/
def resendInner (cfg : SendCfg) (x : SendX) : Nat → Nat → Nat → Nat → Pick → Nat × Pick × Bool
  | 0, _, _, inner, pk => (inner, pk, false)
  | fuel + 1, seq, to, inner, pk =>
    if seq > to then (inner, pk, false)
    else if seq < x.base.ackPrefix then resendInner cfg x fuel (seq + 1) to (inner + 1) pk
    else
      match x.chunkAt seq with
      | none => (inner, { pk with nilDeref := true }, true)
      | some (c, n) =>
        if c.acked then
          if pk.prevMsg.isSome then (inner, pk, false)           -- break: keeps the datagram contiguous
          else resendInner cfg x fuel (seq + 1) to (inner + 1) pk
        else if pk.payloadSize + 4 + n > cfg.maxPayload then (inner, pk, false)
        else
          match pk.prevMsg with
          | none =>
            resendInner cfg x fuel (seq + 1) to (inner + 1)
              { pk with seqs := pk.seqs ++ [seq], payloadSize := pk.payloadSize + 4 + n, prevMsg := some c.msg }
          | some m =>
            if m = c.msg then (inner, pk, true)                    -- never two chunks of one message
            else
              resendInner cfg x fuel (seq + 1) to (inner + 1)
                { pk with seqs := pk.seqs ++ [seq], payloadSize := pk.payloadSize + 4 + n, prevMsg := some c.msg,
                          single := false }

/-- the `for o.resendIndex < len(o.resendRanges.Ranges)` loop; an empty pick (`{}`) = nothing picked, go on with fresh chunks -/
def resendOuter (cfg : SendCfg) : Nat → SendX → SendX × Pick
  | 0, x => (x, {})
  | fuel + 1, x =>
    match x.ranges[x.resendIndex]? with
    | none => (x, {})
    | some (from_, to) =>
      if to < x.base.ackPrefix then resendOuter cfg fuel { x with resendIndex := x.resendIndex + 1, rangeInner := 0 }
      else
        let start := from_ + x.rangeInner
        let (inner, pk, _) := resendInner cfg x (to + 1 - start) start to x.rangeInner {}
        if pk.prevMsg.isSome || pk.nilDeref then ({ x with rangeInner := inner }, pk)
        else resendOuter cfg fuel { x with resendIndex := x.resendIndex + 1, rangeInner := 0 }

/-- the second loop: fresh / timed-out chunks from `chunkToSendSeqNum` on (the message queue is empty in
this model: messages are sliced when they are submitted) -/
def freshLoop (cfg : SendCfg) : Nat → SendX → Pick → SendX × Pick
  | 0, x, pk => (x, pk)
  | fuel + 1, x, pk =>
    let seq := x.chunkToSend
    if seq < x.base.nextSeq then
      if seq - x.base.ackPrefix = cfg.maxWindow then (x, pk)
      else
        match x.chunkAt seq with
        | none => (x, { pk with nilDeref := true })
        | some (c, n) =>
          if pk.payloadSize + 4 + n > cfg.maxPayload then (x, pk)
          else if pk.prevMsg = some c.msg then (x, pk)
          else
            let pk1 : Pick :=
              { pk with seqs := pk.seqs ++ [seq], payloadSize := pk.payloadSize + 4 + n, prevMsg := some c.msg,
                        single := pk.single && pk.prevMsg.isNone }
            let x1 : SendX := { x with chunkToSend := seq + 1 }
            if x1.nonTimeouted ≤ x1.chunkToSend ∧ x1.chunkToSend < x1.notSended then
              ({ x1 with chunkToSend := x1.notSended }, pk1)        -- `if prevMessage != nil { break }`: always taken here
            else freshLoop cfg fuel x1 pk1
    else (x, pk)

/-- `GetChunksToSend` -/
def SendX.getChunks (cfg : SendCfg) (x : SendX) : SendX × Pick :=
  let (x1, pk) := resendOuter cfg (x.ranges.length + 1) x
  if pk.prevMsg.isSome || pk.nilDeref then (x1, pk)
  else freshLoop cfg (x1.base.window.length + 1) x1 {}

end TLVerif.Udp
