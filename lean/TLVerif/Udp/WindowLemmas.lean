import TLVerif.Udp.Window
/-! The receiver of the window model: its invariant over any sequence of arrivals, and what an in-order
reader hands over on the labelled chunk stream of a message stream. -/
namespace TLVerif.Udp

theorem lookup_filter_ne {β : Type} (l : List (Nat × β)) (k k' : Nat) :
    (l.filter (fun e => e.1 != k)).lookup k' = if k' = k then none else l.lookup k' := by
  induction l with
  | nil => exact (ite_self _).symm
  | cons hd tl ih =>
    rw [List.filter_cons, List.lookup_cons]
    by_cases hk : hd.1 = k
    · rw [if_neg (by rw [hk, bne_self_eq_false]; exact Bool.false_ne_true), ih]
      split
      · rfl
      · next hne => rw [beq_false_of_ne (hk ▸ hne)]
    · rw [if_pos (bne_iff_ne.mpr hk), List.lookup_cons, ih]
      split
      · next e => rw [if_neg (eq_of_beq e ▸ hk)]
      · rfl

theorem length_filter_lt {β : Type} (l : List (Nat × β)) (k : Nat) (c : β) (h : l.lookup k = some c) :
    (l.filter (fun e => e.1 != k)).length < l.length := by
  obtain ⟨l₁, l₂, e, _⟩ := List.lookup_eq_some_iff.mp h
  exact List.length_filter_lt_length_iff_exists.mpr
    ⟨(k, c), e ▸ List.mem_append_right _ List.mem_cons_self, by simp⟩

/-- the receiver `r` after the arrivals `arr` (ghost) of chunks of the stream `chunks`; kept by every step of `moveWindowPrefix`,
which `RStable` is not -/
structure RInv (chunks : List Chunk) (arr : List Nat) (r : Recv) : Prop where
  mem : ∀ s, s ∈ arr ↔ s < r.ackPrefix ∨ (r.window.lookup s).isSome = true
  win : ∀ s c, r.window.lookup s = some c → chunks[s]? = some c
  scn : (r.cur, r.delivered) = scan (chunks.take r.ackPrefix)
  le : r.ackPrefix ≤ chunks.length

variable {chunks : List Chunk} {arr : List Nat} {r : Recv}

theorem RInv.below (h : RInv chunks arr r) {i : Nat}
    (hi : i < r.ackPrefix) : i ∈ arr :=
  (h.mem i).mpr (Or.inl hi)

theorem rinv_extend (extra : List Chunk) (h : RInv chunks arr r) :
    RInv (chunks ++ extra) arr r where
  mem := h.mem
  win s c hs := by
    have d := h.win s c hs
    rwa [List.getElem?_append_left (List.getElem?_eq_some_iff.mp d).1]
  scn := by rw [h.scn, List.take_append_of_le_length h.le]
  le := Nat.le_trans h.le (List.length_append ▸ Nat.le_add_right _ _)

theorem rinv_advance {c : Chunk} {cur' del' : List Payload}
    (h : RInv chunks arr r) (hl : r.window.lookup r.ackPrefix = some c)
    (hcd : (cur', del') = scanStep (r.cur, r.delivered) c) :
    RInv chunks arr { ackPrefix := r.ackPrefix + 1, window := r.window.filter (fun e => e.1 != r.ackPrefix),
                      cur := cur', delivered := del' } := by
  have hget := h.win _ _ hl
  refine ⟨fun s => ?_, fun s c' hs => ?_, ?_, (List.getElem?_eq_some_iff.mp hget).1⟩
  · show s ∈ arr ↔ s < r.ackPrefix + 1 ∨ _
    rw [h.mem s, lookup_filter_ne]
    by_cases hsk : s = r.ackPrefix
    · rw [if_pos hsk, hsk, hl]
      exact ⟨fun _ => Or.inl (Nat.lt_succ_self _), fun _ => Or.inr rfl⟩
    · rw [if_neg hsk]
      exact or_congr_left ⟨Nat.lt_succ_of_lt, fun hlt => Nat.lt_of_le_of_ne (Nat.le_of_lt_succ hlt) hsk⟩
  · rw [lookup_filter_ne] at hs
    split at hs
    · cases hs
    · exact h.win s c' hs
  · show (cur', del') = scan (chunks.take (r.ackPrefix + 1))
    rw [List.take_add_one, hget, scan, List.foldl_append, ← scan, ← h.scn]
    exact hcd

/-- The receiver between two arrivals: `moveWindowPrefix` has run to its end, so no chunk is waiting at
the prefix. -/
structure RStable (chunks : List Chunk) (arr : List Nat) (r : Recv) : Prop extends RInv chunks arr r where
  post : r.window.lookup r.ackPrefix = none

theorem rstable_init (chunks : List Chunk) : RStable chunks [] {} where
  mem s := ⟨nofun, fun h => h.elim (fun h => absurd h (Nat.not_lt_zero s)) nofun⟩
  win := nofun
  scn := rfl
  le := Nat.zero_le _
  post := rfl

theorem RStable.prefix_not_arrived (h : RStable chunks arr r) :
    r.ackPrefix ∉ arr := fun hm =>
  ((h.mem _).mp hm).elim (Nat.lt_irrefl _) fun e => Bool.noConfusion ((congrArg Option.isSome h.post).symm.trans e)

theorem RStable.le_prefix (h : RStable chunks arr r) {n : Nat} (hn : ∀ i, i < n → i ∈ arr) : n ≤ r.ackPrefix :=
  Nat.le_of_not_lt fun hlt => h.prefix_not_arrived (hn _ hlt)

theorem move_inv (fuel : Nat) (r : Recv) (h : RInv chunks arr r)
    (hf : r.window.length ≤ fuel) : RStable chunks arr (moveWindowPrefix fuel r) := by
  fun_induction moveWindowPrefix fuel r
  case case1 => exact ⟨h, by rw [List.eq_nil_of_length_eq_zero (Nat.le_zero.mp hf)]; rfl⟩
  case case2 hl => exact ⟨h, hl⟩
  case case3 hl _ hn ih | case4 hl _ hn ih =>
    exact ih (rinv_advance h hl (by simp [scanStep, hn]))
      (Nat.le_of_lt_succ (Nat.lt_of_lt_of_le (length_filter_lt _ _ _ hl) hf))

theorem rinv_dup (s : Nat) (h : RInv chunks arr r)
    (hs : s < r.ackPrefix ∨ (r.window.lookup s).isSome = true) : RInv chunks (s :: arr) r where
  mem s' := by
    rw [List.mem_cons, h.mem]
    exact or_iff_right_of_imp fun e => e ▸ hs
  win := h.win
  scn := h.scn
  le := h.le

theorem rinv_store {s : Nat} {c : Chunk} (h : RInv chunks arr r) (hc : chunks[s]? = some c) :
    RInv chunks (s :: arr) { r with window := (s, c) :: r.window } where
  mem s' := by
    show s' ∈ s :: arr ↔ _ ∨ (List.lookup s' ((s, c) :: r.window)).isSome = true
    rw [List.mem_cons, List.lookup_cons, h.mem]
    split
    · next e => exact ⟨fun _ => Or.inr rfl, fun _ => Or.inl (eq_of_beq e)⟩
    · next e => exact or_iff_right (ne_of_beq_false e)
  win s' c' hs' := by
    rw [List.lookup_cons] at hs'
    split at hs'
    · next e => cases hs'; cases eq_of_beq e; exact hc
    · exact h.win s' c' hs'
  scn := h.scn
  le := h.le

theorem recvChunk_inv {s : Nat} {c : Chunk}
    (h : RStable chunks arr r) (hc : chunks[s]? = some c) : RStable chunks (s :: arr) (recvChunk r s c) := by
  unfold recvChunk
  split
  · next h1 => exact ⟨rinv_dup s h.toRInv (Or.inl h1), h.post⟩
  · split
    · next h2 => exact ⟨rinv_dup s h.toRInv (Or.inr h2), h.post⟩
    · exact move_inv _ _ (rinv_store h.toRInv hc) (Nat.le_refl _)

/-- the arrivals `arrive` does not ignore (numbers beyond the stream it does): the ghost list of `foldl_arrive_inv` -/
def validArr (chunks : List Chunk) (as : List Nat) : List Nat := as.filter (fun s => s < chunks.length)

theorem mem_validArr (chunks : List Chunk) (as : List Nat) (x : Nat) :
    x ∈ validArr chunks as ↔ x ∈ as ∧ x < chunks.length := by
  rw [validArr, List.mem_filter, decide_eq_true_iff]

theorem arrive_inv (s : Nat) (h : RStable chunks arr r) :
    RStable chunks (if s < chunks.length then s :: arr else arr) (arrive chunks r s) := by
  unfold arrive
  cases hc : chunks[s]? with
  | none => rw [if_neg (Nat.not_lt_of_le (List.getElem?_eq_none_iff.mp hc))]; exact h
  | some c => rw [if_pos (List.getElem?_eq_some_iff.mp hc).1]; exact recvChunk_inv h hc

theorem mem_ite_cons {α : Type} {c : Prop} [Decidable c] {x : α} {l : List α} (a : α) (h : x ∈ l) :
    x ∈ if c then a :: l else l := by
  split
  · exact List.mem_cons_of_mem a h
  · exact h

/-- being the first number that has not arrived, the prefix can only grow with the arrivals -/
theorem arrive_mono (s : Nat) (h : RStable chunks arr r) :
    r.ackPrefix ≤ (arrive chunks r s).ackPrefix :=
  (arrive_inv s h).le_prefix fun _ hi => mem_ite_cons s (h.below hi)

theorem foldl_arrive_inv (chunks : List Chunk) (as : List Nat) (arr : List Nat) (r : Recv)
    (h : RStable chunks arr r) :
    RStable chunks ((validArr chunks as).reverse ++ arr) (as.foldl (arrive chunks) r) := by
  induction as generalizing arr r with
  | nil => exact h
  | cons a rest ih =>
    have e : (validArr chunks (a :: rest)).reverse ++ arr =
        (validArr chunks rest).reverse ++ (if a < chunks.length then a :: arr else arr) := by
      by_cases ha : a < chunks.length <;> simp [validArr, ha]
    rw [e]
    exact ih _ _ (arrive_inv a h)

theorem recvRun_inv (chunks : List Chunk) (arrivals : List Nat) :
    ∃ arr, (∀ x, x ∈ arr ↔ x ∈ arrivals ∧ x < chunks.length) ∧ RStable chunks arr (recvRun chunks arrivals) := by
  have h := foldl_arrive_inv chunks arrivals [] {} (rstable_init chunks)
  rw [List.append_nil] at h
  exact ⟨_, fun x => List.mem_reverse.trans (mem_validArr chunks arrivals x), h⟩

theorem chunksFrom_append (i : Nat) (a b : List (List Payload)) :
    chunksFrom i (a ++ b) = chunksFrom i a ++ chunksFrom (i + a.length) b := by
  induction a generalizing i with
  | nil => rfl
  | cons m ms ih =>
    rw [List.cons_append, chunksFrom, chunksFrom, ih, List.append_assoc, List.length_cons, Nat.add_assoc,
      Nat.add_comm 1]

theorem chunksOf_snoc (msgs : List (List Payload)) (m : List Payload) :
    chunksOf (msgs ++ [m]) = chunksOf msgs ++ chunksOfMsg msgs.length m := by
  rw [chunksOf, chunksFrom_append, Nat.zero_add, chunksFrom, chunksFrom, List.append_nil]; rfl

theorem length_chunksOfMsgAux (i total j : Nat) (ps : List Payload) :
    (chunksOfMsgAux i total j ps).length = ps.length := by
  induction ps generalizing j with
  | nil => rfl
  | cons p ps ih => exact congrArg (· + 1) (ih (j + 1))

theorem length_chunksOfMsg (i : Nat) (ps : List Payload) : (chunksOfMsg i ps).length = ps.length :=
  length_chunksOfMsgAux _ _ _ _

theorem chunksOfMsgAux_cons (i total j : Nat) (p : Payload) (ps : List Payload) (htot : j + (ps.length + 1) = total) :
    chunksOfMsgAux i total j (p :: ps) = ⟨i, j, ps.length, p⟩ :: chunksOfMsgAux i total (j + 1) ps := by
  rw [chunksOfMsgAux, ← htot, ← Nat.add_assoc, Nat.add_sub_cancel, Nat.add_sub_cancel_left]

theorem foldl_scanStep_msg (i total j : Nat) (ps : List Payload) (cur del : List Payload)
    (htot : j + ps.length = total) (hne : ps ≠ []) :
    (chunksOfMsgAux i total j ps).foldl scanStep (cur, del) = ([], del ++ [(cur ++ ps).flatten]) := by
  induction ps generalizing j cur with
  | nil => exact absurd rfl hne
  | cons p ps ih =>
    rw [chunksOfMsgAux_cons i total j p ps htot, List.foldl_cons, scanStep]
    cases ps with
    | nil => rfl
    | cons q qs =>
      rw [if_neg (show ¬(q :: qs).length = 0 from Nat.succ_ne_zero _),
        ih (j + 1) (cur ++ [p]) ((Nat.add_right_comm j 1 _).trans htot) (List.cons_ne_nil _ _), List.append_assoc]
      rfl

theorem foldl_scanStep_chunksFrom (i : Nat) (msgs : List (List Payload)) (del : List Payload)
    (hne : ∀ m ∈ msgs, m ≠ []) :
    (chunksFrom i msgs).foldl scanStep ([], del) = ([], del ++ msgs.map List.flatten) := by
  induction msgs generalizing i del with
  | nil => rw [List.map_nil, List.append_nil]; rfl
  | cons m ms ih =>
    rw [chunksFrom, List.foldl_append, chunksOfMsg,
      foldl_scanStep_msg i m.length 0 m [] del (Nat.zero_add _) (hne m List.mem_cons_self),
      ih _ _ fun x hx => hne x (List.mem_cons_of_mem _ hx), List.map_cons, List.append_assoc]
    rfl

theorem scan_chunksOf_all (msgs : List (List Payload)) (hne : ∀ m ∈ msgs, m ≠ []) :
    scan (chunksOf msgs) = ([], msgs.map List.flatten) :=
  foldl_scanStep_chunksFrom 0 msgs [] hne

theorem foldl_scanStep_prefix (st : List Payload × List Payload) (cs : List Chunk) :
    st.2 <+: (cs.foldl scanStep st).2 := by
  induction cs generalizing st with
  | nil => exact List.prefix_rfl
  | cons c cs ih =>
    refine List.IsPrefix.trans ?_ (ih (scanStep st c))
    unfold scanStep
    split
    · exact List.prefix_append _ _
    · exact List.prefix_rfl

theorem scan_take_prefix (cs : List Chunk) (n : Nat) : (scan (cs.take n)).2 <+: (scan cs).2 := by
  have h := foldl_scanStep_prefix (scan (cs.take n)) (cs.drop n)
  rwa [scan, ← List.foldl_append, List.take_append_drop] at h

/-- Exactly once, in order, intact: what has been handed over is a prefix of the message stream,
because it is a prefix of what reading the whole chunk stream hands over. -/
theorem RInv.delivered_prefix {msgs : List (List Payload)} {arr : List Nat} {r : Recv}
    (h : RInv (chunksOf msgs) arr r) (hne : ∀ m ∈ msgs, m ≠ []) :
    ∃ k, r.delivered = (msgs.map List.flatten).take k := by
  have hp := scan_take_prefix (chunksOf msgs) r.ackPrefix
  rw [← h.scn, scan_chunksOf_all msgs hne] at hp
  exact ⟨_, List.prefix_iff_eq_take.mp hp⟩

theorem RStable.complete {msgs : List (List Payload)} {arr : List Nat} {r : Recv}
    (h : RStable (chunksOf msgs) arr r) (hne : ∀ m ∈ msgs, m ≠ [])
    (hall : ∀ s, s < (chunksOf msgs).length → s ∈ arr) : r.delivered = msgs.map List.flatten ∧ r.cur = [] := by
  have he : r.ackPrefix = (chunksOf msgs).length :=
    Nat.le_antisymm h.le (h.le_prefix hall)
  have hs := h.scn
  rw [he, List.take_length, scan_chunksOf_all msgs hne] at hs
  exact ⟨(Prod.mk.inj hs).2, (Prod.mk.inj hs).1⟩

end TLVerif.Udp
