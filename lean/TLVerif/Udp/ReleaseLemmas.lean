import TLVerif.Udp.SysLemmas
/-! Release bookkeeping of the sender: a message buffer is handed to the deallocator exactly once,
exactly when no chunk of the message is left in the window. -/
namespace TLVerif.Udp

def cnt (w : List OChunk) (m : Nat) : Nat := w.countP (fun c => c.msg == m)

/-- `rel` is the header's claim in terms of the chunks left in the window; `refs` ties the model's `refCount` to them -/
structure RelInv (s : Send) : Prop where
  refs : ∀ m, refOf s.refs m = cnt s.window m
  rel : ∀ m, m ∈ s.released ↔ (m < s.nextMsg ∧ cnt s.window m = 0)
  nodup : s.released.Nodup
  bound : ∀ m, s.nextMsg ≤ m → cnt s.window m = 0

theorem relInv_init : RelInv {} where
  refs _ := rfl
  rel m := ⟨nofun, fun h => absurd h.1 (Nat.not_lt_zero m)⟩
  nodup := List.nodup_nil
  bound _ _ := rfl

theorem refOf_cons (refs : List (Nat × Nat)) (k v m : Nat) :
    refOf ((k, v) :: refs) m = if m = k then v else refOf refs m := by
  unfold refOf
  rw [List.lookup_cons]
  split
  · next h => rw [if_pos (eq_of_beq h)]; rfl
  · next h => rw [if_neg (ne_of_beq_false h)]

theorem cnt_cons (c : OChunk) (w : List OChunk) (m : Nat) :
    cnt (c :: w) m = cnt w m + if c.msg = m then 1 else 0 := by
  simp only [cnt, List.countP_cons, beq_iff_eq]

theorem cnt_append (a b : List OChunk) (m : Nat) : cnt (a ++ b) m = cnt a m + cnt b m :=
  List.countP_append

theorem cnt_replicate (n k m : Nat) : cnt (List.replicate n ⟨k, false⟩) m = if k = m then n else 0 := by
  simp only [cnt, List.countP_replicate, beq_iff_eq]

theorem push_relInv (s : Send) (n : Nat) (hn : 0 < n) (h : RelInv s) : RelInv (s.push n) := by
  have hc : ∀ m, cnt (s.push n).window m = cnt s.window m + if s.nextMsg = m then n else 0 := fun m => by
    rw [Send.push, cnt_append, cnt_replicate]
  refine ⟨fun m => ?_, fun m => ?_, h.nodup, fun m hm => ?_⟩
  · rw [hc, Send.push, refOf_cons]
    split
    · next e => rw [e, if_pos rfl, h.bound _ (Nat.le_refl _), Nat.zero_add]
    · next e => rw [if_neg (Ne.symm e), h.refs m]; rfl
  · show m ∈ s.released ↔ m < s.nextMsg + 1 ∧ _
    rw [hc, h.rel m]
    by_cases e : s.nextMsg = m
    · -- the new message has chunks in the window and was not released before
      rw [if_pos e, ← e]
      exact ⟨fun h1 => absurd h1.1 (Nat.lt_irrefl _),
        fun h1 => absurd (Nat.eq_zero_of_add_eq_zero_left h1.2) (Nat.ne_of_gt hn)⟩
    · rw [if_neg e]
      exact and_congr_left fun _ =>
        ⟨Nat.lt_succ_of_lt, fun h1 => Nat.lt_of_le_of_ne (Nat.le_of_lt_succ h1) (Ne.symm e)⟩
  · rw [hc, h.bound m (Nat.le_of_succ_le hm), if_neg (Nat.ne_of_lt hm)]

theorem dropOne_relInv {s : Send} {c : OChunk} {rest : List OChunk} (hw : s.window = c :: rest) (h : RelInv s) :
    RelInv (({ s with window := rest, ackPrefix := s.ackPrefix + 1 } : Send).unref c.msg) := by
  have hcnt : ∀ m, cnt s.window m = cnt rest m + if c.msg = m then 1 else 0 := fun m => by rw [hw, cnt_cons]
  have hother : ∀ m, m ≠ c.msg → cnt s.window m = cnt rest m := fun m hm => by
    rw [hcnt, if_neg (Ne.symm hm)]; rfl
  have hpos : cnt s.window c.msg ≠ 0 := by rw [hcnt, if_pos rfl]; exact Nat.succ_ne_zero _
  have hn : refOf s.refs c.msg - 1 = cnt rest c.msg := by rw [h.refs, hcnt, if_pos rfl]; rfl
  have hnotrel : c.msg ∉ s.released := fun hm => hpos ((h.rel c.msg).mp hm).2
  unfold Send.unref
  rw [hn]
  refine ⟨fun m => ?_, fun m => ?_, ?_, fun m hm => ?_⟩
  · show refOf ((c.msg, cnt rest c.msg) :: s.refs) m = cnt rest m
    rw [refOf_cons]
    split
    · next e => rw [e]
    · next e => rw [h.refs, hother m e]
  · show m ∈ (if cnt rest c.msg = 0 then s.released ++ [c.msg] else s.released) ↔ m < s.nextMsg ∧ cnt rest m = 0
    by_cases e : m = c.msg
    · -- the message of `c` is released now iff this was its last chunk
      subst e
      split
      · next hz =>
        exact ⟨fun _ => ⟨Nat.lt_of_not_le fun hle => hpos (h.bound _ hle), hz⟩,
          fun _ => List.mem_append_right _ List.mem_cons_self⟩
      · next hz => exact ⟨fun hm => absurd hm hnotrel, fun hm => absurd hm.2 hz⟩
    · rw [← hother m e, ← h.rel m]
      split
      · rw [List.mem_append, List.mem_singleton]; exact or_iff_left e
      · exact Iff.rfl
  · show (if cnt rest c.msg = 0 then s.released ++ [c.msg] else s.released).Nodup
    split
    · refine List.nodup_append.mpr ⟨h.nodup, List.pairwise_singleton _ _, fun a ha b hb => ?_⟩
      rw [List.mem_singleton.mp hb]
      exact fun e => hnotrel (e ▸ ha)
    · exact h.nodup
  · exact Nat.eq_zero_of_add_eq_zero_right ((hcnt m).symm.trans (h.bound m hm))

/-- the invariant sees the window only through the number of chunks of each message -/
theorem relInv_of_same_msgs (s : Send) (w : List OChunk) (h : RelInv s) (hc : ∀ m, cnt w m = cnt s.window m) :
    RelInv { s with window := w } where
  refs m := (h.refs m).trans (hc m).symm
  rel m := (h.rel m).trans (and_congr_right fun _ => by rw [hc])
  nodup := h.nodup
  bound m hm := (hc m).trans (h.bound m hm)

theorem markAcked_cnt (i : Nat) (w : List OChunk) (m : Nat) : cnt (markAcked i w) m = cnt w m := by
  fun_induction markAcked i w
  case case1 => rfl
  case case2 => rw [cnt_cons, cnt_cons]
  case case3 ih => rw [cnt_cons, cnt_cons, ih]

theorem Moves.relInv {P : Nat → Prop} {s s' : Send} (h : Moves P s s') (hi : RelInv s) : RelInv s' := by
  induction h with
  | refl s => exact hi
  | mark s i _ => exact relInv_of_same_msgs s _ hi (markAcked_cnt i s.window)
  | drop hw _ => exact dropOne_relInv hw hi
  | trans _ _ ih1 ih2 => exact ih2 (ih1 hi)

inductive SOp where
  | push (parts : Nat)
  | ackChunk (seq : Nat)
  | ackPrefix (p : Nat)

def Send.apply (s : Send) : SOp → Send
  | .push n => if n = 0 then s else s.push n
  | .ackChunk q => s.ackChunk q
  | .ackPrefix p => s.ackPrefixTo p

def sendRun (ops : List SOp) : Send := ops.foldl Send.apply {}

theorem apply_relInv (s : Send) (o : SOp) (h : RelInv s) : RelInv (s.apply o) := by
  fun_cases Send.apply s o
  case case1 => exact h
  case case2 n hn => exact push_relInv s n (Nat.pos_of_ne_zero hn) h
  case case3 q => exact (ackChunk_moves (P := (· = q)) s rfl).relInv h
  case case4 p => exact (ackPrefixTo_moves s p).relInv h

theorem sendRun_relInv (ops : List SOp) : RelInv (sendRun ops) :=
  List.foldlRecOn ops Send.apply relInv_init fun s h o _ => apply_relInv s o h

end TLVerif.Udp
