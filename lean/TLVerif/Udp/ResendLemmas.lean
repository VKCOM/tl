import TLVerif.Udp.Resend
/-! `GetChunksToSend` puts only consecutive sequence numbers into one datagram. -/
namespace TLVerif.Udp

def Contig (l : List Nat) : Prop := ∃ f, l = List.range' f l.length

/-- loop invariant: exactly the numbers `f … seq-1` were picked, none (`f = seq`) while `prevMsg` is unset -/
def Good (seq : Nat) (pk : Pick) : Prop :=
  ∃ f, f ≤ seq ∧ pk.seqs = List.range' f (seq - f) ∧ (¬pk.prevMsg.isSome = true → f = seq)

theorem good_init (seq : Nat) : Good seq {} :=
  ⟨seq, Nat.le_refl _, by rw [Nat.sub_self]; rfl, fun _ => rfl⟩

theorem good_contig {seq : Nat} {pk : Pick} (h : Good seq pk) : Contig pk.seqs :=
  let ⟨f, _, h, _⟩ := h
  ⟨f, by rw [h, List.length_range']⟩

theorem good_extend {seq : Nat} {pk : Pick} {m n : Nat} {single : Bool} (h : Good seq pk) :
    Good (seq + 1) { pk with seqs := pk.seqs ++ [seq], payloadSize := n, prevMsg := some m, single := single } := by
  obtain ⟨f, hf, h, _⟩ := h
  refine ⟨f, Nat.le_succ_of_le hf, ?_, fun hn => absurd rfl hn⟩
  show pk.seqs ++ [seq] = List.range' f (seq + 1 - f)
  rw [h, Nat.sub_add_comm hf, List.range'_concat, Nat.one_mul, Nat.add_sub_cancel' hf]

theorem good_skip {seq seq' : Nat} {pk : Pick} (h : Good seq pk) (hn : ¬pk.prevMsg.isSome = true) : Good seq' pk := by
  obtain ⟨f, _, h, hf⟩ := h
  refine ⟨seq', Nat.le_refl _, ?_, fun _ => rfl⟩
  rw [h, hf hn, Nat.sub_self, Nat.sub_self]; rfl

theorem resendInner_contig (cfg : SendCfg) (x : SendX) (fuel seq to inner : Nat) (pk : Pick)
    (h : Good seq pk) (hge : pk.prevMsg.isSome = true → x.base.ackPrefix ≤ seq) :
    Contig (resendInner cfg x fuel seq to inner pk).2.1.seqs := by
  fun_induction resendInner cfg x fuel seq to inner pk
  -- a chunk below the prefix (`case3`) or an acknowledged one (`case6`) is passed over only while
  -- nothing is picked
  case case3 hlt ih =>
    have hn := fun e => Nat.lt_irrefl _ (Nat.lt_of_lt_of_le hlt (hge e))
    exact ih (good_skip h hn) (fun e => absurd e hn)
  case case6 hn ih => exact ih (good_skip h hn) (fun e => absurd e hn)
  -- the chunk at `seq`, which is not below the prefix, is taken as first (`case8`) or further chunk
  case case8 ih | case10 ih => exact ih (good_extend h) (fun _ => by omega)
  -- every exit leaves the picked numbers as they are
  all_goals exact good_contig h

theorem resendOuter_contig (cfg : SendCfg) (fuel : Nat) (x : SendX) :
    Contig (resendOuter cfg fuel x).2.seqs := by
  fun_induction resendOuter cfg fuel x
  case case1 | case2 => exact good_contig (good_init 0)  -- no fuel, no range left
  case case3 ih | case5 ih => exact ih  -- a range below the prefix, or one that yields nothing: on to the next
  case case4 hinner _ =>  -- the range yields a pick
    exact (congrArg (fun r => Contig r.2.1.seqs) hinner).mp
      (resendInner_contig _ _ _ _ _ _ _ (good_init _) (by intro e; cases e))

/-- the second loop: the picked numbers end right below `chunkToSendSeqNum` -/
theorem freshLoop_contig (cfg : SendCfg) (fuel : Nat) (x : SendX) (pk : Pick) (h : Good x.chunkToSend pk) :
    Contig (freshLoop cfg fuel x pk).2.seqs := by
  fun_induction freshLoop cfg fuel x pk
  -- a chunk is taken: the loop stops (`case6`) or goes on
  case case6 => exact good_contig (good_extend h)
  case case7 ih => exact ih (good_extend h)
  all_goals exact good_contig h

end TLVerif.Udp
