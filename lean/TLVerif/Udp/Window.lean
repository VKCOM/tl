/-!
# C36 — model of the sliding-window bookkeeping (core only, executable)

The message-level logic of pkg/rpc/udp/outgoing.go and incoming.go, written the way the Go code is
written but without timers, memory and datagram packing:

* `chunksOf`  — how `sliceNextMessage` labels the chunks of the message stream (`prevParts`, `nextParts`);
  the slicing itself (chunk sizes) is a parameter: a message is given as its list of parts.
* `Recv`      — `IncomingConnection` with `StreamLikeIncoming`: `receiveMessageChunk` (duplicate below the
  prefix, duplicate in the window, store) and `moveWindowPrefix` (advance over received chunks,
  hand a message over when its last chunk passes the prefix).
* `Send`      — `OutgoingConnection` acknowledgement bookkeeping: `checkAck`, `AckChunk`, `AckPrefix`,
  `ackFrontChunk`, `unrefMessage` (a message buffer is released when all its chunks are acknowledged).
* `Sys`       — sender, receiver and a network that may lose, duplicate and reorder datagrams, with
  acknowledgements built from what the receiver has actually received.

Theorems are in `WindowLemmas.lean` (receiver), `SysLemmas.lean`, `ReleaseLemmas.lean` (sender, system) /
`Props/C36Window.lean`; the executable definitions are tied to the
Go code differentially (`udp.rcv`, `udp.snd` case lines).
-/
namespace TLVerif.Udp

abbrev Payload := List Nat

structure Chunk where
  msg : Nat
  prev : Nat
  next : Nat
  payload : Payload
  deriving DecidableEq, Repr

/-- chunks of message number `i` whose parts are `ps`, starting at part index `j` of `total` -/
def chunksOfMsgAux (i total : Nat) : Nat → List Payload → List Chunk
  | _, [] => []
  | j, p :: ps => ⟨i, j, total - 1 - j, p⟩ :: chunksOfMsgAux i total (j + 1) ps

def chunksOfMsg (i : Nat) (parts : List Payload) : List Chunk := chunksOfMsgAux i parts.length 0 parts

def chunksFrom (i : Nat) : List (List Payload) → List Chunk
  | [] => []
  | m :: ms => chunksOfMsg i m ++ chunksFrom (i + 1) ms

/-- the chunk stream of a message stream; sequence number = index -/
def chunksOf (msgs : List (List Payload)) : List Chunk := chunksFrom 0 msgs

/-! ## What an in-order reader of the chunk stream hands over (the specification of delivery) -/

def scanStep (st : List Payload × List Payload) (c : Chunk) : List Payload × List Payload :=
  if c.next = 0 then ([], st.2 ++ [(st.1 ++ [c.payload]).flatten]) else (st.1 ++ [c.payload], st.2)

/-- (parts of the unfinished message, messages handed over) after reading `cs` in order -/
def scan (cs : List Chunk) : List Payload × List Payload := cs.foldl scanStep ([], [])

/-! ## Receiver -/

structure Recv where
  ackPrefix : Nat := 0
  /-- received chunks at or above the prefix (`windowChunks` entries with `received()`) -/
  window : List (Nat × Chunk) := []
  /-- parts of the message straddling the prefix that are already below it -/
  cur : List Payload := []
  delivered : List Payload := []
  deriving Repr

def moveWindowPrefix : Nat → Recv → Recv
  | 0, r => r
  | fuel + 1, r =>
    match r.window.lookup r.ackPrefix with
    | none => r
    | some c =>
      let w := r.window.filter (fun e => e.1 != r.ackPrefix)
      if c.next = 0 then
        moveWindowPrefix fuel { ackPrefix := r.ackPrefix + 1, window := w, cur := [],
                                delivered := r.delivered ++ [(r.cur ++ [c.payload]).flatten] }
      else
        moveWindowPrefix fuel { ackPrefix := r.ackPrefix + 1, window := w, cur := r.cur ++ [c.payload],
                                delivered := r.delivered }

/-- `receiveMessageChunk` for a reliable chunk -/
def recvChunk (r : Recv) (seq : Nat) (c : Chunk) : Recv :=
  if seq < r.ackPrefix then r
  else if (r.window.lookup seq).isSome then r
  else
    let w := (seq, c) :: r.window
    moveWindowPrefix w.length { r with window := w }

/-- the arrival of sequence number `s` of the chunk stream `chunks` (nothing if there is no such chunk) -/
def arrive (chunks : List Chunk) (r : Recv) (s : Nat) : Recv :=
  match chunks[s]? with
  | some c => recvChunk r s c
  | none => r

def recvRun (chunks : List Chunk) (arrivals : List Nat) : Recv := arrivals.foldl (arrive chunks) {}

/-! ## Sender: acknowledgement bookkeeping -/

structure OChunk where
  msg : Nat
  acked : Bool
  deriving DecidableEq, Repr

structure Send where
  /-- `ackSeqNoPrefix`: sequence number of `window[0]` -/
  ackPrefix : Nat := 0
  window : List OChunk := []
  /-- remaining references per message (`OutgoingMessage.refCount`) -/
  refs : List (Nat × Nat) := []
  /-- messages handed to the deallocator, in order -/
  released : List Nat := []
  nextMsg : Nat := 0
  deriving Repr

def Send.nextSeq (s : Send) : Nat := s.ackPrefix + s.window.length

def refOf (refs : List (Nat × Nat)) (m : Nat) : Nat := (refs.lookup m).getD 0

/-- `sliceNextMessage`: a new message of `parts` chunks enters the window -/
def Send.push (s : Send) (parts : Nat) : Send :=
  { s with window := s.window ++ List.replicate parts ⟨s.nextMsg, false⟩,
           refs := (s.nextMsg, parts) :: s.refs, nextMsg := s.nextMsg + 1 }

/-- `unrefMessage` -/
def Send.unref (s : Send) (m : Nat) : Send :=
  let n := refOf s.refs m - 1
  { s with refs := (m, n) :: s.refs, released := if n = 0 then s.released ++ [m] else s.released }

/-- the loop of `ackFrontChunk` after the front chunk has been marked: drop the front and every
directly following acknowledged chunk -/
def Send.dropFront : Nat → Send → Send
  | 0, s => s
  | fuel + 1, s =>
    match s.window with
    | [] => s
    | c :: rest =>
      let s' := ({ s with window := rest, ackPrefix := s.ackPrefix + 1 } : Send).unref c.msg
      match rest with
      | [] => s'
      | d :: _ => if d.acked then Send.dropFront fuel s' else s'

/-- `ackFrontChunk` -/
def Send.ackFront (s : Send) : Send :=
  match s.window with
  | [] => s
  | c :: rest => Send.dropFront (rest.length + 1) { s with window := { c with acked := true } :: rest }

/-- `checkAck` (without the 32-bit wrap-around: a number below the prefix or at/after `nextSeq` is ignored) -/
def Send.inWindow (s : Send) (seq : Nat) : Bool := s.ackPrefix ≤ seq && seq < s.nextSeq

def markAcked : Nat → List OChunk → List OChunk
  | _, [] => []
  | 0, c :: cs => { c with acked := true } :: cs
  | i + 1, c :: cs => c :: markAcked i cs

/-- `AckChunk` -/
def Send.ackChunk (s : Send) (seq : Nat) : Send :=
  if !s.inWindow seq then s
  else if seq = s.ackPrefix then s.ackFront
  else { s with window := markAcked (seq - s.ackPrefix) s.window }

/-- the loop of `AckPrefix`: acknowledge front chunks until the prefix reaches `target` -/
def Send.ackUpTo (target : Nat) : Nat → Send → Send
  | 0, s => s
  | fuel + 1, s => if s.ackPrefix < target then Send.ackUpTo target fuel s.ackFront else s

/-- `AckPrefix(prefixSeqNum)`: everything below `p` is acknowledged -/
def Send.ackPrefixTo (s : Send) (p : Nat) : Send :=
  if p = 0 then s
  else if !s.inWindow (p - 1) then s
  else Send.ackUpTo p (s.window.length) s

/-! ## Sender + network + receiver -/

inductive Dgram where
  /-- a data datagram carrying chunk `seq` -/
  | data (seq : Nat)
  /-- an acknowledgement: prefix (everything below is received) and a set of further received numbers -/
  | ack (pfx : Nat) (set : List Nat)
  deriving DecidableEq, Repr

structure Sys where
  snd : Send := {}
  rcv : Recv := {}
  net : List Dgram := []
  /-- ghost: parts of all messages sliced so far -/
  msgs : List (List Payload) := []
  /-- ghost: every sequence number the receiver has accepted so far -/
  arrived : List Nat := []
  deriving Repr

inductive Act where
  /-- a new message (given by its parts; at least one part) is submitted and sliced -/
  | submit (parts : List Payload)
  /-- the sender (re)sends chunk `seq` of its window: any not yet acknowledged chunk, at any time -/
  | send (seq : Nat)
  /-- the network loses / duplicates datagram number `i` -/
  | lose (i : Nat)
  | dup (i : Nat)
  /-- datagram number `i` is delivered to its destination -/
  | deliver (i : Nat)
  /-- the receiver sends an acknowledgement: a prefix not beyond its own (`min p ackPrefix`, stale
  prefixes allowed) and any selection `pick` of received numbers -/
  | sendAck (p : Nat) (pick : List Nat)
  deriving Repr

def sendable (s : Send) (seq : Nat) : Bool :=
  s.inWindow seq && !((s.window[seq - s.ackPrefix]?).map (·.acked)).getD true

def Sys.step (σ : Sys) : Act → Sys
  | .submit parts =>
    if parts.isEmpty then σ
    else { σ with snd := σ.snd.push parts.length, msgs := σ.msgs ++ [parts] }
  | .send seq => if sendable σ.snd seq then { σ with net := σ.net ++ [.data seq] } else σ
  | .lose i => { σ with net := σ.net.eraseIdx i }
  | .dup i =>
    match σ.net[i]? with
    | some d => { σ with net := σ.net ++ [d] }
    | none => σ
  | .deliver i =>
    match σ.net[i]? with
    | none => σ
    | some (.data seq) =>
      let chunks := chunksOf σ.msgs
      { σ with net := σ.net.eraseIdx i, rcv := arrive chunks σ.rcv seq,
               arrived := if seq < chunks.length then seq :: σ.arrived else σ.arrived }
    | some (.ack p set) =>
      let s1 := σ.snd.ackPrefixTo p
      { σ with net := σ.net.eraseIdx i, snd := set.foldl Send.ackChunk s1 }
  | .sendAck p pick =>
    { σ with net := σ.net ++ [.ack (min p σ.rcv.ackPrefix) (pick.filter (fun s => σ.arrived.contains s))] }

def Sys.run (acts : List Act) : Sys := acts.foldl Sys.step {}

end TLVerif.Udp
