import TLVerif.Udp.Monitor
/-! Invariant of the C36 trace monitor and the lemmas behind `accepted_trace_sound`. -/
namespace TLVerif.Udp

theorem getD0_cons {κ : Type} [BEq κ] [LawfulBEq κ] [DecidableEq κ] (l : List (κ × Nat)) (k k' : κ) (v : Nat) :
    getD0 ((k, v) :: l) k' = if k' = k then v else getD0 l k' := by
  unfold getD0
  rw [List.lookup_cons]
  split
  · next h => rw [if_pos (eq_of_beq h)]; rfl
  · next h => rw [if_neg (ne_of_beq_false h)]

theorem getD0_nil {κ : Type} [BEq κ] (k : κ) : getD0 ([] : List (κ × Nat)) k = 0 := rfl

theorem getD0_cons_add (m : List (Nat × Nat)) (t n t' : Nat) :
    getD0 ((t, getD0 m t + n) :: m) t' = getD0 m t' + if t = t' then n else 0 := by
  rw [getD0_cons]
  by_cases ht : t' = t
  · subst ht; rw [if_pos rfl, if_pos rfl]
  · rw [if_neg ht, if_neg (Ne.symm ht)]; rfl

theorem getD0_cons_sub (m : List (Nat × Nat)) (t n t' : Nat) (h : n ≤ getD0 m t) :
    getD0 ((t, getD0 m t - n) :: m) t' + (if t = t' then n else 0) = getD0 m t' := by
  rw [getD0_cons]
  by_cases ht : t' = t
  · subst ht; rw [if_pos rfl, if_pos rfl]; exact Nat.sub_add_cancel h
  · rw [if_neg ht, if_neg (Ne.symm ht)]; rfl

theorem getD0_cons_le {m : List (Nat × Nat)} {t v lim : Nat} (hv : v ≤ lim) (h : ∀ t', getD0 m t' ≤ lim) (t' : Nat) :
    getD0 ((t, v) :: m) t' ≤ lim := by
  rw [getD0_cons]
  split
  · exact hv
  · exact h t'

theorem all_zero_getD0 (l : List (Nat × Nat)) (h : l.all (fun p => getD0 l p.1 == 0) = true) (t : Nat) :
    getD0 l t = 0 := by
  cases hl : l.lookup t with
  | none => rw [getD0, hl]; rfl
  | some v =>
    obtain ⟨l₁, l₂, e, _⟩ := List.lookup_eq_some_iff.mp hl
    exact eq_of_beq (List.all_eq_true.mp h (t, v) (e ▸ List.mem_append_right _ List.mem_cons_self))

theorem count_cons_add {α : Type} [BEq α] [LawfulBEq α] [DecidableEq α] (x y : α) (l : List α) :
    (x :: l).count y = l.count y + if x = y then 1 else 0 := by
  rw [List.count_cons]; simp only [beq_iff_eq]

theorem count_erase_add {α : Type} [BEq α] [LawfulBEq α] [DecidableEq α] {x : α} {l : List α} (hx : x ∈ l) (y : α) :
    (l.erase x).count y + (if x = y then 1 else 0) = l.count y := by
  by_cases h : x = y
  · subst h; rw [List.count_erase_self, if_pos rfl]; exact Nat.sub_add_cancel (List.count_pos_iff.mpr hx)
  · rw [List.count_erase_of_ne (Ne.symm h), if_neg h]; rfl

theorem count_singleton_ite {α : Type} [BEq α] [LawfulBEq α] [DecidableEq α] (x y : α) : [x].count y = if x = y then 1 else 0 := by
  rw [List.count_singleton]; simp only [beq_iff_eq]

theorem spec_append (p q : List Event) :
    submits (p ++ q) = submits p ++ submits q ∧ delivers (p ++ q) = delivers p ++ delivers q ∧
    (∀ k, acksOf k (p ++ q) = acksOf k p ++ acksOf k q) ∧
    (∀ t, memAcq t (p ++ q) = memAcq t p + memAcq t q) ∧ (∀ t, memRel t (p ++ q) = memRel t p + memRel t q) ∧
    (∀ i, allocs i (p ++ q) = allocs i p + allocs i q) ∧ (∀ i, frees i (p ++ q) = frees i p + frees i q) := by
  induction p with
  | nil => exact ⟨rfl, rfl, fun _ => rfl, fun _ => (Nat.zero_add _).symm, fun _ => (Nat.zero_add _).symm,
      fun _ => (Nat.zero_add _).symm, fun _ => (Nat.zero_add _).symm⟩
  | cons e es ih =>
    obtain ⟨h1, h2, h3, h4, h5, h6, h7⟩ := ih
    cases e <;>
      simp only [List.cons_append, submits, delivers, acksOf, memAcq, memRel, allocs, frees, h1, h2, h3, h4, h5, h6, h7,
        Nat.add_assoc, implies_true, and_self, and_true, true_and]
    exact fun k => by split <;> rfl  -- left: `ackPrefix k' v`, where `acksOf k` branches on `k' = k`

theorem runFrom_append (cfg : Cfg) (s : St) (p q : List Event) :
    runFrom cfg s (p ++ q) = (match runFrom cfg s p with
      | .ok s' => runFrom cfg s' q
      | .error r => .error r) := by
  induction p generalizing s with
  | nil => rfl
  | cons e es ih =>
    simp only [List.cons_append, runFrom]
    cases step cfg s e with
    | ok s' => exact ih s'
    | error r => rfl

theorem runFrom_singleton (cfg : Cfg) (s : St) (e : Event) : runFrom cfg s [e] = step cfg s e := by
  rw [runFrom]
  cases step cfg s e <;> rfl

theorem runIdx_ok_iff (cfg : Cfg) (s : St) (i : Nat) (tr : List Event) (st : St) :
    runIdx cfg s i tr = .ok st ↔ runFrom cfg s tr = .ok st := by
  induction tr generalizing s i with
  | nil => simp [runIdx, runFrom]
  | cons e es ih =>
    simp only [runIdx, runFrom]
    cases step cfg s e with
    | ok s' => exact ih s' (i + 1)
    | error r => simp

theorem of_ite_error_eq_ok {ε α : Type} {c : Prop} [Decidable c] {r : ε} {x : Except ε α} {y : α}
    (h : (if c then .error r else x) = .ok y) : ¬c ∧ x = .ok y := by
  by_cases hc : c
  · rw [if_pos hc] at h; cases h
  · rw [if_neg hc] at h; exact ⟨hc, h⟩

theorem exists_error_of_ne_ok {ε α : Type} {x : Except ε α} (h : ∀ a, x ≠ .ok a) : ∃ r, x = .error r := by
  cases x with
  | error r => exact ⟨r, rfl⟩
  | ok a => exact absurd rfl (h a)

theorem step_settled {cfg : Cfg} {s s' : St} {e : Event} (h : step cfg s e = .ok s') : s.settled = false := by
  unfold step at h
  exact Bool.eq_false_iff.mpr (of_ite_error_eq_ok h).1

/-- the shape of two of the guards of `settle`: under the switch `c` the list must be empty -/
theorem eq_nil_of_not_guard {α : Type} {c : Bool} {l : List α} (h : ¬(c && !l.isEmpty) = true) (hc : c = true) :
    l = [] := by
  cases l with
  | nil => rfl
  | cons a b => rw [hc] at h; exact absurd rfl h

theorem settle_checks {cfg : Cfg} {s st : St} (h : step cfg s .settle = .ok st) :
    (cfg.delivery = true → s.pending = []) ∧ (∀ t, getD0 s.mem t = 0) ∧
    (cfg.live = true → ∀ i, s.live.count (0, i) = 0) := by
  unfold step at h
  obtain ⟨_, h⟩ := of_ite_error_eq_ok h
  obtain ⟨h1, h⟩ := of_ite_error_eq_ok h
  obtain ⟨h2, h⟩ := of_ite_error_eq_ok h
  obtain ⟨h3, _⟩ := of_ite_error_eq_ok h
  have hb : ∀ b : Bool, ¬(!b) = true → b = true := by decide
  exact ⟨eq_nil_of_not_guard h1, all_zero_getD0 s.mem (hb _ h2), fun hl i => List.count_eq_zero.mpr fun hm =>
    List.not_mem_nil (eq_nil_of_not_guard h3 hl ▸ List.mem_filter.mpr ⟨hm, rfl⟩)⟩

/-- `b` is the prefix the monitor has stored: it bounds `l`, so comparing a new value with `b` alone keeps `l` sorted (`snoc`) -/
def AcksOk (l : List Nat) (b : Nat) : Prop := l.Pairwise (· ≤ ·) ∧ ∀ v ∈ l, v ≤ b

theorem AcksOk.snoc {l : List Nat} {b v : Nat} (h : AcksOk l b) (hle : b ≤ v) : AcksOk (l ++ [v]) v := by
  have hv : ∀ w ∈ l, w ≤ v := fun w hw => Nat.le_trans (h.2 w hw) hle
  refine ⟨List.pairwise_append.mpr ⟨h.1, List.pairwise_singleton _ _, fun a ha b hb => ?_⟩, fun w hw => ?_⟩
  · rw [List.mem_singleton.mp hb]; exact hv a ha
  · rcases List.mem_append.mp hw with hw | hw
    · exact hv w hw
    · rw [List.mem_singleton.mp hw]; exact Nat.le_refl _

structure Inv (cfg : Cfg) (p : List Event) (s : St) : Prop where
  pend : cfg.delivery = true → ∀ x, s.pending.count x + (delivers p).count x = (submits p).count x
  acks : cfg.acks = true → ∀ k, AcksOk (acksOf k p) (getD0 s.prefs k)
  mem : ∀ t, getD0 s.mem t + memRel t p = memAcq t p
  memLim : ∀ t, getD0 s.mem t ≤ cfg.limit
  live : ∀ i, s.live.count i + frees i p = allocs i p
  liveOne : ∀ i, s.live.count i ≤ 1
  nosettle : s.settled = false → Event.settle ∉ p

theorem inv_init (cfg : Cfg) : Inv cfg [] {} where
  pend _ _ := rfl
  acks _ _ := ⟨List.Pairwise.nil, nofun⟩
  mem _ := rfl
  memLim _ := Nat.zero_le _
  live _ := rfl
  liveOne _ := Nat.zero_le _
  nosettle _ := List.not_mem_nil

theorem balance_snoc {a a' o o' i i' : Nat} (h : a + o = i) (he : a' + o' = a + i') :
    a' + (o + o') = i + i' := by
  rw [← h, Nat.add_left_comm, he, Nat.add_left_comm, Nat.add_assoc]

theorem balance_zero {a o i : Nat} (h : a + o = i) (hz : a = 0) : i = o := by
  rw [← h, hz, Nat.zero_add]

/-- The invariant after one more event `e`, from what `e` does to each component. Each component that
mentions the trace ties one field of the state to one or two specification functions and only asks for
their values on `[e]`, which evaluate to `[]` or `0` unless `e` is of the kind the function collects.
So for an event that leaves a field alone the hypothesis about that field holds by evaluation, which
is its default: a caller names the components that move. -/
theorem inv_snoc {cfg : Cfg} {p : List Event} {s : St} (hinv : Inv cfg p s) (hns : s.settled = false)
    (e : Event) (s' : St)
    (hp : cfg.delivery = true →
      ∀ x, s'.pending.count x + (delivers [e]).count x = s.pending.count x + (submits [e]).count x := by
        exact fun _ _ => rfl)
    (ha : cfg.acks = true → ∀ k l, AcksOk l (getD0 s.prefs k) → AcksOk (l ++ acksOf k [e]) (getD0 s'.prefs k) := by
        exact fun _ _ l h => show AcksOk (l ++ []) _ from (List.append_nil l).symm ▸ h)
    (hm : ∀ t, getD0 s'.mem t + memRel t [e] = getD0 s.mem t + memAcq t [e] := by exact fun _ => rfl)
    (hml : (∀ t, getD0 s.mem t ≤ cfg.limit) → ∀ t, getD0 s'.mem t ≤ cfg.limit := by exact id)
    (hl : ∀ i, s'.live.count i + frees i [e] = s.live.count i + allocs i [e] := by exact fun _ => rfl)
    (hl1 : (∀ i, s.live.count i ≤ 1) → ∀ i, s'.live.count i ≤ 1 := by exact id)
    (hs : s'.settled = false → e ≠ .settle := by exact fun _ => nofun) : Inv cfg (p ++ [e]) s' := by
  obtain ⟨asub, adel, aacks, aacq, arel, aall, afree⟩ := spec_append p [e]
  exact {
    pend := fun hd x => by
      rw [adel, asub, List.count_append, List.count_append]
      exact balance_snoc (hinv.pend hd x) (hp hd x)
    acks := fun hc k => aacks k ▸ ha hc k _ (hinv.acks hc k)
    mem := fun t => by
      rw [arel, aacq]
      exact balance_snoc (hinv.mem t) (hm t)
    memLim := hml hinv.memLim
    live := fun i => by
      rw [afree, aall]
      exact balance_snoc (hinv.live i) (hl i)
    liveOne := hl1 hinv.liveOne
    nosettle := fun h' hm => by
      rcases List.mem_append.mp hm with hm | hm
      · exact hinv.nosettle hns hm
      · exact hs h' (List.mem_singleton.mp hm).symm }

theorem inv_step {cfg : Cfg} {p : List Event} {s s' : St} {e : Event} (hinv : Inv cfg p s)
    (h : step cfg s e = .ok s') : Inv cfg (p ++ [e]) s' := by
  have hns := step_settled h
  revert s'
  fun_cases step cfg s e
  case case2 x =>  -- submit
    rintro _ ⟨⟩
    exact inv_snoc hinv hns _ _ (hp := fun _ y => by
      show (x :: s.pending).count y + 0 = s.pending.count y + [x].count y
      rw [count_singleton_ite]; exact count_cons_add x y s.pending)
  case case3 x _ hc =>  -- deliver, checked
    rintro _ ⟨⟩
    exact inv_snoc hinv hns _ _ (hp := fun _ y => by
      show (s.pending.erase x).count y + [x].count y = s.pending.count y + 0
      rw [count_singleton_ite]; exact count_erase_add (List.contains_iff_mem.mp hc) y)
  case case5 hd =>  -- deliver, not checked
    rintro _ ⟨⟩
    exact inv_snoc hinv hns _ _ (hp := fun hd' => absurd hd' hd)
  case case6 k v _ hle =>  -- ackPrefix, checked
    rintro _ ⟨⟩
    refine inv_snoc hinv hns _ _ (ha := fun _ k' l hacks => ?_)
    show AcksOk (l ++ if k = k' then [v] else []) (getD0 ((k, v) :: s.prefs) k')
    rw [getD0_cons]
    by_cases hk : k' = k
    · subst hk
      rw [if_pos rfl, if_pos rfl]
      exact hacks.snoc hle
    · rw [if_neg (Ne.symm hk), if_neg hk, List.append_nil]
      exact hacks
  case case8 ha =>  -- ackPrefix, not checked
    rintro _ ⟨⟩
    exact inv_snoc hinv hns _ _ (ha := fun ha' => absurd ha' ha)
  case case9 t n _ hle =>  -- acquire
    rintro _ ⟨⟩
    exact inv_snoc hinv hns _ _ (hm := getD0_cons_add s.mem t n) (hml := getD0_cons_le hle)
  case case11 t n _ hle =>  -- release
    rintro _ ⟨⟩
    exact inv_snoc hinv hns _ _ (hm := fun t' => getD0_cons_sub s.mem t n t' hle)
      (hml := fun hlim => getD0_cons_le (Nat.le_trans (Nat.sub_le _ _) (hlim t)) hlim)
  case case14 b hc =>  -- alloc
    rintro _ ⟨⟩
    refine inv_snoc hinv hns _ _ (hl := fun i => count_cons_add b i s.live) (hl1 := fun hone i => ?_)
    show (b :: s.live).count i ≤ 1
    rw [count_cons_add]
    split
    · next hi =>
      subst hi
      rw [List.count_eq_zero.mpr fun hm => hc (List.contains_iff_mem.mpr hm)]
      exact Nat.le_refl 1
    · exact hone i
  case case15 b hc =>  -- free
    rintro _ ⟨⟩
    exact inv_snoc hinv hns _ _ (hl := count_erase_add (List.contains_iff_mem.mp hc))
      (hl1 := fun hone i => Nat.le_trans (List.erase_sublist.count_le i) (hone i))
  case case20 =>  -- settle
    rintro _ ⟨⟩
    exact inv_snoc hinv hns _ _ (hs := nofun)
  all_goals nofun

theorem runFrom_prefix_inv {cfg : Cfg} {p0 : List Event} (p q : List Event) {s st : St} (hinv : Inv cfg p0 s)
    (h : runFrom cfg s (p ++ q) = .ok st) :
    ∃ s', runFrom cfg s p = .ok s' ∧ runFrom cfg s' q = .ok st ∧ Inv cfg (p0 ++ p) s' := by
  induction p generalizing p0 s with
  | nil => exact ⟨s, rfl, h, by rwa [List.append_nil]⟩
  | cons e es ih =>
    rw [List.cons_append, runFrom] at h
    rw [runFrom]
    cases hs : step cfg s e with
    | error r => rw [hs] at h; cases h
    | ok s1 =>
      rw [hs] at h
      obtain ⟨s', h1, h2, h3⟩ := ih (inv_step hinv hs) h
      exact ⟨s', h1, h2, by rwa [List.append_assoc] at h3⟩

end TLVerif.Udp
